import SockModel.Basic
import SockModel.Drive.Common
import SockModel.Drive.C10
import SockModel.Props.C10
import SockModel.Drive.C06
import SockModel.Props.C06
import SockModel.Basic.Decimal
import SockModel.Drive.C13
import SockModel.Props.C13
import SockModel.Drive.C11
import SockModel.Props.C11
import SockModel.Drive.C12
import SockModel.Props.C12
import SockModel.Generated.Consts
import SockModel.Generated.Funcs
import SockModel.Basic.GenEffects
import SockModel.Basic.ListLemmas
import SockModel.Generated.Loops
import SockModel.Model.GenTodoWorld
import SockModel.Model.GenQueueWorld
import SockModel.Basic.TieTactic
import SockModel.Drive.C01
import SockModel.Props.C01
import SockModel.Props.C07
import SockModel.Props.C16
import SockModel.Spec.C04
import SockModel.Drive.C04
import SockModel.Props.C04
import SockModel.Props.C05
import SockModel.Props.C08
import SockModel.Drive.C02
import SockModel.Props.C02
import SockModel.Drive.C09
import SockModel.Props.C09
import SockModel.Drive.C03
import SockModel.Props.C03
import SockModel.Drive.C14
import SockModel.Props.C14
import SockModel.Drive.C17
import SockModel.Props.C17
import SockModel.Model.Net
import SockModel.Model.Tls
import SockModel.Drive.C18
import SockModel.Model.TlsLog
import SockModel.Model.TlsLogLemmas
import SockModel.Model.TlsBudget
import SockModel.Model.TlsShutdown
import SockModel.Model.TlsRounds
import SockModel.Props.C18
import SockModel.Model.PeerFail
import SockModel.Model.PeerFailLemmas
import SockModel.Spec.C15
import SockModel.Drive.C15
import SockModel.Props.C15
import SockModel.Model.HsEngine
import SockModel.Model.HsLemmas
import SockModel.Model.TlsSim
import SockModel.Model.HsSched
import SockModel.Model.HsTimed
import SockModel.Model.HsBlock
import SockModel.Model.FairProgress
import SockModel.Model.HsAsync
import SockModel.Model.HsAsyncQ
import SockModel.Props.C18Hs
import SockModel.Generated.Tls
import SockModel.Model.GenTlsWorld
import SockModel.Props.C18Tie
