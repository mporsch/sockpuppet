import SockModel.Model.TlsLog
import SockModel.Model.TlsLemmas
/-!
The timeout budget of the TLS glue ("C07 for the TLS glue", Props/C18.lean).

`HFrame W E P Wk`: a Hoare-style frame for invariants that talk about the **time budget**
(`remainingTime`), the world (clock, wait log) and the stashed callback failure (`pendingError`).
`P` is the invariant at every point where the glue is in control and no BIO callback has failed;
`Wk` is what is left of it after a callback failed (the budget is then stale: `UnderDeadline` /
`BioWrite` do not write it back when the socket call throws).  Proved once for every composite
function of the model (`HFrame.tlsRead`, `HFrame.tlsWrite`, `HFrame.receiveT`, `HFrame.sendT`),
instantiated four times: zero budget, unlimited budget, non-negative budget (all three for EVERY
engine), limited budget (for engines that stop after a failed callback, `FailStop`).
-/
namespace SockModel.Tls
open SockModel.Net

variable {σ ω : Type}

/-! ### the frame -/

/-- how one engine call may end: the invariant holds, or a callback failed (the failure is stashed), the
engine answered something other than success, and the weak invariant holds -/
def EngStep (P Wk : St σ ω → Prop) (r : Out (SslAns × Bytes) × St σ ω) : Prop :=
  P r.2 ∨ (Wk r.2 ∧ r.2.g.pendingError ≠ none ∧ ∃ a o, r.1 = .ok (a, o) ∧ a.isDone = false)

/-- how a call may end: the invariant holds, or it ends with an exception and the weak invariant holds
(no failure is left stashed) -/
def Post {α : Type} (P Wk : St σ ω → Prop) (o : Out α) (s : St σ ω) : Prop :=
  P s ∨ (Wk s ∧ s.g.pendingError = none ∧ ∃ e, o = .exn e)

structure HFrame (W : World ω) (E : Engine σ) (P Wk : St σ ω → Prop) : Prop where
  /-- `P` looks at the world, the budget and `pendingError` only; clearing `pendingError` keeps it -/
  core : ∀ {s s'}, P s → s'.w = s.w → s'.g.remainingTime = s.g.remainingTime →
    (s'.g.pendingError = s.g.pendingError ∨ s'.g.pendingError = none) → P s'
  /-- `Wk` ignores `pendingError`: it has to survive `HandleResult` taking the stashed failure out.  (`Frame.core` of
  Model/TlsLemmas.lean fixes the ghost wire fields and frees the budget, this one the other way round.) -/
  coreW : ∀ {s s'}, Wk s → s'.w = s.w → s'.g.remainingTime = s.g.remainingTime → Wk s'
  wait : ∀ s d, P s → P (waitUnder W s d).2
  engRead : ∀ s n, P s → EngStep P Wk (interp W s (E.sslRead s.e n))
  engWrite : ∀ s d, P s → EngStep P Wk (interp W s (E.sslWrite s.e d))

namespace HFrame
variable {W : World ω} {E : Engine σ} {P Wk : St σ ω → Prop}

theorem handleError (F : HFrame W E P Wk) (s : St σ ω) (err : SslErr) (h : P s) : P (handleError W s err).2 := by
  cases err <;> simp only [Tls.handleError] <;> first | exact h | exact F.wait _ _ h

theorem handleLastError (F : HFrame W E P Wk) (s : St σ ω) (h : P s) : P (handleLastError W s).2 := by
  have h1 := F.handleError s s.g.lastError h
  unfold Tls.handleLastError
  split
  · rename_i s' heq
    rw [heq] at h1
    exact F.core h1 rfl rfl (Or.inl rfl)
  · exact h1

theorem handleResult (F : HFrame W E P Wk) (s : St σ ω) (ans : SslAns) (h : P s) : P (handleResult W s ans).2 := by
  unfold Tls.handleResult
  split
  · exact F.core h rfl rfl (Or.inr rfl)
  · exact F.handleLastError _ (F.core h rfl rfl (Or.inl rfl))

/-- with a failure stashed `HandleResult` rethrows it at once: no wait, the weak invariant survives -/
theorem handleResult_failed (F : HFrame W E P Wk) (s : St σ ω) (ans : SslAns) (h : Wk s)
    (hpe : s.g.pendingError ≠ none) :
    ∃ e s', Tls.handleResult W s ans = (.exn e, s') ∧ Wk s' ∧ s'.g.pendingError = none := by
  unfold Tls.handleResult
  split
  · rename_i e heq
    exact ⟨e, _, rfl, F.coreW h rfl rfl, rfl⟩
  · rename_i heq; exact absurd heq hpe

/-- after a round of `Read`: the loop goes on (`none`) only with `P`; a round that ends the loop ends it as a call may (`Post`) -/
def RoundPost (P Wk : St σ ω → Prop) (r : Option (Out Bytes) × St σ ω) : Prop :=
  match r.1 with
  | none => P r.2
  | some o => Post P Wk o r.2

theorem RoundPost.of_inv {r : Option (Out Bytes) × St σ ω} (h : P r.2) : RoundPost P Wk r := by
  unfold RoundPost
  split
  · exact h
  · exact Or.inl h

theorem readRetry (F : HFrame W E P Wk) (C : Cfg) (i : Nat) (s : St σ ω) (ans : SslAns) (h : P s) :
    RoundPost P Wk (readRetry C W i s ans) :=
  .of_inv (by rw [readRetry_snd]; exact F.handleResult s ans h)

theorem readRound (F : HFrame W E P Wk) (C : Cfg) (size i : Nat) (s : St σ ω) (h : P s) :
    RoundPost P Wk (readRound C W E size i s) := by
  obtain ⟨ans, out, s1, hi, _⟩ := interp_ok (W := W) _ _ (allLeaves_true (E.sslRead s.e size)) s
  have h1 := F.engRead s size h
  rw [hi] at h1
  rcases h1 with h1 | ⟨hw, hpe, a, o, ho, hnd⟩
  · have h2 : P (noteCall E s1 true [] ans) := F.core h1 rfl rfl (Or.inl rfl)
    have h3 := F.readRetry C i _ ans h2
    cases ans with
    | done k => rw [readRound_done_eq hi]; exact Or.inl h2
    | _ => rw [readRound_retry_eq hi rfl]; exact h3
  · simp only [Out.ok.injEq, Prod.mk.injEq] at ho
    obtain ⟨rfl, rfl⟩ := ho
    obtain ⟨e, s', hr, hw', hn'⟩ := F.handleResult_failed (noteCall E s1 true [] ans) ans (F.coreW hw rfl rfl) hpe
    rw [readRound_retry_eq hi hnd, Tls.readRetry, hr]
    exact Or.inr ⟨hw', hn', e, rfl⟩

theorem readLoop (F : HFrame W E P Wk) (C : Cfg) (size : Nat) :
    ∀ (i : Nat) (s : St σ ω), P s → Post P Wk (readLoop C W E size i s).1 (readLoop C W E size i s).2 := by
  intro i
  induction i with
  | zero => intro s h; exact Or.inl h
  | succ i ih =>
    intro s h
    have h1 := F.readRound C size i s h
    unfold Tls.readLoop
    rcases hr : Tls.readRound C W E size i s with ⟨o, s'⟩
    rw [hr] at h1
    cases o with
    | some o => exact h1
    | none => exact ih s' h1

theorem post_map {α β : Type} {o : Out α} {o' : Out β} {s : St σ ω} (h : Post P Wk o s)
    (he : ∀ e, o = .exn e → o' = .exn e) : Post P Wk o' s := by
  rcases h with h | ⟨h1, h2, e, h3⟩
  · exact Or.inl h
  · exact Or.inr ⟨h1, h2, e, he e h3⟩

theorem tlsRead (F : HFrame W E P Wk) (C : Cfg) (s : St σ ω) (size : Nat) (h : P s) :
    Post P Wk (tlsRead C W E s size).1 (tlsRead C W E s size).2 := by
  have h1 := F.handleLastError s h
  unfold Tls.tlsRead
  split
  · rename_i s' heq; rw [heq] at h1; exact F.readLoop C size _ s' h1
  · rename_i s' heq; rw [heq] at h1; exact Or.inl h1
  · rename_i e s' heq; rw [heq] at h1; exact Or.inl h1
  · rename_i m s' heq; rw [heq] at h1; exact Or.inl h1

/-- after a round of `Write`: `.again` only with `P`; `.stop o` as a call may end (`Post`) -/
def NextPost (P Wk : St σ ω → Prop) (r : Next × St σ ω) : Prop :=
  match r.1 with
  | .again _ _ => P r.2
  | .stop o => Post P Wk o r.2

theorem NextPost.of_inv {r : Next × St σ ω} (h : P r.2) : NextPost P Wk r := by
  unfold NextPost
  split
  · exact h
  · exact Or.inl h

theorem writeRetry (F : HFrame W E P Wk) (C : Cfg) (i' : Nat) (rest : Bytes) (s : St σ ω) (ans : SslAns) (h : P s) :
    NextPost P Wk (writeRetry C W i' rest s ans) :=
  .of_inv (by rw [writeRetry_snd]; exact F.handleResult s ans h)

theorem writeRound (F : HFrame W E P Wk) (C : Cfg) (i' : Nat) (rest : Bytes) (s : St σ ω) (h : P s) :
    NextPost P Wk (writeRound C W E i' rest s) := by
  obtain ⟨ans, out, s1, hi, _⟩ := interp_ok (W := W) _ _ (allLeaves_true (E.sslWrite s.e rest)) s
  have h1 := F.engWrite s rest h
  rw [hi] at h1
  by_cases hp : C.asserts ∧ ¬ (s.g.pendingSend = [] ∨ s.g.pendingSend.length = rest.length)
  · rw [writeRound_assert_eq hp]; exact Or.inl h
  · rcases h1 with h1 | ⟨hw, hpe, a, o, ho, hnd⟩
    · have h3 := F.writeRetry C i' rest (setPending (noteCall E s1 false rest ans) rest) ans (F.core h1 rfl rfl (Or.inl rfl))
      cases ans with
      | done k => rw [writeRound_done_eq hp hi]; exact .of_inv (by rw [writeDone_snd]; exact F.core h1 rfl rfl (Or.inl rfl))
      | _ => rw [writeRound_retry_eq hp hi rfl]; exact h3
    · simp only [Out.ok.injEq, Prod.mk.injEq] at ho
      obtain ⟨rfl, rfl⟩ := ho
      obtain ⟨e, s', hr, hw', hn'⟩ :=
        F.handleResult_failed (setPending (noteCall E s1 false rest ans) rest) ans (F.coreW hw rfl rfl) hpe
      rw [writeRound_retry_eq hp hi hnd, Tls.writeRetry, hr]
      exact Or.inr ⟨hw', hn', e, rfl⟩

theorem writeLoop (F : HFrame W E P Wk) (C : Cfg) (i : Nat) (rest : Bytes) (s : St σ ω) (h : P s) :
    Post P Wk (writeLoop C W E i rest s).1 (writeLoop C W E i rest s).2 :=
  writeLoop_rule C W E (fun _ _ s => P s) (fun o s => Post P Wk o s)
    (fun _ _ _ h _ => Or.inl h)
    (fun i' rest s o s' h _ heq => by have := F.writeRound C i' rest s h; rw [heq] at this; exact this)
    (fun i' rest s j rest' s' h _ heq => by have := F.writeRound C i' rest s h; rw [heq] at this; exact this)
    i rest s h

theorem tlsWrite (F : HFrame W E P Wk) (C : Cfg) (s : St σ ω) (data : Bytes) (h : P s) :
    Post P Wk (tlsWrite C W E s data).1 (tlsWrite C W E s data).2 := by
  have h1 := F.handleLastError s h
  unfold Tls.tlsWrite
  split
  · rename_i s' heq
    rw [heq] at h1
    have h2 := F.writeLoop C C.stepsMax data s' h1
    split
    · rename_i r s'' heq2; rw [heq2] at h2
      exact post_map h2 (by intro e he; cases he)
    · rename_i r s'' heq2; rw [heq2] at h2
      exact post_map h2 (by intro e he; cases he; rfl)
    · rename_i r s'' heq2; rw [heq2] at h2
      exact post_map h2 (by intro e he; cases he)
  · rename_i s' heq; rw [heq] at h1; exact Or.inl h1
  · rename_i e s' heq; rw [heq] at h1; exact Or.inl h1
  · rename_i m s' heq; rw [heq] at h1; exact Or.inl h1

theorem post_core {α β : Type} (F : HFrame W E P Wk) {o : Out α} {o' : Out β} {s s' : St σ ω} (h : Post P Wk o s)
    (hw : s'.w = s.w) (hr : s'.g.remainingTime = s.g.remainingTime) (hp : s'.g.pendingError = s.g.pendingError)
    (he : ∀ e, o = .exn e → o' = .exn e) : Post P Wk o' s' := by
  rcases h with h | ⟨h1, h2, e, h3⟩
  · exact Or.inl (F.core h hw hr (Or.inl hp))
  · exact Or.inr ⟨F.coreW h1 hw hr, by rw [hp]; exact h2, e, he e h3⟩

/-- `Receive(data, size, timeout)`: the invariant only has to hold once the budget is set -/
theorem receiveT (F : HFrame W E P Wk) (C : Cfg) (s : St σ ω) (size : Nat) (t : Int) (h : P (setTimeout s t)) :
    Post P Wk (receiveT C W E s size t).1 (receiveT C W E s size t).2 := by
  have h1 := F.tlsRead C (setTimeout s t) size h
  unfold Tls.receiveT
  split
  · rename_i s' heq
    rw [heq] at h1
    split
    · exact post_map h1 (by intro e he; cases he)
    · split
      · exact F.post_core h1 rfl rfl rfl (by intro e he; cases he)
      · exact h1
  · exact h1

/-- `Send(data, size, timeout)` -/
theorem sendT (F : HFrame W E P Wk) (C : Cfg) (s : St σ ω) (data : Bytes) (t : Int) (h : P (setTimeout s t)) :
    Post P Wk (sendT C W E s data t).1 (sendT C W E s data t).2 := by
  have h1 := F.tlsWrite C (setTimeout s t) data h
  unfold Tls.sendT
  split
  · rename_i n s' heq
    rw [heq] at h1
    split
    · exact F.post_core h1 rfl rfl rfl (by intro e he; cases he)
    · exact h1
  · exact h1

end HFrame


/-! ### engine calls -/

/-- an invariant kept by both BIO callbacks whatever they return (and blind to the control fields)
is kept by every engine call of EVERY engine -/
theorem interp_keeps {W : World ω} {Q : St σ ω → Prop}
    (hcore : ∀ {s s'}, Q s → s'.w = s.w → s'.g.remainingTime = s.g.remainingTime → Q s')
    (hr : ∀ s n, Q s → Q (bioRead W s n).2) (hw : ∀ s bs, Q s → Q (bioWrite W s bs).2)
    (prog : EngProg σ) : ∀ (s : St σ ω), Q s → Q (interp W s prog).2 :=
  interp_inv (fun _ _ h => hcore h rfl rfl) (fun _ _ h => hcore h rfl rfl) hr hw prog

/-- the frame of an invariant that every primitive action keeps: valid for every engine -/
theorem HFrame.ofPrim {W : World ω} (E : Engine σ) {Q : St σ ω → Prop}
    (hcore : ∀ {s s'}, Q s → s'.w = s.w → s'.g.remainingTime = s.g.remainingTime → Q s')
    (hwait : ∀ s d, Q s → Q (waitUnder W s d).2)
    (hr : ∀ s n, Q s → Q (bioRead W s n).2) (hw : ∀ s bs, Q s → Q (bioWrite W s bs).2) : HFrame W E Q Q where
  core := fun h h1 h2 _ => hcore h h1 h2
  coreW := fun h h1 h2 => hcore h h1 h2
  wait := hwait
  engRead := fun s _ h => Or.inl (interp_keeps hcore hr hw _ s h)
  engWrite := fun s _ h => Or.inl (interp_keeps hcore hr hw _ s h)

/-- for an invariant of every engine the postcondition is the invariant -/
theorem post_same {α : Type} {Q : St σ ω → Prop} {o : Out α} {s : St σ ω} (h : Post Q Q o s) : Q s := by
  rcases h with h | ⟨h, _⟩ <;> exact h

/-- **A-SSL (fail-stop).**  What the budget theorem for a *limited* timeout needs from the engine:
* once a BIO callback has reported a failure (returned -1, no retry flag) the engine makes no further
  BIO call and does not report success for this `SSL_read`/`SSL_write` (libssl: `SSL_ERROR_SYSCALL`);
* the write callback is never invoked with an empty buffer (`BIO_write` returns early for `dlen <= 0`).
Both are needed: `UnderDeadline` and `BioWrite` do not write the shrunken budget back when the socket call
throws, and a zero-length `SendSome` that times out reports "everything sent"
(`stale_budget_after_callback_failure`, `stale_budget_after_empty_write` in Props/C18.lean). -/
inductive FailStop : EngProg σ → Prop where
  | ret {a o s} : FailStop (.ret a o s)
  | bioRead {n k} : (∀ bs, FailStop (k (some bs))) → (∃ a o s, k none = .ret a o s ∧ a.isDone = false) →
      FailStop (.bioRead n k)
  | bioWrite {bs k} : bs ≠ [] → (∀ m, FailStop (k (some m))) → (∃ a o s, k none = .ret a o s ∧ a.isDone = false) →
      FailStop (.bioWrite bs k)

def Engine.FailStop (E : Engine σ) : Prop :=
  (∀ s n, Tls.FailStop (E.sslRead s n)) ∧ (∀ s d, Tls.FailStop (E.sslWrite s d))

theorem interp_failstop {W : World ω} {P Wk : St σ ω → Prop}
    (coreP : ∀ {s s'}, P s → s'.w = s.w → s'.g.remainingTime = s.g.remainingTime →
      s'.g.pendingError = s.g.pendingError → P s')
    (coreW : ∀ {s s'}, Wk s → s'.w = s.w → s'.g.remainingTime = s.g.remainingTime → Wk s')
    (hr : ∀ s n, P s → (∀ bs s', bioRead W s n = (.ok bs, s') → P s') ∧ (∀ e s', bioRead W s n = (.exn e, s') → Wk s'))
    (hw : ∀ s bs, bs ≠ [] → P s →
      (∀ m s', bioWrite W s bs = (.ok m, s') → P s') ∧ (∀ e s', bioWrite W s bs = (.exn e, s') → Wk s'))
    (prog : EngProg σ) (hfs : FailStop prog) : ∀ (s : St σ ω), P s → EngStep P Wk (interp W s prog) := by
  induction hfs with
  | ret => intro s h; exact Or.inl (coreP h rfl rfl rfl)
  | @bioRead n k hk hnone ih =>
    intro s h
    obtain ⟨h1, h2⟩ := hr s n h
    unfold Tls.interp
    split
    · rename_i bs s' heq; exact ih _ s' (h1 bs s' heq)
    · rename_i e s' heq
      obtain ⟨a, o, s0, hk0, hnd⟩ := hnone
      rw [hk0]
      exact Or.inr ⟨coreW (h2 e s' heq) rfl rfl, by simp [Tls.interp, stash], a, o, rfl, hnd⟩
    · rename_i m s' heq; exact absurd heq (bioRead_no_abort s n m s')
  | @bioWrite bs k hne hk hnone ih =>
    intro s h
    obtain ⟨h1, h2⟩ := hw s bs hne h
    unfold Tls.interp
    split
    · rename_i m s' heq; exact ih _ s' (h1 m s' heq)
    · rename_i e s' heq
      obtain ⟨a, o, s0, hk0, hnd⟩ := hnone
      rw [hk0]
      exact Or.inr ⟨coreW (h2 e s' heq) rfl rfl, by simp [Tls.interp, stash], a, o, rfl, hnd⟩
    · rename_i m s' heq; exact absurd heq (bioWrite_no_abort s bs m s')

/-! ### what the BIO callbacks do to world and budget -/

theorem bioRead_budget {W : World ω} (s : St σ ω) (n : Nat) :
    (bioRead W s n).2.g.pendingError = s.g.pendingError ∧
    ((s.g.isReadable = true ∧ (bioRead W s n).2.w = (recvNow W s.w n).world ∧
        (bioRead W s n).2.g.remainingTime = s.g.remainingTime) ∨
     (s.g.isReadable = false ∧ (bioRead W s n).2.w = (receive W s.w n s.g.remainingTime).world ∧
        ((bioRead W s n).2.g.remainingTime
            = underDeadline s.g.remainingTime (W.now s.w) (W.now (bioRead W s n).2.w) ∨
         ((bioRead W s n).2.g.remainingTime = s.g.remainingTime ∧ ∃ e, (bioRead W s n).1 = .exn e)))) := by
  unfold Tls.bioRead
  split
  · rename_i hr
    simp only
    cases recvNow W s.w n <;> simp [RecvRes.world, hr]
  · rename_i hr
    simp only
    cases receive W s.w n s.g.remainingTime <;> simp [RecvRes.world, hr]

theorem noteWrite_budget (s : St σ ω) (bs : Bytes) (r : SendRes ω) (rem : Int) :
    (noteWrite s bs r rem).2.g.pendingError = s.g.pendingError ∧ (noteWrite s bs r rem).2.w = r.w ∧
    ((r.exn = none ∧ (noteWrite s bs r rem).2.g.remainingTime = rem) ∨
     ((noteWrite s bs r rem).2.g.remainingTime = s.g.remainingTime ∧ ∃ e, (noteWrite s bs r rem).1 = .exn e)) := by
  unfold noteWrite
  split
  · rename_i e he; exact ⟨rfl, rfl, Or.inr ⟨rfl, e, rfl⟩⟩
  · rename_i he; exact ⟨rfl, rfl, Or.inl ⟨he, rfl⟩⟩

/-- what a `BioWrite` that ended in `x` did to world and budget, route by route: only `SendSome` writes the budget back,
and not when the send threw -/
def WriteBudget (W : World ω) (s : St σ ω) (bs : Bytes) (x : Out Nat × St σ ω) : Prop :=
  x.2.g.pendingError = s.g.pendingError ∧
  ((s.g.isWritable = true ∧ x.2.w = (sendNow W s.w bs).w ∧ x.2.g.remainingTime = s.g.remainingTime) ∨
   (s.g.remainingTime < 0 ∧ x.2.w = (sendAll W s.w bs).w ∧ x.2.g.remainingTime = s.g.remainingTime) ∨
   (s.g.remainingTime = 0 ∧ x.2.w = (sendTry W s.w bs).w ∧ x.2.g.remainingTime = s.g.remainingTime) ∨
   (0 < s.g.remainingTime ∧
      ∃ r tick, sendSome W s.w bs (W.now s.w + s.g.remainingTime) (W.now s.w) = (r, tick) ∧ x.2.w = r.w ∧
        ((r.exn = none ∧ x.2.g.remainingTime =
            (if r.sent = bs.length then remainingMs (W.now s.w + s.g.remainingTime) tick else 0)) ∨
         (x.2.g.remainingTime = s.g.remainingTime ∧ ∃ e, x.1 = .exn e))))

theorem bioWrite_budget {W : World ω} (s : St σ ω) (bs : Bytes) : WriteBudget W s bs (bioWrite W s bs) := by
  have same : ∀ (s0 : St σ ω) (r : SendRes ω), s0.g.remainingTime = s.g.remainingTime →
      (noteWrite s0 bs r s.g.remainingTime).2.g.remainingTime = s.g.remainingTime := by
    intro s0 r h0
    rcases (noteWrite_budget s0 bs r s.g.remainingTime).2.2 with ⟨_, h⟩ | ⟨h, _⟩
    · exact h
    · exact h.trans h0
  refine bioWrite_route (motive := WriteBudget W s bs) s bs ?_ ?_ ?_ ?_
  · exact fun hw => ⟨(noteWrite_budget _ bs _ _).1, Or.inl ⟨hw, (noteWrite_budget _ bs _ _).2.1, same _ _ rfl⟩⟩
  · exact fun hn => ⟨(noteWrite_budget _ bs _ _).1, Or.inr (Or.inl ⟨hn, (noteWrite_budget _ bs _ _).2.1, same _ _ rfl⟩)⟩
  · exact fun hz =>
      ⟨(noteWrite_budget _ bs _ _).1, Or.inr (Or.inr (Or.inl ⟨hz, (noteWrite_budget _ bs _ _).2.1, same _ _ rfl⟩))⟩
  · intro hpos r tick hs
    obtain ⟨h1, h2, h3⟩ := noteWrite_budget s bs r
      (if r.sent = bs.length then remainingMs (W.now s.w + s.g.remainingTime) tick else 0)
    exact ⟨h1, Or.inr (Or.inr (Or.inr ⟨hpos, r, tick, hs, h2, h3⟩))⟩


/-! ### the wait log of the socket-layer functions -/

/-- `l` extends `l0` by records that all satisfy `R` -/
def LogAll (R : WaitRec → Prop) (l0 l : List WaitRec) : Prop := ∃ new, l = new ++ l0 ∧ ∀ r ∈ new, R r

theorem LogAll.refl {R : WaitRec → Prop} (l : List WaitRec) : LogAll R l l := ⟨[], rfl, by intro r hr; cases hr⟩

theorem LogAll.cons {R : WaitRec → Prop} {l0 l : List WaitRec} (h : LogAll R l0 l) {r : WaitRec} (hr : R r) :
    LogAll R l0 (r :: l) := by
  obtain ⟨new, h1, h2⟩ := h
  refine ⟨r :: new, by rw [h1]; rfl, ?_⟩
  intro x hx
  simp only [List.mem_cons] at hx
  rcases hx with rfl | hx
  · exact hr
  · exact h2 x hx

theorem LogAll.trans {R : WaitRec → Prop} {l0 l1 l2 : List WaitRec} (h1 : LogAll R l0 l1) (h2 : LogAll R l1 l2) :
    LogAll R l0 l2 := by
  obtain ⟨n1, e1, a1⟩ := h1
  obtain ⟨n2, e2, a2⟩ := h2
  refine ⟨n2 ++ n1, by rw [e2, e1, List.append_assoc], ?_⟩
  intro x hx
  simp only [List.mem_append] at hx
  rcases hx with hx | hx
  · exact a2 x hx
  · exact a1 x hx

theorem LogAll.mono {R R' : WaitRec → Prop} {l0 l : List WaitRec} (h : LogAll R l0 l) (hm : ∀ r, R r → R' r) :
    LogAll R' l0 l := by
  obtain ⟨new, h1, h2⟩ := h
  exact ⟨new, h1, fun r hr => hm r (h2 r hr)⟩

theorem LogAll.of_eq {R : WaitRec → Prop} {l0 l l' : List WaitRec} (h : LogAll R l0 l) (he : l' = l) : LogAll R l0 l' := by
  rw [he]; exact h

variable {W : World ω}

theorem sendNow_log (x : ω × List WaitRec) (bs : Bytes) : (sendNow (logWorld W) x bs).w.2 = x.2 := by
  rw [sendNow_w]; rfl

theorem recvNow_log (x : ω × List WaitRec) (n : Nat) : (recvNow (logWorld W) x n).world.2 = x.2 := by
  rw [recvNow_world]; rfl

/-- `Receive(fd, …, t)`: exactly one wait, with argument `t` -/
theorem receive_log (x : ω × List WaitRec) (n : Nat) (t : Int) :
    (receive (logWorld W) x n t).world.2 = ⟨.rd, t, W.now x.1⟩ :: x.2 := by
  rcases receive_world (logWorld W) x n t with h | h <;> rw [h] <;> rfl

/-- `SendTry`: exactly one wait, with argument 0 -/
theorem sendTry_log (x : ω × List WaitRec) (bs : Bytes) :
    (sendTry (logWorld W) x bs).w.2 = ⟨.wr, 0, W.now x.1⟩ :: x.2 := by
  rcases sendTry_w (logWorld W) x bs with h | h <;> rw [h] <;> rfl

theorem LogAll.step {R : WaitRec → Prop} {l0 l : List WaitRec} (r : WaitRec) (hr : R r) (he : l = r :: l0) :
    LogAll R l0 l := ((LogAll.refl l0).cons hr).of_eq he

/-- one wait followed by one `SendNow`: the log grows by that wait -/
theorem waitSend_log (x : ω × List WaitRec) (bs : Bytes) (t : Int) :
    (sendNow (logWorld W) ((logWorld W).wait x .wr t).2 bs).w.2 = ⟨.wr, t, W.now x.1⟩ :: x.2 := by
  rw [sendNow_log]; rfl

/-- `SendAll`: every wait has the argument -1 -/
theorem sendAll_log (x : ω × List WaitRec) (bs : Bytes) (acc : Nat) :
    LogAll (fun r => r.timeout = -1) x.2 (sendAll (logWorld W) x bs acc).w.2 := by
  fun_induction Net.sendAll (logWorld W) x bs acc with
  | case1 x bs acc r hx | case2 x bs acc r hx hrest | case4 x bs acc r hx hrest hpos =>
    exact LogAll.step ⟨.wr, -1, W.now x.1⟩ rfl (waitSend_log x bs (-1))
  | case3 x bs acc r hx hrest hpos ih =>
    exact (LogAll.step (R := fun r => r.timeout = -1) ⟨.wr, -1, W.now x.1⟩ rfl (waitSend_log x bs (-1))).trans ih

theorem remainingMs_nonneg (d n : Int) : 0 ≤ remainingMs d n := by
  unfold remainingMs; split <;> omega

/-- `SendSome`: every wait has a non-negative argument (whatever the clock does) -/
theorem sendSome_log_nonneg (x : ω × List WaitRec) (bs : Bytes) (dl tick : Int) (acc : Nat) :
    LogAll (fun r => 0 ≤ r.timeout) x.2 (sendSome (logWorld W) x bs dl tick acc).1.w.2 := by
  have h0 := remainingMs_nonneg dl
  fun_induction Net.sendSome (logWorld W) x bs dl tick acc with
  | case1 x bs tick acc wt hw => exact LogAll.step ⟨.wr, remainingMs dl tick, W.now x.1⟩ (h0 _) rfl
  | case2 x bs tick acc wt hw tick' r hx | case3 x bs tick acc wt hw tick' r hx hrest
  | case5 x bs tick acc wt hw tick' r hx hrest hlt hpos | case6 x bs tick acc wt hw tick' r hx hrest hlt =>
    exact LogAll.step ⟨.wr, remainingMs dl tick, W.now x.1⟩ (h0 _) (waitSend_log x bs _)
  | case4 x bs tick acc wt hw tick' r hx hrest hlt hpos ih =>
    exact (LogAll.step (R := fun r => 0 ≤ r.timeout) ⟨.wr, remainingMs dl tick, W.now x.1⟩ (h0 _) (waitSend_log x bs _)).trans ih

/-! ### clock assumptions -/

/-- **A-CLOCK** (the assumptions of the limited-budget theorem, all about the world, none about the library):
* the clock never runs backwards across a wait;
* a wait with argument `t ≥ 0` returns after at most `t` ms, whether it reports ready or not
  (A-POLL; scheduling latency is not modelled - the theorems are about the arguments the library passes and
  the virtual time it observes);
* the non-blocking `send`/`recv` on the (non-blocking) descriptor take no time.  This one is NEEDED for the
  per-wait bound: the library reads the clock once after each wait (`deadline.Tick()`), time spent inside
  `send`/`recv` is noticed only at the next reading. -/
structure ClockOk (W : World ω) : Prop where
  wait_mono : ∀ w d t, W.now w ≤ W.now (W.wait w d t).2
  wait_le : ∀ w d t, 0 ≤ t → W.now (W.wait w d t).2 ≤ W.now w + t
  send_now : ∀ w bs, W.now (W.send w bs).2 = W.now w
  recv_now : ∀ w n, W.now (W.recv w n).2 = W.now w

/-- a world in which a zero-timeout wait, `send` and `recv` take no time -/
structure ZeroFree (W : World ω) : Prop where
  wait_zero : ∀ w d, W.now (W.wait w d 0).2 = W.now w
  send_now : ∀ w bs, W.now (W.send w bs).2 = W.now w
  recv_now : ∀ w n, W.now (W.recv w n).2 = W.now w

theorem ClockOk.zeroFree (h : ClockOk W) : ZeroFree W where
  wait_zero := fun w d => by have h1 := h.wait_mono w d 0; have h2 := h.wait_le w d 0 (Int.le_refl 0); omega
  send_now := h.send_now
  recv_now := h.recv_now

/-- an unlimited wait comes back only when the descriptor is ready (`poll(-1)` never returns 0) -/
def UnlimitedReady (W : World ω) : Prop := ∀ w d t, t < 0 → (W.wait w d t).1 = true

/-- the waits a limited call may issue: a non-negative argument that ends no later than the deadline `D` -/
def InBudget (D : Int) (r : WaitRec) : Prop := 0 ≤ r.timeout ∧ r.before + r.timeout ≤ D

theorem sendNow_now (hs : ∀ w bs, W.now (W.send w bs).2 = W.now w) (x : ω × List WaitRec) (bs : Bytes) :
    W.now (sendNow (logWorld W) x bs).w.1 = W.now x.1 := by
  rw [sendNow_w]; exact hs x.1 bs

theorem recvNow_now (hr : ∀ w n, W.now (W.recv w n).2 = W.now w) (x : ω × List WaitRec) (n : Nat) :
    W.now (recvNow (logWorld W) x n).world.1 = W.now x.1 := by
  rw [recvNow_world]; exact hr x.1 n

theorem receive_now (hr : ∀ w n, W.now (W.recv w n).2 = W.now w) (x : ω × List WaitRec) (n : Nat) (t : Int) :
    W.now (receive (logWorld W) x n t).world.1 = W.now (W.wait x.1 .rd t).2 := by
  rcases receive_world (logWorld W) x n t with h | h <;> rw [h]
  · rfl
  · exact hr _ n

theorem sendTry_now (hs : ∀ w bs, W.now (W.send w bs).2 = W.now w) (x : ω × List WaitRec) (bs : Bytes) :
    W.now (sendTry (logWorld W) x bs).w.1 = W.now (W.wait x.1 .wr 0).2 := by
  rcases sendTry_w (logWorld W) x bs with h | h <;> rw [h]
  · rfl
  · exact hs _ bs

theorem remainingMs_le (d n D : Int) (hd : d ≤ D) (hn : n ≤ D) : n + remainingMs d n ≤ D := by
  unfold remainingMs; split <;> omega

theorem waitSend_limited (hc : ClockOk W) {D dl : Int} (hdl : dl ≤ D) (x : ω × List WaitRec) (bs : Bytes)
    (hnow : W.now x.1 ≤ D) :
    InBudget D ⟨.wr, remainingMs dl (W.now x.1), W.now x.1⟩ ∧
    W.now x.1 ≤ W.now (W.wait x.1 .wr (remainingMs dl (W.now x.1))).2 ∧
    W.now (W.wait x.1 .wr (remainingMs dl (W.now x.1))).2 ≤ D ∧
    W.now (sendNow (logWorld W) ((logWorld W).wait x .wr (remainingMs dl (W.now x.1))).2 bs).w.1
      = W.now (W.wait x.1 .wr (remainingMs dl (W.now x.1))).2 ∧
    W.now x.1 ≤ W.now (sendNow (logWorld W) ((logWorld W).wait x .wr (remainingMs dl (W.now x.1))).2 bs).w.1 ∧
    W.now (sendNow (logWorld W) ((logWorld W).wait x .wr (remainingMs dl (W.now x.1))).2 bs).w.1 ≤ D := by
  have h0 := remainingMs_nonneg dl (W.now x.1)
  have hb := remainingMs_le dl (W.now x.1) D hdl hnow
  have hle := hc.wait_le x.1 .wr _ h0
  have hmo := hc.wait_mono x.1 .wr (remainingMs dl (W.now x.1))
  have hn : W.now (sendNow (logWorld W) ((logWorld W).wait x .wr (remainingMs dl (W.now x.1))).2 bs).w.1
      = W.now (W.wait x.1 .wr (remainingMs dl (W.now x.1))).2 := sendNow_now hc.send_now _ bs
  exact ⟨⟨h0, hb⟩, hmo, by omega, hn, by rw [hn]; exact hmo, by rw [hn]; omega⟩

/-- `SendSome(deadline)` under A-CLOCK, entered with a fresh clock reading and a deadline within the
budget: every wait is within the budget, the clock stays within the budget, and when it reports
"everything sent" the clock reading it returns is the current one -/
theorem sendSome_limited (hc : ClockOk W) (D dl : Int) (hdl : dl ≤ D) (x : ω × List WaitRec) (bs : Bytes)
    (tick : Int) (acc : Nat) :
    bs ≠ [] → tick = W.now x.1 → W.now x.1 ≤ D →
    LogAll (InBudget D) x.2 (sendSome (logWorld W) x bs dl tick acc).1.w.2 ∧
    W.now (sendSome (logWorld W) x bs dl tick acc).1.w.1 ≤ D ∧
    W.now x.1 ≤ W.now (sendSome (logWorld W) x bs dl tick acc).1.w.1 ∧
    ((sendSome (logWorld W) x bs dl tick acc).1.exn = none →
      (sendSome (logWorld W) x bs dl tick acc).1.sent = acc + bs.length →
      (sendSome (logWorld W) x bs dl tick acc).2 = W.now (sendSome (logWorld W) x bs dl tick acc).1.w.1) := by
  fun_induction Net.sendSome (logWorld W) x bs dl tick acc with
  | case1 x bs tick acc wt hw =>
    intro hne htick hnow
    subst htick
    obtain ⟨hb, hmo, hD, _, _, _⟩ := waitSend_limited hc hdl x bs hnow
    refine ⟨LogAll.step _ hb rfl, hD, hmo, ?_⟩
    intro _ hs
    simp only at hs
    have : 0 < bs.length := List.length_pos_iff.mpr hne
    omega
  | case2 x bs tick acc wt hw tick' r hx =>
    intro hne htick hnow
    subst htick
    obtain ⟨hb, _, _, hn, hmo, hD⟩ := waitSend_limited hc hdl x bs hnow
    refine ⟨LogAll.step _ hb (waitSend_log x bs _), hD, hmo, ?_⟩
    intro hex
    simp only at hex
    rw [hex] at hx
    simp at hx
  | case3 x bs tick acc wt hw tick' r hx hrest =>
    intro hne htick hnow
    subst htick
    obtain ⟨hb, _, _, hn, hmo, hD⟩ := waitSend_limited hc hdl x bs hnow
    exact ⟨LogAll.step _ hb (waitSend_log x bs _), hD, hmo, fun _ _ => hn.symm⟩
  | case4 x bs tick acc wt hw tick' r hx hrest hlt hpos ih =>
    intro hne htick hnow
    subst htick
    obtain ⟨hb, _, _, hn, hmo, hD⟩ := waitSend_limited hc hdl x bs hnow
    obtain ⟨i1, i2, i3, i4⟩ := ih hrest hn.symm hD
    refine ⟨(LogAll.step (R := InBudget D) _ hb (waitSend_log x bs _)).trans i1, i2, Int.le_trans hmo i3, ?_⟩
    intro hex hs
    apply i4 hex
    have hle2 : r.sent ≤ bs.length := sendNow_le _ _ bs
    simp only [List.length_drop]
    omega
  | case5 x bs tick acc wt hw tick' r hx hrest hlt hpos =>
    intro hne htick hnow
    subst htick
    obtain ⟨hb, _, _, hn, hmo, hD⟩ := waitSend_limited hc hdl x bs hnow
    refine ⟨LogAll.step _ hb (waitSend_log x bs _), hD, hmo, ?_⟩
    intro hex
    simp at hex
  | case6 x bs tick acc wt hw tick' r hx hrest hlt =>
    intro hne htick hnow
    subst htick
    obtain ⟨hb, _, _, hn, hmo, hD⟩ := waitSend_limited hc hdl x bs hnow
    refine ⟨LogAll.step _ hb (waitSend_log x bs _), hD, hmo, ?_⟩
    intro _ hs
    simp only at hs
    exfalso
    apply hrest
    have hle2 : r.sent ≤ bs.length := sendNow_le _ _ bs
    apply List.drop_eq_nil_of_le
    omega

/-! ### the four budget invariants -/

theorem underDeadline_nonpos {t : Int} (h : t ≤ 0) (b a : Int) : underDeadline t b a = t := by
  unfold underDeadline; rw [if_pos h]

theorem underDeadline_nonneg {t : Int} (h : 0 ≤ t) (b a : Int) : 0 ≤ underDeadline t b a := by
  unfold underDeadline; split
  · exact h
  · exact remainingMs_nonneg _ _

theorem underDeadline_fresh {t b a D : Int} (h : 0 ≤ t) (hb : b + t ≤ D) (ha : a ≤ b + t) :
    a + underDeadline t b a ≤ D := by
  unfold underDeadline remainingMs; split
  · omega
  · split <;> omega

abbrev LSt (σ ω : Type) := St σ (ω × List WaitRec)

/-- zero budget: it stays zero, every wait has the argument 0, and in a world where such waits take no time
the clock stands still -/
def ZeroInv (W : World ω) (l0 : List WaitRec) (n0 : Int) (s : LSt σ ω) : Prop :=
  s.g.remainingTime = 0 ∧ LogAll (fun r => r.timeout = 0) l0 s.w.2 ∧ (ZeroFree W → W.now s.w.1 = n0)

theorem zeroFrame (W : World ω) (E : Engine σ) (l0 : List WaitRec) (n0 : Int) :
    HFrame (logWorld W) E (ZeroInv (σ := σ) W l0 n0) (ZeroInv W l0 n0) := by
  apply HFrame.ofPrim
  · intro s s' h hw hr
    unfold ZeroInv at h ⊢
    rw [hw, hr]; exact h
  · intro s d ⟨h1, h2, h3⟩
    refine ⟨?_, ?_, ?_⟩
    · show underDeadline s.g.remainingTime _ _ = 0
      rw [h1]; rfl
    · exact h2.cons (r := ⟨d, s.g.remainingTime, W.now s.w.1⟩) h1
    · intro hz
      show W.now (W.wait s.w.1 d s.g.remainingTime).2 = n0
      rw [h1, hz.wait_zero]; exact h3 hz
  · intro s n ⟨h1, h2, h3⟩
    obtain ⟨_, hb⟩ := bioRead_budget (W := logWorld W) s n
    rcases hb with ⟨_, hw, hr⟩ | ⟨_, hw, hr⟩
    · refine ⟨by rw [hr]; exact h1, by rw [hw, recvNow_log]; exact h2, ?_⟩
      intro hz; rw [hw, recvNow_now hz.recv_now]; exact h3 hz
    · refine ⟨?_, ?_, ?_⟩
      · rcases hr with hr | ⟨hr, _⟩
        · rw [hr, h1]; rfl
        · rw [hr]; exact h1
      · rw [hw, receive_log]; exact h2.cons (r := ⟨.rd, s.g.remainingTime, W.now s.w.1⟩) h1
      · intro hz; rw [hw, receive_now hz.recv_now, h1, hz.wait_zero]; exact h3 hz
  · intro s bs ⟨h1, h2, h3⟩
    obtain ⟨_, hb⟩ := bioWrite_budget (W := logWorld W) s bs
    rcases hb with ⟨_, hw, hr⟩ | ⟨hneg, _⟩ | ⟨_, hw, hr⟩ | ⟨hpos, _⟩
    · refine ⟨by rw [hr]; exact h1, by rw [hw, sendNow_log]; exact h2, ?_⟩
      intro hz; rw [hw, sendNow_now hz.send_now]; exact h3 hz
    · omega
    · refine ⟨by rw [hr]; exact h1, by rw [hw, sendTry_log]; exact h2.cons (r := ⟨.wr, 0, W.now s.w.1⟩) rfl, ?_⟩
      intro hz; rw [hw, sendTry_now hz.send_now, hz.wait_zero]; exact h3 hz
    · omega

/-- unlimited budget `T < 0`: it stays `T`; every wait has the argument `T` (the glue's own waits and
`Receive`) or -1 (`SendAll`) -/
def UnlInv (T : Int) (l0 : List WaitRec) (s : LSt σ ω) : Prop :=
  s.g.remainingTime = T ∧ LogAll (fun r => r.timeout = T ∨ r.timeout = -1) l0 s.w.2

theorem unlFrame (W : World ω) (E : Engine σ) (T : Int) (hT : T < 0) (l0 : List WaitRec) :
    HFrame (logWorld W) E (UnlInv (σ := σ) (ω := ω) T l0) (UnlInv T l0) := by
  apply HFrame.ofPrim
  · intro s s' h hw hr
    unfold UnlInv at h ⊢
    rw [hw, hr]; exact h
  · intro s d ⟨h1, h2⟩
    refine ⟨?_, ?_⟩
    · show underDeadline s.g.remainingTime _ _ = T
      rw [underDeadline_nonpos (by omega)]; exact h1
    · exact h2.cons (r := ⟨d, s.g.remainingTime, W.now s.w.1⟩) (Or.inl h1)
  · intro s n ⟨h1, h2⟩
    obtain ⟨_, hb⟩ := bioRead_budget (W := logWorld W) s n
    rcases hb with ⟨_, hw, hr⟩ | ⟨_, hw, hr⟩
    · exact ⟨by rw [hr]; exact h1, by rw [hw, recvNow_log]; exact h2⟩
    · refine ⟨?_, ?_⟩
      · rcases hr with hr | ⟨hr, _⟩
        · rw [hr, underDeadline_nonpos (by omega)]; exact h1
        · rw [hr]; exact h1
      · rw [hw, receive_log]; exact h2.cons (r := ⟨.rd, s.g.remainingTime, W.now s.w.1⟩) (Or.inl h1)
  · intro s bs ⟨h1, h2⟩
    obtain ⟨_, hb⟩ := bioWrite_budget (W := logWorld W) s bs
    rcases hb with ⟨_, hw, hr⟩ | ⟨_, hw, hr⟩ | ⟨hz, _⟩ | ⟨hpos, _⟩
    · exact ⟨by rw [hr]; exact h1, by rw [hw, sendNow_log]; exact h2⟩
    · refine ⟨by rw [hr]; exact h1, ?_⟩
      rw [hw]
      exact h2.trans ((sendAll_log s.w bs 0).mono (fun r hr => Or.inr hr))
    · omega
    · omega

/-- a non-negative budget never becomes negative ("must not turn timeout >=0 into <0"), and no wait is issued
with a negative argument - in EVERY world, whatever its clock does -/
def NonnegInv (l0 : List WaitRec) (s : LSt σ ω) : Prop :=
  0 ≤ s.g.remainingTime ∧ LogAll (fun r => 0 ≤ r.timeout) l0 s.w.2

theorem nonnegFrame (W : World ω) (E : Engine σ) (l0 : List WaitRec) :
    HFrame (logWorld W) E (NonnegInv (σ := σ) (ω := ω) l0) (NonnegInv l0) := by
  apply HFrame.ofPrim
  · intro s s' h hw hr
    unfold NonnegInv at h ⊢
    rw [hw, hr]; exact h
  · intro s d ⟨h1, h2⟩
    exact ⟨underDeadline_nonneg h1 _ _, h2.cons (r := ⟨d, s.g.remainingTime, W.now s.w.1⟩) h1⟩
  · intro s n ⟨h1, h2⟩
    obtain ⟨_, hb⟩ := bioRead_budget (W := logWorld W) s n
    rcases hb with ⟨_, hw, hr⟩ | ⟨_, hw, hr⟩
    · exact ⟨by rw [hr]; exact h1, by rw [hw, recvNow_log]; exact h2⟩
    · refine ⟨?_, ?_⟩
      · rcases hr with hr | ⟨hr, _⟩
        · rw [hr]; exact underDeadline_nonneg h1 _ _
        · rw [hr]; exact h1
      · rw [hw, receive_log]; exact h2.cons (r := ⟨.rd, s.g.remainingTime, W.now s.w.1⟩) h1
  · intro s bs ⟨h1, h2⟩
    obtain ⟨_, hb⟩ := bioWrite_budget (W := logWorld W) s bs
    rcases hb with ⟨_, hw, hr⟩ | ⟨hneg, _⟩ | ⟨_, hw, hr⟩ | ⟨hpos, r, tick, hs, hw, hr⟩
    · exact ⟨by rw [hr]; exact h1, by rw [hw, sendNow_log]; exact h2⟩
    · omega
    · exact ⟨by rw [hr]; exact h1, by rw [hw, sendTry_log]; exact h2.cons (r := ⟨.wr, 0, W.now s.w.1⟩) (Int.le_refl 0)⟩
    · have hl := sendSome_log_nonneg (W := W) s.w bs ((logWorld W).now s.w + s.g.remainingTime) ((logWorld W).now s.w) 0
      rw [hs] at hl
      refine ⟨?_, by rw [hw]; exact h2.trans hl⟩
      rcases hr with ⟨_, hr⟩ | ⟨hr, _⟩
      · rw [hr]; split
        · exact remainingMs_nonneg _ _
        · exact Int.le_refl 0
      · rw [hr]; exact h1

/-- limited budget, deadline `D` = entry + T: the budget is non-negative and *fresh* (clock + budget ≤ D),
every wait so far was within the budget, no callback has failed -/
def LimGood (W : World ω) (D : Int) (l0 : List WaitRec) (s : LSt σ ω) : Prop :=
  0 ≤ s.g.remainingTime ∧ W.now s.w.1 + s.g.remainingTime ≤ D ∧ LogAll (InBudget D) l0 s.w.2 ∧
  s.g.pendingError = none

/-- what is left after a callback failed: the budget may be stale, but the clock and every wait so far are
within the budget -/
def LimWeak (W : World ω) (D : Int) (l0 : List WaitRec) (s : LSt σ ω) : Prop :=
  0 ≤ s.g.remainingTime ∧ W.now s.w.1 ≤ D ∧ LogAll (InBudget D) l0 s.w.2

theorem lim_bioRead (hc : ClockOk W) (D : Int) (l0 : List WaitRec) (s : LSt σ ω) (n : Nat)
    (h : LimGood W D l0 s) :
    LimWeak W D l0 (bioRead (logWorld W) s n).2 ∧
    ((∀ e, (bioRead (logWorld W) s n).1 ≠ .exn e) → LimGood W D l0 (bioRead (logWorld W) s n).2) := by
  obtain ⟨h1, h2, h3, h4⟩ := h
  obtain ⟨hp, hb⟩ := bioRead_budget (W := logWorld W) s n
  rcases hb with ⟨_, hw, hr⟩ | ⟨_, hw, hr⟩
  · have hn : W.now (bioRead (logWorld W) s n).2.w.1 = W.now s.w.1 := by rw [hw, recvNow_now hc.recv_now]
    have hl : LogAll (InBudget D) l0 (bioRead (logWorld W) s n).2.w.2 := by rw [hw, recvNow_log]; exact h3
    exact ⟨⟨by rw [hr]; exact h1, by rw [hn]; omega, hl⟩,
      fun _ => ⟨by rw [hr]; exact h1, by rw [hn, hr]; exact h2, hl, by rw [hp]; exact h4⟩⟩
  · have hn : W.now (bioRead (logWorld W) s n).2.w.1 = W.now (W.wait s.w.1 .rd s.g.remainingTime).2 := by
      rw [hw, receive_now hc.recv_now]
    have hle := hc.wait_le s.w.1 .rd _ h1
    have hl : LogAll (InBudget D) l0 (bioRead (logWorld W) s n).2.w.2 := by
      rw [hw, receive_log]; exact h3.cons (r := ⟨.rd, s.g.remainingTime, W.now s.w.1⟩) ⟨h1, h2⟩
    refine ⟨⟨?_, by rw [hn]; omega, hl⟩, ?_⟩
    · rcases hr with hr | ⟨hr, _⟩
      · rw [hr]; exact underDeadline_nonneg h1 _ _
      · rw [hr]; exact h1
    · intro hne
      rcases hr with hr | ⟨_, e, he⟩
      · refine ⟨by rw [hr]; exact underDeadline_nonneg h1 _ _, ?_, hl, by rw [hp]; exact h4⟩
        rw [hr]
        simp only [logWorld_now]
        exact underDeadline_fresh h1 h2 (by rw [hn]; exact hle)
      · exact absurd he (hne e)

theorem lim_bioWrite (hc : ClockOk W) (D : Int) (l0 : List WaitRec) (s : LSt σ ω) (bs : Bytes) (hne : bs ≠ [])
    (h : LimGood W D l0 s) :
    LimWeak W D l0 (bioWrite (logWorld W) s bs).2 ∧
    ((∀ e, (bioWrite (logWorld W) s bs).1 ≠ .exn e) → LimGood W D l0 (bioWrite (logWorld W) s bs).2) := by
  obtain ⟨h1, h2, h3, h4⟩ := h
  obtain ⟨hp, hb⟩ := bioWrite_budget (W := logWorld W) s bs
  rcases hb with ⟨_, hw, hr⟩ | ⟨hneg, _⟩ | ⟨hz, hw, hr⟩ | ⟨hpos, r, tick, hs, hw, hr⟩
  · have hn : W.now (bioWrite (logWorld W) s bs).2.w.1 = W.now s.w.1 := by rw [hw, sendNow_now hc.send_now]
    have hl : LogAll (InBudget D) l0 (bioWrite (logWorld W) s bs).2.w.2 := by rw [hw, sendNow_log]; exact h3
    exact ⟨⟨by rw [hr]; exact h1, by rw [hn]; omega, hl⟩,
      fun _ => ⟨by rw [hr]; exact h1, by rw [hn, hr]; exact h2, hl, by rw [hp]; exact h4⟩⟩
  · omega
  · have hn : W.now (bioWrite (logWorld W) s bs).2.w.1 = W.now (W.wait s.w.1 .wr 0).2 := by
      rw [hw, sendTry_now hc.send_now]
    have hle := hc.wait_le s.w.1 .wr 0 (Int.le_refl 0)
    have hl : LogAll (InBudget D) l0 (bioWrite (logWorld W) s bs).2.w.2 := by
      rw [hw, sendTry_log]; exact h3.cons (r := ⟨.wr, 0, W.now s.w.1⟩) ⟨Int.le_refl 0, by show W.now s.w.1 + 0 ≤ D; omega⟩
    exact ⟨⟨by rw [hr]; exact h1, by rw [hn]; omega, hl⟩,
      fun _ => ⟨by rw [hr]; exact h1, by rw [hn, hr, hz]; omega, hl, by rw [hp]; exact h4⟩⟩
  · obtain ⟨q1, q2, q3, q4⟩ := sendSome_limited hc D ((logWorld W).now s.w + s.g.remainingTime) h2 s.w bs
      ((logWorld W).now s.w) 0 hne rfl (by omega)
    rw [hs] at q1 q2 q3 q4
    simp only at q1 q2 q3 q4
    have hl : LogAll (InBudget D) l0 (bioWrite (logWorld W) s bs).2.w.2 := by rw [hw]; exact h3.trans q1
    have hrem : 0 ≤ (bioWrite (logWorld W) s bs).2.g.remainingTime := by
      rcases hr with ⟨_, hr⟩ | ⟨hr, _⟩
      · rw [hr]
        split
        · exact remainingMs_nonneg _ _
        · exact Int.le_refl 0
      · rw [hr]; exact h1
    refine ⟨⟨hrem, by rw [hw]; exact q2, hl⟩, ?_⟩
    intro hnex
    rcases hr with ⟨hex, hr⟩ | ⟨_, e, he⟩
    · refine ⟨hrem, ?_, hl, by rw [hp]; exact h4⟩
      rw [hr, hw]
      by_cases hsent : r.sent = bs.length
      · rw [if_pos hsent, q4 hex (by omega)]
        exact remainingMs_le _ _ _ h2 q2
      · rw [if_neg hsent]; omega
    · exact absurd he (hnex e)

theorem ok_exn_split {α : Type} {P Wk : St σ ω → Prop} {r : Out α × St σ ω} (hw : Wk r.2)
    (hp : (∀ e, r.1 ≠ .exn e) → P r.2) :
    (∀ a s', r = (.ok a, s') → P s') ∧ (∀ e s', r = (.exn e, s') → Wk s') :=
  ⟨fun a s' h => by subst h; exact hp (fun e he => by cases he), fun e s' h => by subst h; exact hw⟩

/-- the frame of the limited budget: for engines that stop after a failed callback, under A-CLOCK -/
theorem limFrame (hc : ClockOk W) (E : Engine σ) (hE : E.FailStop) (D : Int) (l0 : List WaitRec) :
    HFrame (logWorld W) E (LimGood (σ := σ) W D l0) (LimWeak W D l0) := by
  have coreP : ∀ {s s' : LSt σ ω}, LimGood W D l0 s → s'.w = s.w → s'.g.remainingTime = s.g.remainingTime →
      s'.g.pendingError = s.g.pendingError → LimGood W D l0 s' := by
    intro s s' h hw hr hp
    unfold LimGood at h ⊢
    rw [hw, hr, hp]; exact h
  have coreW : ∀ {s s' : LSt σ ω}, LimWeak W D l0 s → s'.w = s.w → s'.g.remainingTime = s.g.remainingTime →
      LimWeak W D l0 s' := by
    intro s s' h hw hr
    unfold LimWeak at h ⊢
    rw [hw, hr]; exact h
  have eng : ∀ prog, FailStop prog → ∀ s : LSt σ ω, LimGood W D l0 s →
      EngStep (LimGood W D l0) (LimWeak W D l0) (interp (logWorld W) s prog) :=
    interp_failstop coreP coreW
      (fun s n h => ok_exn_split (lim_bioRead hc D l0 s n h).1 (lim_bioRead hc D l0 s n h).2)
      (fun s bs hne h => ok_exn_split (lim_bioWrite hc D l0 s bs hne h).1 (lim_bioWrite hc D l0 s bs hne h).2)
  refine ⟨?_, coreW, ?_, fun s n h => eng _ (hE.1 s.e n) s h, fun s d h => eng _ (hE.2 s.e d) s h⟩
  · intro s s' h hw' hr' hp
    obtain ⟨h1, h2, h3, h4⟩ := h
    refine ⟨by rw [hr']; exact h1, by rw [hw', hr']; exact h2, by rw [hw']; exact h3, ?_⟩
    rcases hp with hp | hp
    · rw [hp]; exact h4
    · exact hp
  · intro s d ⟨h1, h2, h3, h4⟩
    have hle := hc.wait_le s.w.1 d _ h1
    refine ⟨underDeadline_nonneg h1 _ _, ?_, h3.cons (r := ⟨d, s.g.remainingTime, W.now s.w.1⟩) ⟨h1, h2⟩, h4⟩
    exact underDeadline_fresh h1 h2 hle

/-- with a fail-stop engine no callback failure stays stashed across calls -/
theorem noStashFrame (W : World ω) (E : Engine σ) (hE : E.FailStop) :
    HFrame W E (fun s : St σ ω => s.g.pendingError = none) (fun _ => True) := by
  have eng : ∀ prog, FailStop prog → ∀ s : St σ ω, s.g.pendingError = none →
      EngStep (fun s : St σ ω => s.g.pendingError = none) (fun _ => True) (interp W s prog) :=
    interp_failstop (fun h _ _ hp => hp.trans h) (fun _ _ _ => trivial)
      (fun s n h => ok_exn_split trivial fun _ => (bioRead_budget (W := W) s n).1.trans h)
      (fun s bs _ h => ok_exn_split trivial fun _ => (bioWrite_budget (W := W) s bs).1.trans h)
  refine ⟨?_, fun _ _ _ => trivial, fun s d h => h, fun s n h => eng _ (hE.1 s.e n) s h, fun s d h => eng _ (hE.2 s.e d) s h⟩
  intro s s' h _ _ hp
  rcases hp with hp | hp
  · exact hp.trans h
  · exact hp

theorem no_stash_left (C : Cfg) (W : World ω) (E : Engine σ) (hE : E.FailStop) (s : St σ ω)
    (hp : s.g.pendingError = none) :
    (∀ n t, (receiveT C W E s n t).2.g.pendingError = none) ∧ (∀ d t, (sendT C W E s d t).2.g.pendingError = none) := by
  have F := noStashFrame W E hE
  have fin : ∀ {α : Type} {o : Out α} {s' : St σ ω},
      Post (fun s : St σ ω => s.g.pendingError = none) (fun _ => True) o s' → s'.g.pendingError = none := by
    intro α o s' h
    rcases h with h | ⟨_, h, _⟩ <;> exact h
  exact ⟨fun n t => fin (F.receiveT C s n t hp), fun d t => fin (F.sendT C s d t hp)⟩

/-- `HandleLastError` under an unlimited budget, in a world whose unlimited waits only come back ready: it never
answers "timed out" -/
theorem handleLastError_unlimited {W : World ω} (hW : UnlimitedReady W) (s : St σ ω) (hneg : s.g.remainingTime < 0) :
    (∃ s', handleLastError W s = (.ok true, s') ∧ s'.g.remainingTime < 0 ∧ s'.g.pendingSend = s.g.pendingSend) ∨
    (∃ e s', handleLastError W s = (.exn e, s')) := by
  have wait : ∀ d, (waitUnder W s d).1 = true ∧ (waitUnder W s d).2.g.remainingTime < 0 := fun d =>
    ⟨hW s.w d _ hneg, by show underDeadline _ _ _ < 0; rw [underDeadline_nonpos (by omega)]; exact hneg⟩
  unfold handleLastError
  cases hl : s.g.lastError with
  | none => left; exact ⟨_, rfl, hneg, rfl⟩
  | wantRead =>
    left; exact ⟨setLastError (waitUnder W s .rd).2 .none, by simp only [handleError, (wait .rd).1], (wait .rd).2, rfl⟩
  | wantWrite =>
    left; exact ⟨setLastError (waitUnder W s .wr).2 .none, by simp only [handleError, (wait .wr).1], (wait .wr).2, rfl⟩
  | zeroReturn => right; exact ⟨_, _, rfl⟩
  | syscall => right; exact ⟨_, _, rfl⟩
  | ssl => right; exact ⟨_, _, rfl⟩

/-! ### a scripted world that satisfies the clock assumptions by construction (for the examples) -/

/-- scripted answers; when a list is exhausted: nothing ever becomes ready (a wait sits out its timeout),
`send` accepts everything, `recv` has nothing (EAGAIN) -/
structure TW where
  clock : Int := 0
  /-- readiness, and after how many ms the wait comes back when it reports ready (capped by its timeout) -/
  waits : List (Bool × Nat) := []
  sends : List SendAns := []
  recvs : List RecvAns := []
  deriving DecidableEq, Repr

def TW.elapsed (ready : Bool) (el : Nat) (t : Int) : Int :=
  if t < 0 then el else if ready then min (el : Int) t else t

def TW.world : World TW where
  wait s _ t :=
    match s.waits with
    | (rdy, el) :: rest =>
      let ready := rdy || decide (t < 0)        -- an unlimited wait only comes back ready
      (ready, { s with waits := rest, clock := s.clock + TW.elapsed ready el t })
    | [] => (decide (t < 0), { s with clock := s.clock + TW.elapsed (decide (t < 0)) 0 t })
  send s bs :=
    match s.sends with
    | a :: rest => (a, { s with sends := rest })
    | [] => (.accept bs.length, s)
  recv s _ :=
    match s.recvs with
    | a :: rest => (a, { s with recvs := rest })
    | [] => (.fail 11, s)
  now s := s.clock

theorem TW.elapsed_bounds (ready : Bool) (el : Nat) (t : Int) :
    0 ≤ TW.elapsed ready el t ∨ t < 0 ∧ 0 ≤ TW.elapsed ready el t := by
  unfold TW.elapsed
  split
  · right; exact ⟨by assumption, Int.natCast_nonneg el⟩
  · left; split <;> omega

theorem TW.clockOk : ClockOk TW.world where
  wait_mono := by
    intro w d t
    have h : ∀ r el, 0 ≤ TW.elapsed r el t := fun r el => by
      rcases TW.elapsed_bounds r el t with h | h
      · exact h
      · exact h.2
    simp only [TW.world]
    split
    · have := h (‹Bool› || decide (t < 0)) ‹Nat›; simp only; omega
    · have := h (decide (t < 0)) 0; simp only; omega
  wait_le := by
    intro w d t ht
    have h : ∀ r el, TW.elapsed r el t ≤ t := fun r el => by
      unfold TW.elapsed
      rw [if_neg (by omega)]
      split <;> omega
    simp only [TW.world]
    split
    · have := h (‹Bool› || decide (t < 0)) ‹Nat›; simp only; omega
    · have := h (decide (t < 0)) 0; simp only; omega
  send_now := by
    intro w bs
    simp only [TW.world]
    split <;> rfl
  recv_now := by
    intro w n
    simp only [TW.world]
    split <;> rfl

theorem TW.unlimitedReady : UnlimitedReady TW.world := by
  intro w d t ht
  simp only [TW.world]
  split <;> simp [ht]

/-! ### COUNTER-MODEL (not the library, not used by any driver): `BioRead` that does not write the shrunken
budget back - the seeded change `seeded/C07_r4_agentH/patch.diff`.  Everything above the callback is copied
unchanged from `Model/Tls.lean`. -/
namespace Seeded

/-- `BioRead` of the seeded change: `sockpuppet::Receive(fd, …, remainingTime)` without `UnderDeadline` -/
def bioRead (W : World ω) (s : St σ ω) (n : Nat) : Out Bytes × St σ ω :=
  let r := Tls.bioRead W s n
  (r.1, { r.2 with g := { r.2.g with remainingTime := s.g.remainingTime } })

def interp (W : World ω) (s : St σ ω) : EngProg σ → Out (SslAns × Bytes) × St σ ω
  | .ret ans out e' => (.ok (ans, out), { s with e := e' })
  | .bioRead n k =>
    match bioRead W s n with
    | (.ok bs, s') => interp W s' (k (some bs))
    | (.exn e, s') => interp W (stash s' e) (k none)
    | (.abort m, s') => (.abort m, s')
  | .bioWrite bs k =>
    match bioWrite W s bs with
    | (.ok n, s') => interp W s' (k (some n))
    | (.exn e, s') => interp W (stash s' e) (k none)
    | (.abort m, s') => (.abort m, s')

def readRound (C : Cfg) (W : World ω) (E : Engine σ) (size : Nat) (i : Nat) (s : St σ ω) : Option (Out Bytes) × St σ ω :=
  match interp W s (E.sslRead s.e size) with
  | (.exn e, s') => (some (.exn e), s')
  | (.abort m, s') => (some (.abort m), s')
  | (.ok (ans, out), s1) =>
    let s1 := noteCall E s1 true [] ans
    match ans with
    | .done _ => (some (.ok out), s1)
    | _ =>
      match handleResult W s1 ans with
      | (.exn e, s2) => (some (.exn e), s2)
      | (.abort m, s2) => (some (.abort m), s2)
      | (.ok false, s2) => (some (.ok []), s2)
      | (.ok true, s2) =>
        if i = 0 ∧ C.asserts then (some (.abort "assert(i < handshakeStepsMax) in Read"), s2)
        else (none, s2)

def readLoop (C : Cfg) (W : World ω) (E : Engine σ) (size : Nat) : Nat → St σ ω → Out Bytes × St σ ω
  | 0, s => (.ok [], s)
  | i + 1, s =>
    match readRound C W E size i s with
    | (some o, s') => (o, s')
    | (none, s') => readLoop C W E size i s'

def tlsRead (C : Cfg) (W : World ω) (E : Engine σ) (s : St σ ω) (size : Nat) : Out Bytes × St σ ω :=
  match handleLastError W s with
  | (.ok true, s') => readLoop C W E size C.stepsMax s'
  | (.ok false, s') => (.ok [], s')
  | (.exn e, s') => (.exn e, s')
  | (.abort m, s') => (.abort m, s')

def receiveT (C : Cfg) (W : World ω) (E : Engine σ) (s : St σ ω) (size : Nat) (timeout : Int) : Out Bytes × St σ ω :=
  match tlsRead C W E (setTimeout s timeout) size with
  | (.ok [], s') =>
    if timeout < 0 ∧ C.asserts then (.abort "assert(timeout.count() >= 0) in Receive", s')
    else if C.fixRecvReset ∧ s'.g.lastError = .wantRead ∧ E.initFinished s'.e then
      (.ok [], setLastError s' .none)
    else (.ok [], s')
  | r => r

end Seeded

end SockModel.Tls
