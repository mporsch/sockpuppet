import SockModel.Model.TlsLemmas
/-!
What a round of the retry loops of Model/Tls.lean (`readLoop`, `drainLoop`, `writeLoop`) does when the engine's answer is
not `.done` (it goes through `handleResult`, then `afterRetry`), and what a successful round of `writeLoop` does, as
equations of the loop.  The source-derived tie (Props/C18Tie.lean) rewrites the model side with them, so that the answers
that are not `.done` (for `drainLoop`: nor `.zeroReturn`) are one case there.  With them two facts about answers the tie
needs beside: `SslAns.eq_done`, `shutRes_pos_iff`.
-/
namespace SockModel.Tls
open SockModel.Net

variable {σ ω : Type} {C : Cfg} {W : World ω} {E : Engine σ} {s s1 : St σ ω} {ans : SslAns} {out rest : Bytes}
  {size i k : Nat}

/-- how a retry loop goes on after `handleResult`: round again, stop, or fail.  Only a way of writing the equations below:
the model does not mention it. -/
def afterRetry {α : Type} (r : Out Bool × St σ ω) (again stop : St σ ω → Out α × St σ ω) : Out α × St σ ω :=
  match r with
  | (.ok true, s) => again s
  | (.ok false, s) => stop s
  | (.exn e, s) => (.exn e, s)
  | (.abort m, s) => (.abort m, s)

theorem SslAns.eq_done (hd : ans.isDone = true) : ∃ k, ans = .done k := by
  cases ans <;> first | exact ⟨_, rfl⟩ | cases hd

theorem readLoop_retry (hI : interp W s (E.sslRead s.e size) = (.ok (ans, out), s1)) (hd : ans.isDone = false)
    (hC : C.asserts = false) :
    readLoop C W E size (i + 1) s =
      afterRetry (handleResult W (noteCall E s1 true [] ans) ans) (readLoop C W E size i) (fun s2 => (.ok [], s2)) := by
  simp only [readLoop, readRound, afterRetry, hI, hC, Bool.false_eq_true, and_false, if_false]
  cases ans
  case done => cases hd
  all_goals rcases handleResult W _ _ with ⟨(_ | _) | x | m, s2⟩ <;> rfl

theorem drainLoop_retry (hI : interp W s (E.sslRead s.e shutdownBuf) = (.ok (ans, out), s1)) (hd : ans.isDone = false)
    (hz : ans ≠ .zeroReturn) :
    drainLoop W E (i + 1) s =
      afterRetry (handleResult W (noteCall E s1 true [] ans) ans) (drainLoop W E i) (shutFinish W E) := by
  simp only [drainLoop, afterRetry, hI]
  cases ans
  case done => cases hd
  case zeroReturn => exact absurd rfl hz
  all_goals rcases handleResult W _ _ with ⟨(_ | _) | x | m, s2⟩ <;> rfl

theorem writeLoop_done (hne : rest ≠ []) (hI : interp W s (E.sslWrite s.e rest) = (.ok (.done k, out), s1)) (hk : 0 < k)
    (hC : C.asserts = false) (hF : C.fixRoundReset = true) :
    writeLoop C W E (i + 1) rest s =
      writeLoop C W E C.stepsMax (rest.drop k) (setPending (noteCall E s1 false rest (.done k)) []) := by
  have hl : 0 < rest.length := List.length_pos_iff.mpr hne
  have hd : roundDecreases rest i (rest.drop k) C.stepsMax := Or.inl (by rw [List.length_drop]; omega)
  rw [writeLoop]
  simp only [hne, if_false, writeRound, hC, hI, hk, hF, Bool.false_eq_true, false_and, and_self, if_true, hd, dite_true]

theorem writeLoop_retry (hne : rest ≠ []) (hI : interp W s (E.sslWrite s.e rest) = (.ok (ans, out), s1))
    (hd : ans.isDone = false) (hC : C.asserts = false) :
    writeLoop C W E (i + 1) rest s =
      afterRetry (handleResult W (setPending (noteCall E s1 false rest ans) rest) ans) (writeLoop C W E i rest)
        (fun s3 => (.ok rest, s3)) := by
  have hr : roundDecreases rest i rest i := Or.inr ⟨rfl, Nat.le_refl _⟩
  rw [writeLoop]
  simp only [hne, if_false, writeRound, writeRetry, afterRetry, hC, hI, Bool.false_eq_true, false_and, and_false]
  cases ans
  case done => cases hd
  all_goals rcases handleResult W _ _ with ⟨(_ | _) | x | m, s3⟩ <;> simp only [hr, dite_true]

theorem shutRes_pos_iff (ans : SslAns) : 0 < shutRes ans ↔ ans.shutDone = true := by
  cases ans with
  | done k => cases k <;> simp [shutRes, SslAns.shutDone]
  | _ => simp [shutRes, SslAns.shutDone]

end SockModel.Tls
