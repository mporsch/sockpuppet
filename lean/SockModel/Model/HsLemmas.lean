import SockModel.Model.HsEngine
import SockModel.Model.TlsLemmas
/-!
Lemmas for the reference engine and the two-endpoint composition: an engine call on `chanWorld` (`hsRun_spec`), a glue call
with timeout 0 (`tlsRead_hs`, `tlsWrite_chan`), and `SysInv` seen from either side (`InvAt`, `step_spec`).
-/
namespace SockModel.Tls
open SockModel.Net

theorem writeLoop_stop {σ ω : Type} {C : Cfg} {W : World ω} {E : Engine σ} {i' : Nat} {rest : Bytes} {s s' : St σ ω}
    {o : Out Bytes} (hne : rest ≠ []) (h : writeRound C W E i' rest s = (.stop o, s')) :
    writeLoop C W E (i' + 1) rest s = (o, s') := by
  rw [writeLoop, if_neg hne, h]

end SockModel.Tls

namespace SockModel.Hs
open SockModel.Net SockModel.Tls

/-! ### bookkeeping -/

/-- handshake bytes this endpoint has written so far -/
def sent (P : HsP) (h : Hs) : Nat :=
  if h.client then
    (if h.stage = 0 then P.k1 - h.need else if h.stage = 1 then P.k1 else if h.stage = 2 then P.k1 + (P.k3 - h.need) else P.k1 + P.k3)
  else
    (if h.stage = 0 then 0 else if h.stage = 1 then P.k2 - h.need else P.k2)

/-- handshake bytes this endpoint has read so far -/
def rcvd (P : HsP) (h : Hs) : Nat :=
  if h.client then
    (if h.stage = 0 then 0 else if h.stage = 1 then P.k2 - h.need else P.k2)
  else
    (if h.stage = 0 then P.k1 - h.need else if h.stage = 1 then P.k1 else if h.stage = 2 then P.k1 + (P.k3 - h.need) else P.k1 + P.k3)

/-- what is left to do: bytes of the current and the later flights, plus the stages themselves -/
def work (P : HsP) (h : Hs) : Nat :=
  if h.stage = 0 then h.need + P.k2 + P.k3 + 3 else if h.stage = 1 then h.need + P.k3 + 2
  else if h.stage = 2 then h.need + 1 else 0

def WF (P : HsP) (h : Hs) : Prop :=
  (h.stage < 3 → 1 ≤ h.need ∧ h.need ≤ P.flight h.stage) ∧ (3 ≤ h.stage → h.need = 0)

theorem wf_init (P : HsP) (c : Bool) : WF P (Hs.init P c) := by
  have := P.h1
  simp [WF, Hs.init, HsP.flight]; omega

theorem work_init (P : HsP) (c : Bool) : work P (Hs.init P c) = P.k1 + P.k2 + P.k3 + 3 := by
  simp [work, Hs.init]

theorem work_lt_fuel (P : HsP) (h : Hs) (hw : WF P h) : work P h < fuel P := by
  obtain ⟨w1, w2⟩ := hw
  unfold work fuel
  by_cases h0 : h.stage = 0
  · have := w1 (by omega); simp only [h0, HsP.flight] at this; simp [h0]; omega
  · by_cases h1 : h.stage = 1
    · have := w1 (by omega); simp only [h1, HsP.flight] at this; simp [h1]; omega
    · by_cases h2 : h.stage = 2
      · have := w1 (by omega); simp only [h2, HsP.flight] at this; simp [h2]; omega
      · simp [h0, h1, h2]

/-- the effect of completing the current flight -/
theorem next_facts (P : HsP) (h : Hs) (hw : WF P h) (hs : h.stage < 3) :
    WF P (h.next P) ∧ (h.next P).client = h.client ∧ (h.next P).stage = h.stage + 1 ∧
    work P (h.next P) + h.need + 1 = work P h ∧
    (h.writes = true → sent P (h.next P) = sent P h + h.need ∧ rcvd P (h.next P) = rcvd P h) ∧
    (h.writes = false → rcvd P (h.next P) = rcvd P h + h.need ∧ sent P (h.next P) = sent P h) := by
  obtain ⟨w1, _⟩ := hw
  have hn := w1 hs
  have := P.h1; have := P.h2; have := P.h3
  rcases h with ⟨c, st, nd⟩
  simp only at hs hn
  have hst : st = 0 ∨ st = 1 ∨ st = 2 := by omega
  rcases hst with rfl | rfl | rfl <;> cases c <;>
    simp [WF, Hs.next, HsP.flight, work, sent, rcvd, Hs.writes] at hn ⊢ <;> omega

/-- the effect of reading `k` more bytes (not all) of the current flight -/
theorem part_facts (P : HsP) (h : Hs) (hw : WF P h) (hs : h.stage < 3) (hr : h.writes = false) (k : Nat)
    (hk1 : 1 ≤ k) (hk2 : k < h.need) :
    WF P { h with need := h.need - k } ∧ work P { h with need := h.need - k } + k = work P h ∧
    rcvd P { h with need := h.need - k } = rcvd P h + k ∧ sent P { h with need := h.need - k } = sent P h := by
  obtain ⟨w1, _⟩ := hw
  have hn := w1 hs
  rcases h with ⟨c, st, nd⟩
  simp only at hs hn hk2 hr
  have hst : st = 0 ∨ st = 1 ∨ st = 2 := by omega
  rcases hst with rfl | rfl | rfl <;> cases c <;>
    simp [WF, HsP.flight, work, sent, rcvd, Hs.writes] at hn hr ⊢ <;> omega

/-! ### the channel world -/

theorem pick_bounds (o : Option Nat) (want : Nat) (h : 1 ≤ want) : 1 ≤ pick o want ∧ pick o want ≤ want := by
  unfold pick
  split
  · split <;> omega
  · omega

@[simp] theorem out_addOut (c : Chan) (r : Bool) (n : Nat) : (c.addOut r n).out r = c.out r + n := by
  cases r <;> simp [Chan.addOut, Chan.out]
@[simp] theorem inb_addOut (c : Chan) (r : Bool) (n : Nat) : (c.addOut r n).inb r = c.inb r := by
  cases r <;> simp [Chan.addOut, Chan.inb]
@[simp] theorem out_takeIn (c : Chan) (r : Bool) (n : Nat) : (c.takeIn r n).out r = c.out r := by
  cases r <;> simp [Chan.takeIn, Chan.out]
@[simp] theorem inb_takeIn (c : Chan) (r : Bool) (n : Nat) : (c.takeIn r n).inb r = c.inb r - n := by
  cases r <;> simp [Chan.takeIn, Chan.inb]

/-! what the primitives of `chanWorld` compute (suffix `_0` / `wait0_`; `_T`: `chanWorldT`, `_block` / `bw_`: `blockWorld`) -/

theorem wait0_wr (r : Bool) (w : Chan) (t : Int) : (chanWorld r).wait w .wr t = (true, w) := rfl
theorem wait0_rd (r : Bool) (w : Chan) (t : Int) : (chanWorld r).wait w .rd t = (decide (0 < w.inb r), w) := rfl
theorem now_0 (r : Bool) (w : Chan) : (chanWorld r).now w = 0 := rfl
theorem send_0 (r : Bool) (w : Chan) (bs : Bytes) :
    (chanWorld r).send w bs = (.accept bs.length, w.addOut r bs.length) := rfl
theorem recv_0 (r : Bool) (w : Chan) (n : Nat) :
    (chanWorld r).recv w n = (.data (zeros (pick w.segs.head? (min n (w.inb r)))),
      w.takeIn r (pick w.segs.head? (min n (w.inb r)))) := rfl

theorem sendNow_full {ω : Type} (W : World ω) (w w' : ω) (bs : Bytes) (h : W.send w bs = (.accept bs.length, w')) :
    sendNow W w bs = ⟨bs.length, none, w'⟩ := by
  unfold sendNow
  rw [h]
  by_cases hb : bs = []
  · subst hb; simp
  · have : bs.length ≠ 0 := by simpa using hb
    simp [this]

theorem sendNow_0 (r : Bool) (w : Chan) (bs : Bytes) :
    sendNow (chanWorld r) w bs = ⟨bs.length, none, w.addOut r bs.length⟩ := sendNow_full _ _ _ _ rfl

theorem sendTry_0 (r : Bool) (w : Chan) (bs : Bytes) :
    sendTry (chanWorld r) w bs = ⟨bs.length, none, w.addOut r bs.length⟩ := by
  unfold sendTry; rw [wait0_wr]; exact sendNow_0 r w bs

/-- what `recvNow` does on either world, in terms of the channel alone -/
def recvOut (r : Bool) (ch : Chan) (n : Nat) : Option Bytes × Chan :=
  let k := pick ch.segs.head? (min n (ch.inb r))
  (if (zeros k).take n = [] then none else some ((zeros k).take n), ch.takeIn r k)

theorem recvNow_0 (r : Bool) (w : Chan) (n : Nat) :
    recvNow (chanWorld r) w n =
      match (recvOut r w n).1 with
      | none => .exn .closed (recvOut r w n).2
      | some bs => .got bs (recvOut r w n).2 := by
  unfold recvNow recvOut
  rw [recv_0]
  simp only
  split <;> simp_all

theorem receive_0 (r : Bool) (w : Chan) (n : Nat) (t : Int) :
    receive (chanWorld r) w n t = if 0 < w.inb r then recvNow (chanWorld r) w n else .nothing w := by
  unfold receive
  rw [wait0_rd]
  by_cases h : 0 < w.inb r <;> simp [h]

/-- the glue fields a synchronous zero-timeout call finds and leaves -/
def Calm (s : St Hs Chan) : Prop :=
  s.g.remainingTime = 0 ∧ s.g.isReadable = false ∧ s.g.isWritable = false ∧ s.g.pendingError = none

theorem zeros_length (n : Nat) : (zeros n).length = n := by simp [zeros]

theorem zeros_ne (k : Nat) (hk : 1 ≤ k) : zeros k ≠ [] := by
  intro h0
  have := congrArg List.length h0
  rw [zeros_length] at this
  simp at this; omega

theorem bioWrite_chan (r : Bool) (s : St Hs Chan) (hc : Calm s) (bs : Bytes) :
    ∃ s', bioWrite (chanWorld r) s bs = (.ok bs.length, s') ∧ Calm s' ∧ s'.e = s.e ∧
      s'.w = s.w.addOut r bs.length ∧ s'.g.lastError = s.g.lastError ∧ s'.g.pendingSend = s.g.pendingSend := by
  obtain ⟨h1, h2, h3, h4⟩ := hc
  by_cases hb : bs = []
  · subst hb
    simp [bioWrite, h3, h1, sendTry, chanWorld, sendNow, noteWrite, Calm, h2, h4]
  · have hl : bs.length ≠ 0 := by simpa using hb
    simp [bioWrite, h3, h1, sendTry, chanWorld, sendNow, noteWrite, Calm, h2, h4, hb, hl]

theorem bioRead_chan_empty (r : Bool) (s : St Hs Chan) (hc : Calm s) (n : Nat) (he : s.w.inb r = 0) :
    ∃ s', bioRead (chanWorld r) s n = (.ok [], s') ∧ Calm s' ∧ s'.e = s.e ∧ s'.w = s.w ∧
      s'.g.lastError = s.g.lastError ∧ s'.g.pendingSend = s.g.pendingSend := by
  obtain ⟨h1, h2, h3, h4⟩ := hc
  simp [bioRead, h2, h1, receive, chanWorld, he, Calm, h3, h4, underDeadline]

theorem bioRead_chan_data (r : Bool) (s : St Hs Chan) (hc : Calm s) (n : Nat) (hn : 1 ≤ n) (he : 0 < s.w.inb r) :
    ∃ k s', bioRead (chanWorld r) s n = (.ok (zeros k), s') ∧ 1 ≤ k ∧ k ≤ n ∧ k ≤ s.w.inb r ∧ Calm s' ∧ s'.e = s.e ∧
      s'.w = s.w.takeIn r k ∧ s'.g.lastError = s.g.lastError ∧ s'.g.pendingSend = s.g.pendingSend := by
  obtain ⟨h1, h2, h3, h4⟩ := hc
  have hp := pick_bounds s.w.segs.head? (min n (s.w.inb r)) (by omega)
  generalize hkdef : pick s.w.segs.head? (min n (s.w.inb r)) = k at hp
  have hk : 1 ≤ k := hp.1
  have hk2 : k ≤ n := by omega
  have htake : (zeros k).take n = zeros k := List.take_of_length_le (by rw [zeros_length]; exact hk2)
  have hne := zeros_ne k hk
  refine ⟨k, { s with w := s.w.takeIn r k, g := { s.g with remainingTime := 0 } }, ?_, hk, hk2, by omega, ?_, rfl, rfl, rfl, rfl⟩
  · simp only [bioRead, h2, Bool.false_eq_true, if_false, receive, chanWorld, he, decide_true, recvNow, hkdef, htake, h1,
      if_neg hne, underDeadline]
    simp
  · simp [Calm, h2, h3, h4]

/-! ### one engine call against the channel world -/

/-- how engine state and channels of endpoint `r` may move: forward only, and bytes are conserved
(exactly while the handshake is in progress; application records only add to the outgoing channel and
only take from the incoming one) -/
structure Tr (P : HsP) (r : Bool) (h0 : Hs) (w0 : Chan) (h : Hs) (w : Chan) : Prop where
  cl : h.client = h0.client
  st : h0.stage ≤ h.stage
  wk : work P h ≤ work P h0
  wf : WF P h
  outGe : w0.out r + sent P h ≤ w.out r + sent P h0
  outEq : h.stage < 3 → w.out r + sent P h0 = w0.out r + sent P h
  inGe : w.inb r + rcvd P h ≤ w0.inb r + rcvd P h0
  inEq : h.stage < 3 → w0.inb r + rcvd P h0 = w.inb r + rcvd P h
  outLe : w0.out r ≤ w.out r
  inLe : w.inb r ≤ w0.inb r

theorem Tr.refl (P : HsP) (r : Bool) (h : Hs) (w : Chan) (hw : WF P h) : Tr P r h w h w :=
  ⟨rfl, Nat.le_refl _, Nat.le_refl _, hw, Nat.le_refl _, fun _ => rfl, Nat.le_refl _, fun _ => rfl, Nat.le_refl _, Nat.le_refl _⟩

theorem Tr.trans {P : HsP} {r : Bool} {h0 h1 h2 : Hs} {w0 w1 w2 : Chan}
    (a : Tr P r h0 w0 h1 w1) (b : Tr P r h1 w1 h2 w2) : Tr P r h0 w0 h2 w2 := by
  refine ⟨b.cl.trans a.cl, Nat.le_trans a.st b.st, Nat.le_trans b.wk a.wk, b.wf, ?_, ?_, ?_, ?_,
    Nat.le_trans a.outLe b.outLe, Nat.le_trans b.inLe a.inLe⟩
  · have := a.outGe; have := b.outGe; omega
  · intro h
    have h1' : h1.stage < 3 := by have := b.st; omega
    have := a.outEq h1'; have := b.outEq h; omega
  · have := a.inGe; have := b.inGe; omega
  · intro h
    have h1' : h1.stage < 3 := by have := b.st; omega
    have := a.inEq h1'; have := b.inEq h; omega

theorem Tr.wrote (P : HsP) (r : Bool) (h : Hs) (w : Chan) (hw : WF P h) (hs : h.stage < 3) (hwr : h.writes = true) :
    Tr P r h w (h.next P) (w.addOut r h.need) := by
  obtain ⟨nwf, ncl, nst, nwork, nwr, _⟩ := next_facts P h hw hs
  obtain ⟨hs1, hs2⟩ := nwr hwr
  exact ⟨ncl, by omega, by omega, nwf, by simp; omega, by intro _; simp; omega, by simp; omega, by intro _; simp; omega,
    by simp, by simp⟩

theorem Tr.readAll (P : HsP) (r : Bool) (h : Hs) (w : Chan) (hw : WF P h) (hs : h.stage < 3) (hwr : h.writes = false)
    (hle : h.need ≤ w.inb r) : Tr P r h w (h.next P) (w.takeIn r h.need) := by
  obtain ⟨nwf, ncl, nst, nwork, _, nrd⟩ := next_facts P h hw hs
  obtain ⟨hr1, hr2⟩ := nrd hwr
  exact ⟨ncl, by omega, by omega, nwf, by simp; omega, by intro _; simp; omega, by simp; omega, by intro _; simp; omega,
    by simp, by simp⟩

theorem Tr.readPart (P : HsP) (r : Bool) (h : Hs) (w : Chan) (hw : WF P h) (hs : h.stage < 3) (hwr : h.writes = false)
    (k : Nat) (hk1 : 1 ≤ k) (hk2 : k < h.need) (hle : k ≤ w.inb r) :
    Tr P r h w { h with need := h.need - k } (w.takeIn r k) := by
  obtain ⟨pwf, pwork, prc, psn⟩ := part_facts P h hw hs hwr k hk1 hk2
  exact ⟨rfl, Nat.le_refl _, by omega, pwf, by simp; omega, by intro _; simp; omega, by simp; omega, by intro _; simp; omega,
    by simp, by simp⟩

theorem Tr.appOut (P : HsP) (r : Bool) (h : Hs) (w : Chan) (hw : WF P h) (hfin : 3 ≤ h.stage) (n : Nat) :
    Tr P r h w h (w.addOut r n) :=
  ⟨rfl, Nat.le_refl _, Nat.le_refl _, hw, by simp, by intro h; omega, by simp, by intro h; omega, by simp, by simp⟩

theorem Tr.appIn (P : HsP) (r : Bool) (h : Hs) (w : Chan) (hw : WF P h) (hfin : 3 ≤ h.stage) (k : Nat) :
    Tr P r h w h (w.takeIn r k) :=
  ⟨rfl, Nat.le_refl _, Nat.le_refl _, hw, by simp, by intro h; omega, by simp, by intro h; omega, by simp, by simp⟩

/-- `D k out` describes a success, `R h` what else is known of the engine when it answers WANT_READ (`sslWrite_spec`: it
is then still in its handshake) -/
def AnsOK (D : Nat → Bytes → Prop) (R : Hs → Prop) (r : Bool) (ans : SslAns) (out : Bytes) (h : Hs) (w : Chan) : Prop :=
  match ans with
  | .wantRead => w.inb r = 0 ∧ (h.stage < 3 → h.writes = false) ∧ R h
  | .done k => 3 ≤ h.stage ∧ D k out
  | _ => False

/-- what one engine call (or the rest of one) does, seen from state `s` with the engine at `h0`; last conjunct: the work
falls if the engine could progress -/
def Res (P : HsP) (D : Nat → Bytes → Prop) (R : Hs → Prop) (r : Bool) (s : St Hs Chan) (h0 : Hs)
    (res : Out (SslAns × Bytes) × St Hs Chan) : Prop :=
  ∃ ans out s', res = (.ok (ans, out), s') ∧ Calm s' ∧ s'.g.lastError = s.g.lastError ∧
    s'.g.pendingSend = s.g.pendingSend ∧ Tr P r h0 s.w s'.e s'.w ∧ AnsOK D R r ans out s'.e s'.w ∧
    (h0.stage < 3 → (h0.writes = true ∨ 0 < s.w.inb r) → work P s'.e < work P h0)

theorem Res.chain {P : HsP} {D : Nat → Bytes → Prop} {R : Hs → Prop} {r : Bool} {s s1 : St Hs Chan} {h h1 : Hs}
    {res : Out (SslAns × Bytes) × St Hs Chan}
    (hle : s1.g.lastError = s.g.lastError) (hpe : s1.g.pendingSend = s.g.pendingSend)
    (t : Tr P r h s.w h1 s1.w) (hprog : work P h1 < work P h)
    (hr : Res P D R r s1 h1 res) : Res P D R r s h res := by
  obtain ⟨ans, out, s', e1, c1, l1, p1, t1, a1, _⟩ := hr
  refine ⟨ans, out, s', e1, c1, l1.trans hle, p1.trans hpe, t.trans t1, a1, ?_⟩
  intro _ _
  have := t1.wk
  omega

theorem hsRun_spec (P : HsP) (D : Nat → Bytes → Prop) (R : Hs → Prop) (hR : ∀ h, h.stage < 3 → R h) (r : Bool)
    (k : Hs → EngProg Hs)
    (hk : ∀ s1 h1, Calm s1 → 3 ≤ h1.stage → h1.client = r → WF P h1 → Res P D R r s1 h1 (interp (chanWorld r) s1 (k h1))) :
    ∀ (f : Nat) (h : Hs) (s : St Hs Chan), work P h < f → WF P h → h.client = r → Calm s →
      Res P D R r s h (interp (chanWorld r) s (hsRun P f h k)) := by
  intro f
  induction f with
  | zero => intro h s hf; omega
  | succ f ih =>
    intro h s hf hw hcl hc
    unfold hsRun
    by_cases hfin : 3 ≤ h.stage
    · rw [if_pos hfin]
      exact hk s h hc hfin hcl hw
    · rw [if_neg hfin]
      have hs3 : h.stage < 3 := by omega
      have hneed := hw.1 hs3
      obtain ⟨nwf, ncl, nst, nwork, nwr, nrd⟩ := next_facts P h hw hs3
      by_cases hwr : h.writes = true
      · -- a flight to write: the channel takes all of it
        rw [if_pos hwr]
        obtain ⟨s1, e1, c1, ee1, w1, l1, p1⟩ := bioWrite_chan r s hc (zeros h.need)
        rw [zeros_length] at e1 w1
        simp only [interp, e1, Nat.le_refl, if_true]
        obtain ⟨hs1, hs2⟩ := nwr hwr
        have t : Tr P r h s.w (h.next P) s1.w := by rw [w1]; exact Tr.wrote P r h s.w hw hs3 hwr
        exact Res.chain l1 p1 t (by omega) (ih (h.next P) s1 (by omega) nwf (ncl.trans hcl) c1)
      · -- a flight to read
        have hwr' : h.writes = false := by simpa using hwr
        rw [if_neg hwr]
        obtain ⟨hr1, hr2⟩ := nrd hwr'
        by_cases hin : s.w.inb r = 0
        · obtain ⟨s1, e1, c1, ee1, w1, l1, p1⟩ := bioRead_chan_empty r s hc h.need hin
          simp only [interp, e1, List.length_nil, if_true]
          refine ⟨.wantRead, [], { s1 with e := h }, rfl, c1, l1, p1, ?_, ?_, ?_⟩
          · simp only; rw [w1]; exact Tr.refl P r h s.w hw
          · simp only [AnsOK]; rw [w1]; exact ⟨hin, fun _ => hwr', hR h hs3⟩
          · intro _ hor
            rcases hor with h1 | h1
            · rw [hwr'] at h1; cases h1
            · omega
        · have hin' : 0 < s.w.inb r := by omega
          obtain ⟨k0, s1, e1, k1, k2, k3, c1, ee1, w1, l1, p1⟩ := bioRead_chan_data r s hc h.need hneed.1 hin'
          have hk00 : k0 ≠ 0 := by omega
          simp only [interp, e1, zeros_length, hk00, if_false]
          by_cases hall : h.need ≤ k0
          · rw [if_pos hall]
            have hk0 : k0 = h.need := by omega
            have t : Tr P r h s.w (h.next P) s1.w := by
              rw [w1, hk0]; exact Tr.readAll P r h s.w hw hs3 hwr' (by omega)
            exact Res.chain l1 p1 t (by omega) (ih (h.next P) s1 (by omega) nwf (ncl.trans hcl) c1)
          · rw [if_neg hall]
            obtain ⟨pwf, pwork, prc, psn⟩ := part_facts P h hw hs3 hwr' k0 k1 (by omega)
            have t : Tr P r h s.w { h with need := h.need - k0 } s1.w := by
              rw [w1]; exact Tr.readPart P r h s.w hw hs3 hwr' k0 k1 (by omega) k3
            exact Res.chain l1 p1 t (by omega) (ih { h with need := h.need - k0 } s1 (by omega) pwf hcl c1)

theorem sslWrite_spec (P : HsP) (r : Bool) (s : St Hs Chan) (d : Bytes) (hd : d ≠ []) (hc : Calm s)
    (hw : WF P s.e) (hcl : s.e.client = r) :
    Res P (fun k _ => k = d.length) (fun h => h.stage < 3) r s s.e (interp (chanWorld r) s ((engine P).sslWrite s.e d)) := by
  apply hsRun_spec P _ _ (fun _ h => h) r (appWrite d) _ (fuel P) s.e s (work_lt_fuel P s.e hw) hw hcl hc
  intro s1 h1 c1 hfin _ hw1
  obtain ⟨s2, e2, c2, _, w2, l2, p2⟩ := bioWrite_chan r s1 c1 d
  have hl : d.length ≠ 0 := by simpa using hd
  simp only [appWrite, interp, e2, hl, if_false]
  refine ⟨.done d.length, [], { s2 with e := h1 }, rfl, c2, l2, p2, ?_, ⟨hfin, rfl⟩, by intro h; omega⟩
  simp only; rw [w2]
  exact Tr.appOut P r h1 s1.w hw1 hfin _

theorem sslRead_spec (P : HsP) (r : Bool) (s : St Hs Chan) (n : Nat) (hn : 1 ≤ n) (hc : Calm s)
    (hw : WF P s.e) (hcl : s.e.client = r) :
    Res P (fun k out => 1 ≤ k ∧ out ≠ []) (fun _ => True) r s s.e (interp (chanWorld r) s ((engine P).sslRead s.e n)) := by
  apply hsRun_spec P _ _ (fun _ _ => trivial) r (appRead n) _ (fuel P) s.e s (work_lt_fuel P s.e hw) hw hcl hc
  intro s1 h1 c1 hfin _ hw1
  by_cases hin : s1.w.inb r = 0
  · obtain ⟨s2, e2, c2, _, w2, l2, p2⟩ := bioRead_chan_empty r s1 c1 n hin
    simp only [appRead, interp, e2, List.length_nil, if_true]
    refine ⟨.wantRead, [], { s2 with e := h1 }, rfl, c2, l2, p2, ?_, ?_, by intro h; omega⟩
    · simp only; rw [w2]; exact Tr.refl P r h1 s1.w hw1
    · simp only [AnsOK]; rw [w2]; exact ⟨hin, (by intro h; omega), trivial⟩
  · obtain ⟨k0, s2, e2, k1, k2, k3, c2, _, w2, l2, p2⟩ := bioRead_chan_data r s1 c1 n hn (by omega)
    have hk00 : k0 ≠ 0 := by omega
    simp only [appRead, interp, e2, zeros_length, hk00, if_false]
    have hne := zeros_ne k0 k1
    refine ⟨.done k0, zeros k0, { s2 with e := h1 }, rfl, c2, l2, p2, ?_, ⟨hfin, k1, hne⟩, by intro h; omega⟩
    simp only; rw [w2]
    exact Tr.appIn P r h1 s1.w hw1 hfin _

/-! ### one API call (timeout 0) of an endpoint -/

/-- what a synchronous endpoint looks like between calls -/
def SideInv (P : HsP) (r : Bool) (data : Bytes) (s : St Hs Chan) : Prop :=
  s.g.isReadable = false ∧ s.g.isWritable = false ∧ s.g.pendingError = none ∧ s.e.client = r ∧ WF P s.e ∧
  (s.g.lastError = .none ∨ s.g.lastError = .wantRead) ∧
  (s.g.lastError = .wantRead → s.e.stage < 3 → s.e.writes = false) ∧
  (s.g.pendingSend = [] ∨ s.g.pendingSend = data)

/-- the endpoint can move its handshake on: it has a flight to write, or bytes to read are there -/
def CanProg (r : Bool) (h : Hs) (w : Chan) : Prop := h.stage < 3 ∧ (h.writes = true ∨ 0 < w.inb r)

/-- what a zero-timeout `Send` / `Receive` does: no exception, and `Good` -/
def CallRes (P : HsP) (r : Bool) (data : Bytes) (s0 : St Hs Chan) (res : Bool × St Hs Chan) : Prop :=
  res.1 = true ∧ SideInv P r data res.2 ∧ Tr P r s0.e s0.w res.2.e res.2.w ∧
  (CanProg r s0.e s0.w → work P res.2.e < work P s0.e)

theorem handleLastError_wantRead (r : Bool) (s : St Hs Chan) (hl : s.g.lastError = .wantRead) :
    handleLastError (chanWorld r) s =
      if 0 < s.w.inb r then (.ok true, setLastError (waitUnder (chanWorld r) s .rd).2 .none)
      else (.ok false, (waitUnder (chanWorld r) s .rd).2) := by
  have hw : waitUnder (chanWorld r) s .rd = (decide (0 < s.w.inb r), (waitUnder (chanWorld r) s .rd).2) := rfl
  simp only [handleLastError, hl, handleError]
  rw [hw]
  by_cases hin : 0 < s.w.inb r <;> simp [hin]

/-- `HandleLastError` at the start of a call with timeout 0: either the call goes on (state calm, no error
cached), or it is over at once, engine and channels untouched - which happens only when a read is awaited and nothing
is there -/
theorem gate (P : HsP) (r : Bool) (data : Bytes) (s : St Hs Chan) (hi : SideInv P r data s) :
    (∃ s1, handleLastError (chanWorld r) (setTimeout s 0) = (.ok true, s1) ∧ Calm s1 ∧ s1.e = s.e ∧ s1.w = s.w ∧
      s1.g.lastError = .none ∧ s1.g.pendingSend = s.g.pendingSend ∧ (s.g.lastError = .none ∨ 0 < s.w.inb r)) ∨
    (∃ s1, handleLastError (chanWorld r) (setTimeout s 0) = (.ok false, s1) ∧ SideInv P r data s1 ∧ s1.e = s.e ∧
      s1.w = s.w ∧ s1.g.lastError = .wantRead ∧ s.g.lastError = .wantRead ∧ s.w.inb r = 0) := by
  obtain ⟨h1, h2, h3, h4, h5, h6, h7, h8⟩ := hi
  rcases h6 with hl | hl
  · left
    refine ⟨setLastError (setTimeout s 0) .none, ?_, ⟨rfl, h1, h2, h3⟩, rfl, rfl, rfl, rfl, Or.inl hl⟩
    simp [handleLastError, setTimeout, hl, handleError]
  · rw [handleLastError_wantRead r (setTimeout s 0) hl]
    by_cases hin : 0 < s.w.inb r
    · left
      exact ⟨_, if_pos hin, ⟨rfl, h1, h2, h3⟩, rfl, rfl, rfl, rfl, Or.inr hin⟩
    · right
      exact ⟨_, if_neg hin, ⟨h1, h2, h3, h4, h5, Or.inr hl, h7, h8⟩, rfl, rfl, hl, hl, by omega⟩

theorem gated_no_progress (P : HsP) (r : Bool) (data : Bytes) (s : St Hs Chan) (hi : SideInv P r data s)
    (hl : s.g.lastError = .wantRead) (hin : s.w.inb r = 0) : ¬ CanProg r s.e s.w := by
  intro hcp
  rcases hcp.2 with hwr | hpos
  · have := hi.2.2.2.2.2.2.1 hl hcp.1; rw [this] at hwr; cases hwr
  · omega

theorem handleResult_blocked (r : Bool) (s : St Hs Chan) (hc : Calm s) (hin : s.w.inb r = 0) :
    ∃ s', handleResult (chanWorld r) s .wantRead = (.ok false, s') ∧ Calm s' ∧ s'.e = s.e ∧ s'.w = s.w ∧
      s'.g.lastError = .wantRead ∧ s'.g.pendingSend = s.g.pendingSend := by
  obtain ⟨h1, h2, h3, h4⟩ := hc
  refine ⟨(waitUnder (chanWorld r) (setLastError s .wantRead) .rd).2, ?_, ?_, rfl, rfl, rfl, rfl⟩
  · simp only [handleResult, h4, SslAns.toErr]
    rw [handleLastError_wantRead r _ rfl]
    exact if_neg (by show ¬ 0 < s.w.inb r; omega)
  · simp [Calm, setLastError, waitUnder, underDeadline, h1, h2, h3, h4]

theorem sideInv_setNone (P : HsP) (r : Bool) (data : Bytes) (s : St Hs Chan) (hi : SideInv P r data s) :
    SideInv P r data (setLastError s .none) := by
  obtain ⟨h1, h2, h3, h4, h5, _, _, h8⟩ := hi
  exact ⟨h1, h2, h3, h4, h5, Or.inl rfl, (by intro h; cases h), h8⟩

/-- after a call, an unfinished engine is waiting for a flight, and the glue knows it -/
def Tight (s : St Hs Chan) : Prop := s.e.stage < 3 → s.g.lastError = .wantRead

theorem tlsRead_hs (C : Cfg) (hC : 0 < C.stepsMax) (P : HsP) (r : Bool) (data : Bytes) (n : Nat) (hn : 1 ≤ n)
    (s : St Hs Chan) (hi : SideInv P r data s) :
    ∃ bs s', tlsRead C (chanWorld r) (engine P) (setTimeout s 0) n = (.ok bs, s') ∧ SideInv P r data s' ∧
      Tr P r s.e s.w s'.e s'.w ∧ (CanProg r s.e s.w → work P s'.e < work P s.e) ∧ Tight s' ∧
      (bs ≠ [] → 3 ≤ s'.e.stage ∧ s'.g.lastError = .none) := by
  obtain ⟨i, hi1⟩ : ∃ i, C.stepsMax = i + 1 := ⟨C.stepsMax - 1, by omega⟩
  simp only [tlsRead]
  rcases gate P r data s hi with ⟨s1, e1, c1, ee1, w1, l1, p1, _⟩ | ⟨s1, e1, i1, ee1, w1, l1', l1, hin⟩
  · -- the call goes on: one round of the read loop
    rw [e1, hi1]
    simp only [readLoop, readRound]
    obtain ⟨ans, out, s2, e2, c2, l2, p2, t2, a2, g2⟩ := sslRead_spec P r s1 n hn c1 (by rw [ee1]; exact hi.2.2.2.2.1) (by rw [ee1]; exact hi.2.2.2.1)
    rw [e2]
    rw [ee1, w1] at t2 g2
    have hcl2 : s2.e.client = r := t2.cl.trans hi.2.2.2.1
    have hpend : s2.g.pendingSend = [] ∨ s2.g.pendingSend = data := by rw [p2, p1]; exact hi.2.2.2.2.2.2.2
    cases ans with
    | done k =>
      obtain ⟨hfin, _, hne⟩ := a2
      have hl2 : (noteCall (engine P) s2 true [] (.done k)).g.lastError = .none := by
        show s2.g.lastError = _; rw [l2, l1]
      have hside : SideInv P r data (noteCall (engine P) s2 true [] (.done k)) :=
        ⟨c2.2.1, c2.2.2.1, c2.2.2.2, hcl2, t2.wf, Or.inl hl2,
          (by intro h; rw [hl2] at h; cases h), hpend⟩
      exact ⟨out, _, rfl, hside, t2, fun hcp => g2 hcp.1 hcp.2, (by intro h; exact absurd (show s2.e.stage < 3 from h) (by omega)),
        fun _ => ⟨hfin, hl2⟩⟩
    | wantRead =>
      obtain ⟨hin2, hnw, _⟩ := a2
      obtain ⟨s3, e3, c3, ee3, w3, l3, p3⟩ := handleResult_blocked r (noteCall (engine P) s2 true [] .wantRead) c2 hin2
      simp only [e3]
      have hside : SideInv P r data s3 :=
        ⟨c3.2.1, c3.2.2.1, c3.2.2.2, by rw [ee3]; exact hcl2, by rw [ee3]; exact t2.wf, Or.inr l3,
          by intro _; rw [ee3]; exact hnw, by rw [p3]; exact hpend⟩
      have ht : Tr P r s.e s.w s3.e s3.w := by rw [ee3, w3]; exact t2
      exact ⟨[], s3, rfl, hside, ht, (fun hcp => by rw [ee3]; exact g2 hcp.1 hcp.2), fun _ => l3, fun h => absurd rfl h⟩
    | wantWrite => exact absurd a2 (by simp [AnsOK])
    | zeroReturn => exact absurd a2 (by simp [AnsOK])
    | syscallErr => exact absurd a2 (by simp [AnsOK])
    | sslErr => exact absurd a2 (by simp [AnsOK])
  · -- nothing to read and a read is awaited: the call is over at once
    rw [e1]
    have ht : Tr P r s.e s.w s1.e s1.w := by rw [ee1, w1]; exact Tr.refl P r s.e s.w hi.2.2.2.2.1
    exact ⟨[], s1, rfl, i1, ht, fun hcp => absurd hcp (gated_no_progress P r data s hi l1 hin), fun _ => l1',
      fun h => absurd rfl h⟩

theorem recv_spec (C : Cfg) (hC : 0 < C.stepsMax) (P : HsP) (r : Bool) (data : Bytes) (n : Nat) (hn : 1 ≤ n)
    (s : St Hs Chan) (hi : SideInv P r data s) : CallRes P r data s (callOn C P r s (.recv n)) := by
  obtain ⟨bs, s', e, hside, ht, hp, _, _⟩ := tlsRead_hs C hC P r data n hn s hi
  simp only [callOn, receiveT, e]
  cases bs with
  | nil =>
    simp only [Int.lt_irrefl, false_and, if_false]
    split
    · exact ⟨rfl, sideInv_setNone P r data s' hside, ht, hp⟩
    · exact ⟨rfl, hside, ht, hp⟩
  | cons b bs => exact ⟨rfl, hside, ht, hp⟩

/-- what a call has achieved so far, relative to its entry state `s0` -/
def Good (P : HsP) (r : Bool) (data : Bytes) (s0 s' : St Hs Chan) : Prop :=
  SideInv P r data s' ∧ Tr P r s0.e s0.w s'.e s'.w ∧ (CanProg r s0.e s0.w → work P s'.e < work P s0.e)

/-- the first (and only effective) round of `Write` of a zero-timeout `Send` -/
theorem writeRound_hs (C : Cfg) (P : HsP) (r : Bool) (data : Bytes) (hd : data ≠ []) (s0 s1 : St Hs Chan)
    (hi : SideInv P r data s0) (c1 : Calm s1) (ee1 : s1.e = s0.e) (w1 : s1.w = s0.w) (l1 : s1.g.lastError = .none)
    (p1 : s1.g.pendingSend = s0.g.pendingSend) (i' : Nat) (hi' : 1 ≤ i') :
    (∃ j s2, writeRound C (chanWorld r) (engine P) i' data s1 = (.again j [], s2) ∧ Good P r data s0 s2 ∧
      3 ≤ s2.e.stage ∧ s2.g.lastError = .none ∧ s2.g.pendingSend = []) ∨
    (∃ s3, writeRound C (chanWorld r) (engine P) i' data s1 = (.stop (.ok data), s3) ∧ Good P r data s0 s3 ∧
      s3.g.lastError = .wantRead ∧ s3.e.stage < 3) := by
  have hp0 : s1.g.pendingSend = [] ∨ s1.g.pendingSend = data := by rw [p1]; exact hi.2.2.2.2.2.2.2
  unfold writeRound
  rw [if_neg (by intro h; exact h.2 (hp0.imp id (congrArg List.length)))]
  obtain ⟨ans, out, s2, e2, c2, l2, p2, t2, a2, g2⟩ :=
    sslWrite_spec P r s1 data hd c1 (by rw [ee1]; exact hi.2.2.2.2.1) (by rw [ee1]; exact hi.2.2.2.1)
  rw [e2]
  rw [ee1, w1] at t2 g2
  have hcl2 : s2.e.client = r := t2.cl.trans hi.2.2.2.1
  cases ans with
  | done k =>
    obtain ⟨hfin, hk⟩ := a2
    left
    have hdrop : data.drop k = [] := by rw [hk]; simp
    have hl : (setPending (noteCall (engine P) s2 false data (.done k)) []).g.lastError = .none := by
      show s2.g.lastError = _; rw [l2, l1]
    have hgood : Good P r data s0 (setPending (noteCall (engine P) s2 false data (.done k)) []) :=
      ⟨⟨c2.2.1, c2.2.2.1, c2.2.2.2, hcl2, t2.wf, Or.inl hl,
        (by intro h; rw [hl] at h; cases h), Or.inl rfl⟩,
       t2, fun hcp => g2 hcp.1 hcp.2⟩
    simp only
    by_cases hb : 0 < k ∧ C.fixRoundReset = true
    · rw [if_pos hb, hdrop]; exact ⟨_, _, rfl, hgood, hfin, hl, rfl⟩
    · rw [if_neg hb, if_neg (by intro h; omega), hdrop]; exact ⟨_, _, rfl, hgood, hfin, hl, rfl⟩
  | wantRead =>
    obtain ⟨hin2, hnw, hlt⟩ := a2
    right
    obtain ⟨s3, e3, c3, ee3, w3, l3, p3⟩ :=
      handleResult_blocked r (setPending (noteCall (engine P) s2 false data .wantRead) data) c2 hin2
    simp only [writeRetry, e3]
    exact ⟨s3, rfl, ⟨⟨c3.2.1, c3.2.2.1, c3.2.2.2, by rw [ee3]; exact hcl2, by rw [ee3]; exact t2.wf, Or.inr l3,
      by intro _; rw [ee3]; exact hnw, Or.inr (by rw [p3]; rfl)⟩, by rw [ee3, w3]; exact t2,
      fun hcp => by rw [ee3]; exact g2 hcp.1 hcp.2⟩, l3, by rw [ee3]; exact hlt⟩
  | wantWrite => exact absurd a2 (by simp [AnsOK])
  | zeroReturn => exact absurd a2 (by simp [AnsOK])
  | syscallErr => exact absurd a2 (by simp [AnsOK])
  | sslErr => exact absurd a2 (by simp [AnsOK])

theorem tlsWrite_chan (C : Cfg) (hC : 1 < C.stepsMax) (P : HsP) (r : Bool) (data : Bytes) (hd : data ≠ [])
    (s : St Hs Chan) (hi : SideInv P r data s) :
    ∃ k s', tlsWrite C (chanWorld r) (engine P) (setTimeout s 0) data = (.ok k, s') ∧ SideInv P r data s' ∧
      Tr P r s.e s.w s'.e s'.w ∧ (CanProg r s.e s.w → work P s'.e < work P s.e) ∧ Tight s' ∧
      ((k = data.length ∧ 3 ≤ s'.e.stage ∧ s'.g.lastError = .none ∧ s'.g.pendingSend = []) ∨
       (k = 0 ∧ s'.g.lastError = .wantRead ∧ (s'.e.stage < 3 ∨ s.g.lastError = .wantRead))) := by
  simp only [tlsWrite]
  rcases gate P r data s hi with ⟨s1, e1, c1, ee1, w1, l1, p1, _⟩ | ⟨s1, e1, i1, ee1, w1, l1', l1, hin⟩
  · rw [e1]
    simp only
    have hloop := writeLoop_rule C (chanWorld r) (engine P)
      (fun i rest s' => (rest = data ∧ s' = s1 ∧ 1 < i) ∨ (rest = [] ∧ Good P r data s s' ∧ 3 ≤ s'.e.stage ∧ s'.g.lastError = .none ∧ s'.g.pendingSend = []))
      (fun o s' => Good P r data s s' ∧ ((o = .ok [] ∧ 3 ≤ s'.e.stage ∧ s'.g.lastError = .none ∧ s'.g.pendingSend = []) ∨
        (o = .ok data ∧ s'.g.lastError = .wantRead ∧ s'.e.stage < 3)))
      (by intro i rest s' h hex
          rcases h with ⟨h1, _, h3⟩ | ⟨h1, h2, h3⟩
          · rcases hex with h0 | h0
            · omega
            · exact absurd (h1 ▸ h0) hd
          · exact ⟨h2, Or.inl ⟨by rw [h1], h3⟩⟩)
      (by intro i' rest s' o s'' h hne heq
          rcases h with ⟨h1, h2, h3⟩ | ⟨h1, _⟩
          · subst h1; subst h2
            rcases writeRound_hs C P r rest hd s s' hi c1 ee1 w1 l1 p1 i' (by omega) with ⟨j, s2, hr, _⟩ | ⟨s3, hr, hg, hl⟩
            · rw [hr] at heq; simp at heq
            · rw [hr] at heq
              simp only [Prod.mk.injEq, Next.stop.injEq] at heq
              obtain ⟨rfl, rfl⟩ := heq
              exact ⟨hg, Or.inr ⟨rfl, hl⟩⟩
          · exact absurd h1 hne)
      (by intro i' rest s' j rest' s'' h hne heq
          rcases h with ⟨h1, h2, h3⟩ | ⟨h1, _⟩
          · subst h1; subst h2
            rcases writeRound_hs C P r rest hd s s' hi c1 ee1 w1 l1 p1 i' (by omega) with ⟨j2, s2, hr, hg, hf, hl, hpd⟩ | ⟨s3, hr, _, _⟩
            · rw [hr] at heq
              simp only [Prod.mk.injEq, Next.again.injEq] at heq
              obtain ⟨⟨_, rfl⟩, rfl⟩ := heq
              exact Or.inr ⟨rfl, hg, hf, hl, hpd⟩
            · rw [hr] at heq; simp at heq
          · exact absurd h1 hne)
      C.stepsMax data s1 (Or.inl ⟨rfl, rfl, hC⟩)
    rcases hw : writeLoop C (chanWorld r) (engine P) C.stepsMax data s1 with ⟨o, s''⟩
    rw [hw] at hloop
    obtain ⟨⟨hside, ht, hp⟩, hcase⟩ := hloop
    rcases hcase with ⟨ho, hf, hl, hpd⟩ | ⟨ho, hl, hlt⟩
    · simp only at ho
      subst ho
      exact ⟨_, s'', rfl, hside, ht, hp, (by intro h; have hf' : 3 ≤ s''.e.stage := hf; omega), Or.inl ⟨by simp, hf, hl, hpd⟩⟩
    · simp only at ho
      subst ho
      exact ⟨_, s'', rfl, hside, ht, hp, fun _ => hl, Or.inr ⟨by simp, hl, Or.inl hlt⟩⟩
  · rw [e1]
    exact ⟨0, s1, rfl, i1, by rw [ee1, w1]; exact Tr.refl P r s.e s.w hi.2.2.2.2.1,
      fun hcp => absurd hcp (gated_no_progress P r data s hi l1 hin), fun _ => l1', Or.inr ⟨rfl, l1', Or.inr l1⟩⟩

/-- `tlsWrite_chan` with the "nothing taken" case reduced to `k = 0` -/
theorem tlsWrite_hs (C : Cfg) (hC : 1 < C.stepsMax) (P : HsP) (r : Bool) (data : Bytes) (hd : data ≠ [])
    (s : St Hs Chan) (hi : SideInv P r data s) :
    ∃ k s', tlsWrite C (chanWorld r) (engine P) (setTimeout s 0) data = (.ok k, s') ∧ SideInv P r data s' ∧
      Tr P r s.e s.w s'.e s'.w ∧ (CanProg r s.e s.w → work P s'.e < work P s.e) ∧ Tight s' ∧
      ((k = data.length ∧ 3 ≤ s'.e.stage ∧ s'.g.lastError = .none ∧ s'.g.pendingSend = []) ∨ k = 0) := by
  obtain ⟨k, s', e, h1, h2, h3, h4, h5⟩ := tlsWrite_chan C hC P r data hd s hi
  exact ⟨k, s', e, h1, h2, h3, h4, h5.imp id (·.1)⟩

theorem sendT_chan (C : Cfg) (P : HsP) (r : Bool) (data : Bytes) (s s' : St Hs Chan) (k : Nat)
    (e : tlsWrite C (chanWorld r) (engine P) (setTimeout s 0) data = (.ok k, s')) (hside : SideInv P r data s') :
    sendT C (chanWorld r) (engine P) s data 0 = (.ok k, s') := by
  have hnw : s'.g.lastError ≠ .wantWrite := by
    rcases hside.2.2.2.2.2.1 with h | h <;> rw [h] <;> simp
  simp only [sendT, e]
  rw [if_neg (by intro h; exact hnw h.2.1)]

theorem send_spec (C : Cfg) (hC : 1 < C.stepsMax) (P : HsP) (r : Bool) (data : Bytes) (hd : data ≠ [])
    (s : St Hs Chan) (hi : SideInv P r data s) : CallRes P r data s (callOn C P r s (.send data)) := by
  obtain ⟨k, s', e, hside, ht, hp, _, _⟩ := tlsWrite_chan C hC P r data hd s hi
  simp only [callOn, sendT_chan C P r data s s' k e hside]
  exact ⟨rfl, hside, ht, hp⟩

/-- after the handshake, with no error cached, `Send(data, 0)` hands the whole buffer to the engine -/
theorem send_flows (C : Cfg) (hC : 1 < C.stepsMax) (P : HsP) (r : Bool) (data : Bytes) (hd : data ≠ [])
    (s : St Hs Chan) (hi : SideInv P r data s) (hfin : 3 ≤ s.e.stage) (hle : s.g.lastError = .none) :
    ∃ s', sendT C (chanWorld r) (engine P) s data 0 = (.ok data.length, s') ∧ SideInv P r data s' := by
  obtain ⟨k, s', e, hside, ht, _, _, hk⟩ := tlsWrite_chan C hC P r data hd s hi
  rcases hk with ⟨hk, _⟩ | ⟨_, _, hlt | hl⟩
  · exact ⟨s', hk ▸ sendT_chan C P r data s s' k e hside, hside⟩
  · have := ht.st; omega
  · rw [hle] at hl; cases hl

theorem gate_blocked (P : HsP) (r : Bool) (data : Bytes) (s : St Hs Chan) (hi : SideInv P r data s)
    (hl : s.g.lastError = .wantRead) (hin : s.w.inb r = 0) :
    ∃ s1, handleLastError (chanWorld r) (setTimeout s 0) = (.ok false, s1) ∧ SideInv P r data s1 ∧ s1.e = s.e ∧
      s1.w = s.w ∧ s1.g.lastError = .wantRead := by
  rcases gate P r data s hi with ⟨_, _, _, _, _, _, _, h | h⟩ | ⟨s1, e1, i1, ee1, w1, l1, _, _⟩
  · rw [hl] at h; cases h
  · omega
  · exact ⟨s1, e1, i1, ee1, w1, l1⟩

theorem gated_send (C : Cfg) (P : HsP) (r : Bool) (data : Bytes) (s : St Hs Chan) (hi : SideInv P r data s)
    (hl : s.g.lastError = .wantRead) (hin : s.w.inb r = 0) :
    ∃ s', sendT C (chanWorld r) (engine P) s data 0 = (.ok 0, s') ∧ SideInv P r data s' ∧ s'.e = s.e ∧ s'.w = s.w ∧
      s'.g.lastError = .wantRead := by
  obtain ⟨s1, e1, i1, ee1, w1, l1⟩ := gate_blocked P r data s hi hl hin
  simp only [sendT, tlsWrite, e1]
  rw [if_neg (by intro h; rw [l1] at h; exact absurd h.2.1 (by simp))]
  exact ⟨s1, rfl, i1, ee1, w1, l1⟩

/-- the pre-319faf2 glue (`fixRecvReset = false`) keeps the cached WANT_READ -/
theorem gated_recv_legacy (C : Cfg) (hleg : C.fixRecvReset = false) (P : HsP) (r : Bool) (data : Bytes) (n : Nat)
    (s : St Hs Chan) (hi : SideInv P r data s) (hl : s.g.lastError = .wantRead) (hin : s.w.inb r = 0) :
    ∃ s', receiveT C (chanWorld r) (engine P) s n 0 = (.ok [], s') ∧ SideInv P r data s' ∧ s'.e = s.e ∧ s'.w = s.w ∧
      s'.g.lastError = .wantRead := by
  obtain ⟨s1, e1, i1, ee1, w1, l1⟩ := gate_blocked P r data s hi hl hin
  simp only [receiveT, tlsRead, e1]
  rw [if_neg (by intro h; exact absurd h.1 (by decide)), if_neg (by intro h; rw [hleg] at h; exact absurd h.1 (by simp))]
  exact ⟨s1, rfl, i1, ee1, w1, l1⟩

/-! ### the two endpoints together -/

theorem rcvd_fin (P : HsP) (h : Hs) (hf : 3 ≤ h.stage) : rcvd P h = if h.client then P.k2 else P.k1 + P.k3 := by
  have h0 : h.stage ≠ 0 := by omega
  have h1 : h.stage ≠ 1 := by omega
  have h2 : h.stage ≠ 2 := by omega
  cases hc : h.client <;> simp [rcvd, hc, h0, h1, h2]

theorem sent_le (P : HsP) (h : Hs) : sent P h ≤ if h.client then P.k1 + P.k3 else P.k2 := by
  unfold sent
  cases h.client <;> simp <;> (repeat' split) <;> omega

theorem sent_le_rcvd_fin (P : HsP) (h o : Hs) (hc : o.client = !h.client) (hf : 3 ≤ h.stage) : sent P o ≤ rcvd P h := by
  have := sent_le P o
  rw [rcvd_fin P h hf]
  rw [hc] at this
  cases hh : h.client <;> simpa [hh] using this

/-- the payload of side `u` / of its peer, given the client's `dc` and the server's `ds` -/
def ownPay (u : Bool) (dc ds : Bytes) : Bytes := if u then dc else ds
def peerPay (u : Bool) (dc ds : Bytes) : Bytes := if u then ds else dc

theorem ownPay_ne {dc ds : Bytes} (hdc : dc ≠ []) (hds : ds ≠ []) (u : Bool) : ownPay u dc ds ≠ [] := by
  cases u <;> assumption

/-- invariant of the composition: both endpoints are as between calls, and on each channel the
bytes in flight are exactly the handshake bytes written and not yet read (plus application records once
the writer has finished) -/
def SysInv (P : HsP) (dc ds : Bytes) (y : Sys) : Prop :=
  SideInv P true dc ⟨y.gc, y.ec, y.ch⟩ ∧ SideInv P false ds ⟨y.gs, y.es, y.ch⟩ ∧
  (y.ec.stage < 3 → y.ch.cs + rcvd P y.es = sent P y.ec) ∧ sent P y.ec ≤ y.ch.cs + rcvd P y.es ∧
  (y.es.stage < 3 → y.ch.sc + rcvd P y.ec = sent P y.es) ∧ sent P y.es ≤ y.ch.sc + rcvd P y.ec ∧
  y.faults = 0

/-- `SysInv` seen from side `r`: `s` is that side with the channels, `go` and `o` glue and engine of the other side -/
def InvAt (P : HsP) (r : Bool) (dc ds : Bytes) (s : St Hs Chan) (go : Glue) (o : Hs) (f : Nat) : Prop :=
  SideInv P r (ownPay r dc ds) s ∧ SideInv P (!r) (ownPay (!r) dc ds) ⟨go, o, s.w⟩ ∧
  (s.e.stage < 3 → s.w.out r + rcvd P o = sent P s.e) ∧ sent P s.e ≤ s.w.out r + rcvd P o ∧
  (o.stage < 3 → s.w.inb r + rcvd P s.e = sent P o) ∧ sent P o ≤ s.w.inb r + rcvd P s.e ∧ f = 0

theorem InvAt.move {P : HsP} {r : Bool} {dc ds : Bytes} {s s' : St Hs Chan} {go : Glue} {o : Hs} {f : Nat}
    (hinv : InvAt P r dc ds s go o f) (hside : SideInv P r (ownPay r dc ds) s') (ht : Tr P r s.e s.w s'.e s'.w) :
    InvAt P r dc ds s' go o f := by
  obtain ⟨_, io, a1, a2, a3, a4, af⟩ := hinv
  have hoe := ht.outEq; have hog := ht.outGe; have hie := ht.inEq; have hig := ht.inGe; have hst := ht.st
  -- once side `r` has finished, `Tr` gives inequalities only; exactness comes from the totals: it has read all its peer writes
  have hfin : 3 ≤ s'.e.stage → sent P o ≤ rcvd P s'.e :=
    sent_le_rcvd_fin P s'.e o (by rw [hside.2.2.2.1]; exact io.2.2.2.1)
  refine ⟨hside, io, ?_, by omega, ?_, ?_, af⟩
  · intro h3
    have := a1 (by omega)
    have := hoe h3
    omega
  · intro h3
    have hI := a3 h3
    by_cases hf : s'.e.stage < 3
    · have := hie hf; omega
    · have := hfin (by omega); omega
  · by_cases hf : s'.e.stage < 3
    · have := hie hf; omega
    · have := hfin (by omega); omega

def Sys.eng (y : Sys) (client : Bool) : Hs := if client then y.ec else y.es

def Sys.side (y : Sys) (r : Bool) : St Hs Chan := if r then ⟨y.gc, y.ec, y.ch⟩ else ⟨y.gs, y.es, y.ch⟩

def Sys.put (y : Sys) (r : Bool) (s : St Hs Chan) (f : Nat) : Sys :=
  if r then { y with gc := s.g, ec := s.e, ch := s.w, faults := f }
  else { y with gs := s.g, es := s.e, ch := s.w, faults := f }

@[simp] theorem side_e (y : Sys) (r : Bool) : (y.side r).e = y.eng r := by cases r <;> rfl
@[simp] theorem side_w (y : Sys) (r : Bool) : (y.side r).w = y.ch := by cases r <;> rfl
@[simp] theorem put_eng (y : Sys) (r : Bool) (s : St Hs Chan) (f : Nat) : (y.put r s f).eng r = s.e := by cases r <;> rfl
@[simp] theorem put_eng_other (y : Sys) (r : Bool) (s : St Hs Chan) (f : Nat) : (y.put r s f).eng (!r) = y.eng (!r) := by
  cases r <;> rfl
@[simp] theorem put_ch (y : Sys) (r : Bool) (s : St Hs Chan) (f : Nat) : (y.put r s f).ch = s.w := by cases r <;> rfl

theorem sysInv_put (P : HsP) (dc ds : Bytes) (y : Sys) (r : Bool) (s : St Hs Chan) (f : Nat) :
    SysInv P dc ds (y.put r s f) ↔ InvAt P r dc ds s (y.side (!r)).g (y.side (!r)).e f := by
  cases r
  · exact ⟨fun ⟨ic, is, a1, a2, a3, a4, af⟩ => ⟨is, ic, a3, a4, a1, a2, af⟩,
      fun ⟨is, ic, a3, a4, a1, a2, af⟩ => ⟨ic, is, a1, a2, a3, a4, af⟩⟩
  · exact Iff.rfl

theorem sysInv_at (P : HsP) (dc ds : Bytes) (y : Sys) (r : Bool) :
    SysInv P dc ds y ↔ InvAt P r dc ds (y.side r) (y.side (!r)).g (y.side (!r)).e y.faults := by
  cases r
  · exact sysInv_put P dc ds y false (y.side false) y.faults
  · exact sysInv_put P dc ds y true (y.side true) y.faults

theorem sysInv_init (P : HsP) (dc ds : Bytes) (segs : List Nat) : SysInv P dc ds (Sys.init P segs) := by
  have w1 := wf_init P true
  have w2 := wf_init P false
  refine ⟨⟨rfl, rfl, rfl, rfl, w1, Or.inl rfl, (by intro h; cases h), Or.inl rfl⟩,
    ⟨rfl, rfl, rfl, rfl, w2, Or.inl rfl, (by intro h; cases h), Or.inl rfl⟩, ?_, ?_, ?_, ?_, rfl⟩ <;>
  simp [Sys.init, Hs.init, sent, rcvd]

def mu (P : HsP) (y : Sys) : Nat := work P y.ec + work P y.es

theorem mu_eng (P : HsP) (y : Sys) (r : Bool) : mu P y = work P (y.eng r) + work P (y.eng (!r)) := by
  cases r
  · exact Nat.add_comm _ _
  · rfl

theorem CanProg.mono {r : Bool} {o : Hs} {w w' : Chan} (h : CanProg (!r) o w) (hle : w.out r ≤ w'.out r) :
    CanProg (!r) o w' := by
  have e : ∀ c : Chan, c.inb (!r) = c.out r := fun c => by cases r <;> rfl
  refine ⟨h.1, h.2.imp id fun hp => ?_⟩
  rw [e] at hp ⊢
  omega

theorem step_put (C : Cfg) (P : HsP) (y : Sys) (r : Bool) (c : Call) :
    y.step C P r c = y.put r (callOn C P r (y.side r) c).2
      (y.faults + if (callOn C P r (y.side r) c).1 then 0 else 1) := by
  cases r <;> simp only [Sys.step, Sys.put, Sys.side, if_true, Bool.false_eq_true, if_false]

theorem step_spec (C : Cfg) (hC : 1 < C.stepsMax) (P : HsP) (dc ds : Bytes) (y : Sys) (hinv : SysInv P dc ds y)
    (r : Bool) (hd : ownPay r dc ds ≠ []) (c : Call)
    (hc : c = .send (ownPay r dc ds) ∨ ∃ n, 1 ≤ n ∧ c = .recv n) :
    SysInv P dc ds (y.step C P r c) ∧ (y.step C P r c).eng (!r) = y.eng (!r) ∧
    Tr P r (y.eng r) y.ch ((y.step C P r c).eng r) (y.step C P r c).ch ∧
    (CanProg r (y.eng r) y.ch → work P ((y.step C P r c).eng r) < work P (y.eng r)) := by
  have hat := (sysInv_at P dc ds y r).mp hinv
  have hres : CallRes P r (ownPay r dc ds) (y.side r) (callOn C P r (y.side r) c) := by
    rcases hc with rfl | ⟨n, hn, rfl⟩
    · exact send_spec C hC P r _ hd _ hat.1
    · exact recv_spec C (by omega) P r _ n hn _ hat.1
  obtain ⟨hok, hside, ht, hp⟩ := hres
  rw [step_put, hok]
  simp only [side_e, side_w] at ht hp
  rw [put_eng, put_eng_other, put_ch]
  exact ⟨(sysInv_put P dc ds y r _ _).mpr (hat.move hside (by simpa using ht)), rfl, ht, hp⟩

/-- no deadlock: while the handshake is not finished on both sides, at least one endpoint can move on.  By cases on
the stages: an endpoint that reads with nothing in flight forces its peer, by conservation, to be at or before that flight. -/
theorem can_progress (P : HsP) (dc ds : Bytes) (y : Sys) (hinv : SysInv P dc ds y) (hnf : ¬ y.bothFinished) :
    CanProg true y.ec y.ch ∨ CanProg false y.es y.ch := by
  obtain ⟨ic, is, a1, a2, a3, a4, _⟩ := hinv
  have hcc : y.ec.client = true := ic.2.2.2.1
  have hsc : y.es.client = false := is.2.2.2.1
  have wc := ic.2.2.2.2.1
  have ws := is.2.2.2.2.1
  have := P.h1; have := P.h2; have := P.h3
  rcases hec : y.ec with ⟨cc, cst, cnd⟩
  rcases hes : y.es with ⟨sc', sst, snd⟩
  rw [hec] at hcc wc a1 a2 a3 a4
  rw [hes] at hsc ws a1 a2 a3 a4
  simp only at hcc hsc
  subst hcc; subst hsc
  simp only [Sys.bothFinished, hec, hes] at hnf
  simp only [CanProg, Chan.inb, if_true, Bool.false_eq_true, if_false, Hs.writes]
  have hcn := wc.1; have hcz := wc.2
  have hsn := ws.1; have hsz := ws.2
  simp only at hcn hcz hsn hsz
  by_cases hcf : cst < 3
  · have hc1 := hcn hcf
    have hcst : cst = 0 ∨ cst = 1 ∨ cst = 2 := by omega
    rcases hcst with rfl | rfl | rfl
    · left; simp
    · -- the client reads S1
      by_cases hsc0 : 0 < y.ch.sc
      · left; simp [hsc0]
      · right
        have hsst : sst = 0 ∨ sst = 1 ∨ 2 ≤ sst := by omega
        rcases hsst with rfl | rfl | h2
        · have hs1 := hsn (by omega)
          have hI := a1 (by omega)
          simp [sent, rcvd, HsP.flight] at hI hs1 hc1 ⊢
          omega
        · simp
        · exfalso
          have h2' : sst ≠ 0 := by omega
          have h2'' : sst ≠ 1 := by omega
          simp [sent, rcvd, HsP.flight, h2', h2''] at a4 hc1
          omega
    · left; simp
  · right
    have hsf : sst < 3 := by omega
    have hs1 := hsn hsf
    have hsst : sst = 0 ∨ sst = 1 ∨ sst = 2 := by omega
    have c0 : cst ≠ 0 := by omega
    have c1 : cst ≠ 1 := by omega
    have c2 : cst ≠ 2 := by omega
    rcases hsst with rfl | rfl | rfl
    · simp [sent, rcvd, HsP.flight, c0, c1, c2] at a2 hs1 ⊢
      omega
    · simp
    · simp [sent, rcvd, HsP.flight, c0, c1, c2] at a2 hs1 ⊢
      omega

end SockModel.Hs
