import SockModel.Model.Locks
/-! The inductive invariant of the locking protocol: `LInv` says of each mutex that its owner is the thread
whose program counter says so (`Held`), and two things about the signalling pipe. -/
namespace SockModel.Locks

theorem inv_init : LInv init := by
  refine ⟨by simp [init, DPc.ownsStep], by intro t; simp [init, UPc.ownsStep], by simp [init, DPc.ownsPause],
    by intro t; simp [init, UPc.ownsPause], by intro t h; simp [init] at h, by intro h; simp [init] at h⟩

/-- mutex discipline: the owner `o` is the one thread whose pc says that it holds the mutex (`od` for
the driver thread, `ou t` for user thread `t`) -/
structure Held (o : Owner) (od : Bool) (ou : Tid → Bool) : Prop where
  d : od = true ↔ o = .drv
  u : ∀ t, ou t = true ↔ o = .usr t

namespace Held
variable {o : Owner} {od : Bool} {ou : Tid → Bool} {t : Tid}

theorem lockD (h : Held .none od ou) : Held .drv true ou :=
  ⟨⟨fun _ => rfl, fun _ => rfl⟩, fun x => ⟨fun hx => (nomatch (h.u x).mp hx), fun hx => (nomatch hx)⟩⟩

theorem unlockD (h : Held .drv od ou) : Held .none false ou :=
  ⟨⟨fun hx => (nomatch hx), fun hx => (nomatch hx)⟩, fun x => ⟨fun hx => (nomatch (h.u x).mp hx), fun hx => (nomatch hx)⟩⟩

theorem drv_excl (h : Held o od ou) (hd : od = true) (t : Tid) : ou t = false :=
  Bool.eq_false_iff.mpr fun ht => nomatch (h.d.mp hd).symm.trans ((h.u t).mp ht)

theorem usr_excl (h : Held o od ou) (ht : ou t = true) : od = false ∧ ∀ x, x ≠ t → ou x = false :=
  ⟨Bool.eq_false_iff.mpr fun hd => (nomatch (h.d.mp hd).symm.trans ((h.u t).mp ht)),
   fun x hx => Bool.eq_false_iff.mpr fun h' => hx (Owner.usr.inj (((h.u x).mp h').symm.trans ((h.u t).mp ht)))⟩

/-! user thread `t` moves to `p`; `g` reads off a pc whether it holds the mutex -/
variable {g : UPc → Bool} {s : St} {p p0 : UPc}

theorem sameU (h : Held o od fun x => g (s.u x)) (hu : s.u t = p0) (hg : g p = g p0) :
    Held o od fun x => g ((s.setU t p).u x) := by
  refine ⟨h.d, fun x => ?_⟩
  by_cases hx : x = t
  · subst hx; rw [setU_same, hg, ← hu]; exact h.u x
  · rw [setU_other _ _ _ _ hx]; exact h.u x

theorem lockU (h : Held .none od fun x => g (s.u x)) (hg : g p = true) :
    Held (.usr t) od fun x => g ((s.setU t p).u x) := by
  refine ⟨⟨fun hd => (nomatch h.d.mp hd), fun hd => (nomatch hd)⟩, fun x => ?_⟩
  by_cases hxt : x = t
  · subst hxt; rw [setU_same]; exact ⟨fun _ => rfl, fun _ => hg⟩
  · rw [setU_other _ _ _ _ hxt]
    exact ⟨fun h' => (nomatch (h.u x).mp h'), fun h' => absurd (Owner.usr.inj h').symm hxt⟩

theorem unlockU (h : Held (.usr t) od fun x => g (s.u x)) (hg : g p = false) :
    Held .none od fun x => g ((s.setU t p).u x) := by
  refine ⟨⟨fun hd => (nomatch h.d.mp hd), fun hd => (nomatch hd)⟩, fun x => ⟨fun h' => ?_, fun h' => (nomatch h')⟩⟩
  by_cases hxt : x = t
  · subst hxt; rw [setU_same, hg] at h'; cases h'
  · rw [setU_other _ _ _ _ hxt] at h'; exact absurd (Owner.usr.inj ((h.u x).mp h')).symm hxt

end Held

theorem setU_at {s : St} {t : Tid} {p q : UPc} {P : Prop} (h : ∀ x, s.u x = q → P) (hp : p ≠ q) :
    ∀ x, (s.setU t p).u x = q → P := by
  intro x hx
  by_cases hxt : x = t
  · subst hxt; rw [setU_same] at hx; exact absurd hx hp
  · rw [setU_other _ _ _ _ hxt] at hx; exact h x hx

theorem setU_none_at {s : St} {t : Tid} {p p0 q : UPc} (hu : s.u t = p0) (h0 : p0 ≠ q)
    (h : ∀ x, (s.setU t p).u x ≠ q) : ∀ x, s.u x ≠ q := by
  intro x
  by_cases hxt : x = t
  · subst hxt; rw [hu]; exact h0
  · have := h x; rwa [setU_other _ _ _ _ hxt] at this

theorem LInv.heldStep {s : St} (h : LInv s) : Held s.step s.d.ownsStep fun t => (s.u t).ownsStep := ⟨h.stepD, h.stepU⟩
theorem LInv.heldPause {s : St} (h : LInv s) : Held s.pause s.d.ownsPause fun t => (s.u t).ownsPause :=
  ⟨h.pauseD, h.pauseU⟩

theorem LInv.of_held {s : St} (hs : Held s.step s.d.ownsStep fun t => (s.u t).ownsStep)
    (hp : Held s.pause s.d.ownsPause fun t => (s.u t).ownsPause)
    (hw : ∀ t, s.u t = .waitStep → s.d.leaving = true ∨ 0 < s.pipe)
    (hst : s.stop = true → (∀ t, s.u t ≠ .stopBump) → s.d.runBeforeWake = true → 0 < s.pipe) : LInv s :=
  ⟨hs.d, hs.u, hp.d, hp.u, hw, hst⟩

theorem inv_step {s s' : St} {b : Bool} (h : LInv s) (tr : Tr s b s') : LInv s' := by
  obtain ⟨step, pause, pipe, stop, d, u, stops, runs⟩ := s
  have hs : Held step d.ownsStep fun t => (u t).ownsStep := h.heldStep
  have hp : Held pause d.ownsPause fun t => (u t).ownsPause := h.heldPause
  have hw : ∀ t, u t = .waitStep → d.leaving = true ∨ 0 < pipe := h.wake
  have hst : stop = true → (∀ t, u t ≠ .stopBump) → d.runBeforeWake = true → 0 < pipe := h.stopW
  -- a driver transition fixes `d`; once it is substituted the readings of the old and of the new pc are
  -- closed terms, equal unless the transition locks or unlocks
  cases tr with
  | dRunEnter hd => cases hd; exact .of_held hs hp hw hst
  | dRunExit hd _ => cases hd; exact .of_held hs hp hw nofun
  | dRunGo hd hf => cases hd; cases hf; exact .of_held hs hp hw nofun
  | dStepEnter hd => cases hd; exact .of_held hs hp hw (fun _ _ => nofun)
  | dLockStep hd hf =>
    rename_i r
    cases hd; cases hf
    exact .of_held hs.lockD hp hw fun h1 h2 h3 => hst h1 h2 (by cases r <;> exact h3)
  | dToPoll hd =>
    rename_i r
    cases hd
    exact .of_held hs hp hw fun h1 h2 h3 => hst h1 h2 (by cases r <;> exact h3)
  | dPollPipe hd _ | dPollOther hd _ => cases hd; exact .of_held hs hp (fun _ _ => .inl rfl) (fun _ _ => nofun)
  | dUnlockStep hd =>
    cases hd; cases hs.d.mp rfl
    exact .of_held hs.unlockD hp (fun _ _ => .inl rfl) (fun _ _ => nofun)
  | dLockPause hd hf =>
    cases hd; cases hf
    -- nobody waits for `stepMtx` after its datagram: such a thread would hold `pauseMtx`
    exact .of_held hs hp.lockD (fun t (ht : u t = .waitStep) => nomatch (hp.u t).mp (by rw [ht]; rfl))
      (fun _ _ => nofun)
  | dUnlockPause hd =>
    rename_i r
    cases hd; cases hp.d.mp rfl
    cases r <;>
      exact .of_held hs hp.unlockD (fun t (ht : u t = .waitStep) => nomatch (hp.u t).mp (by rw [ht]; rfl))
        (fun _ _ => nofun)
  | dStop => exact .of_held hs hp (fun _ _ => .inr (Nat.succ_pos _)) (fun _ _ _ => Nat.succ_pos _)
  | uTryOk hu hf | uLockStep hu hf =>
    cases hf
    exact .of_held (hs.lockU rfl) (hp.sameU hu rfl) (setU_at hw nofun) fun h1 h2 => hst h1 (setU_none_at hu nofun h2)
  | uTryFail hu _ =>
    exact .of_held (hs.sameU hu rfl) (hp.sameU hu rfl) (setU_at hw nofun) fun h1 h2 => hst h1 (setU_none_at hu nofun h2)
  | uLockPause hu hf =>
    cases hf
    exact .of_held (hs.sameU hu rfl) (hp.lockU rfl) (setU_at hw nofun) fun h1 h2 => hst h1 (setU_none_at hu nofun h2)
  | uBump hu | uStopBump hu =>
    exact .of_held (hs.sameU hu rfl) (hp.sameU hu rfl) (fun _ _ => .inr (Nat.succ_pos _)) (fun _ _ _ => Nat.succ_pos _)
  | uRelPause hu =>
    rename_i t
    cases (hp.u t).mp (congrArg UPc.ownsPause hu)
    exact .of_held (hs.sameU hu rfl) (hp.unlockU rfl) (setU_at hw nofun) fun h1 h2 => hst h1 (setU_none_at hu nofun h2)
  | uUnlock hu =>
    rename_i t
    cases (hs.u t).mp (congrArg UPc.ownsStep hu)
    exact .of_held (hs.unlockU rfl) (hp.sameU hu rfl) (setU_at hw nofun) fun h1 h2 => hst h1 (setU_none_at hu nofun h2)
  | uStopSet hu =>
    rename_i t
    exact .of_held (hs.sameU hu rfl) (hp.sameU hu rfl)
      (setU_at hw nofun) fun _ h2 => absurd (setU_same _ _ _) (h2 t)

theorem inv_reach {s : St} (h : Reach s) : LInv s := by
  induction h with
  | init => exact inv_init
  | step _ tr ih => exact inv_step ih tr

theorem kept_init : Kept init := by
  intro h; rcases h with h | ⟨t, h⟩ <;> simp [init] at h

theorem kept_setU {s : St} {t : Tid} {p : UPc} (h : Kept s) (hp : p ≠ .stopBump) : Kept (s.setU t p) :=
  fun h' => h (h'.imp id fun ⟨x, hx⟩ => setU_at (fun x hx => ⟨x, hx⟩) hp x hx)

theorem kept_step {s s' : St} {b : Bool} (h : Kept s) (tr : Tr s b s') : Kept s' := by
  cases tr with
  | dRunExit => exact fun _ => .inr (Nat.succ_pos _)
  | dStop => exact fun _ => .inl rfl
  | uStopSet => exact fun _ => .inl rfl
  | uStopBump hu => exact fun _ => h (.inr ⟨_, hu⟩)
  | dRunEnter | dRunGo | dStepEnter | dLockStep | dToPoll | dPollPipe | dPollOther | dUnlockStep | dLockPause
  | dUnlockPause => exact h
  | uTryOk | uTryFail | uLockPause | uBump | uLockStep | uRelPause | uUnlock => exact kept_setU h nofun

theorem kept_reach {s : St} (h : Reach s) : Kept s := by
  induction h with
  | init => exact kept_init
  | step _ tr ih => exact kept_step ih tr

theorem DPc.ownsStep_cases {d : DPc} (h : d.ownsStep = true) : ∃ r, d = .inStep r ∨ d = .atPoll r ∨ d = .woke r := by
  cases d with
  | inStep r => exact ⟨r, .inl rfl⟩
  | atPoll r => exact ⟨r, .inr (.inl rfl)⟩
  | woke r => exact ⟨r, .inr (.inr rfl)⟩
  | _ => cases h

theorem DPc.ownsPause_cases {d : DPc} (h : d.ownsPause = true) : ∃ r, d = .holdPause r := by
  cases d with
  | holdPause r => exact ⟨r, rfl⟩
  | _ => cases h

theorem UPc.ownsStep_cases {p : UPc} (h : p.ownsStep = true) : p = .relPause ∨ p = .crit := by
  cases p with
  | relPause => exact .inl rfl
  | crit => exact .inr rfl
  | _ => cases h

theorem UPc.ownsPause_cases {p : UPc} (h : p.ownsPause = true) : p = .bump ∨ p = .waitStep ∨ p = .relPause := by
  cases p with
  | bump => exact .inl rfl
  | waitStep => exact .inr (.inl rfl)
  | relPause => exact .inr (.inr rfl)
  | _ => cases h

theorem LInv.pause_user {s : St} (inv : LInv s) {t : Tid} (hu : (s.u t).ownsPause = true) :
    s.pause = .usr t ∧ ∀ r, s.d ≠ .holdPause r :=
  ⟨(inv.pauseU t).mp hu, fun _ hd => (nomatch (congrArg DPc.ownsPause hd).symm.trans (inv.heldPause.usr_excl hu).1)⟩

theorem Tr.from_r0 {s s' : St} {b : Bool} (tr : Tr s b s') (hd : s.d = .r0) :
    s'.d = .r0 ∨ (s.stop = true ∧ s'.d = .idle ∧ s'.stop = false) ∨ (s.stop = false ∧ s'.d = .wantStep true) := by
  cases tr with
  | dRunExit _ hs => exact .inr (.inl ⟨hs, rfl, rfl⟩)
  | dRunGo _ hs => exact .inr (.inr ⟨hs, rfl⟩)
  | dRunEnter h | dStepEnter h | dLockStep h | dToPoll h | dPollPipe h | dPollOther h | dUnlockStep h
  | dLockPause h | dUnlockPause h => rw [hd] at h; cases h
  | dStop | uTryOk | uTryFail | uLockPause | uBump | uLockStep | uRelPause | uUnlock | uStopSet | uStopBump =>
    exact .inl hd

theorem Tr.stop_cases {s s' : St} {b : Bool} (tr : Tr s b s') :
    s'.stop = s.stop ∨
    (s'.stop = true ∧ ((s'.pipe = s.pipe + 1 ∧ s'.d = s.d) ∨ ∃ t, s.u t = .idle ∧ s'.u t = .stopBump)) ∨
    (s.d = .r0 ∧ s'.d = .idle ∧ s.stop = true ∧ s'.stop = false) := by
  cases tr with
  | dStop => exact .inr (.inl ⟨rfl, .inl ⟨rfl, rfl⟩⟩)
  | uStopSet hu => exact .inr (.inl ⟨rfl, .inr ⟨_, hu, setU_same _ _ _⟩⟩)
  | dRunExit hd hs => exact .inr (.inr ⟨hd, rfl, hs, rfl⟩)
  | dRunEnter | dRunGo | dStepEnter | dLockStep | dToPoll | dPollPipe | dPollOther | dUnlockStep | dLockPause
  | dUnlockPause | uTryOk | uTryFail | uLockPause | uBump | uLockStep | uRelPause | uUnlock | uStopBump =>
    exact .inl rfl

theorem LInv.crit_excl {s : St} (inv : LInv s) {t : Tid} (hc : s.u t = .crit) : s.d.ownsStep = false :=
  (inv.heldStep.usr_excl (t := t) (by rw [hc]; rfl)).1

/-- a user thread waiting for `stepMtx` (after its datagram) is never stuck: some thread can move -/
theorem waitStep_progress {s : St} (inv : LInv s) (t : Tid) (hu : s.u t = .waitStep) :
    ∃ s', Tr s false s' := by
  -- `stepMtx` is free, or its owner is at a pc from which it moves on its own (`wake`: the poll returns)
  cases hstep : s.step with
  | none => exact ⟨_, Tr.uLockStep hu hstep⟩
  | drv =>
    obtain ⟨r, hd | hd | hd⟩ := DPc.ownsStep_cases (inv.stepD.mpr hstep)
    · exact ⟨_, Tr.dToPoll hd⟩
    · have hp := inv.wake t hu
      rw [hd] at hp
      exact ⟨_, Tr.dPollPipe hd (hp.resolve_left nofun)⟩
    · exact ⟨_, Tr.dUnlockStep hd⟩
  | usr t' =>
    rcases UPc.ownsStep_cases ((inv.stepU t').mpr hstep) with hut | hut
    · exact ⟨_, Tr.uRelPause hut⟩
    · exact ⟨_, Tr.uUnlock hut⟩

/-! The potentials of C05 and C08; in `Spec` because the relations of `Spec/C04.lean` are stated with them. -/
namespace Spec

/-- steps the driver can still begin before it needs `pauseMtx` (the potential of `handover_at_most_one_step`) -/
def canBeginN : DPc → Nat
  | .idle | .r0 | .wantStep _ => 1
  | _ => 0

theorem canBeginN_le (d : DPc) : canBeginN d ≤ 1 := by cases d <;> simp [canBeginN]

/-- a further step would have to pass `~StepGuard`, which locks `pauseMtx` -/
theorem canBeginN_mono {s s' : St} {b : Bool} (inv : LInv s) {t : Tid} (hu : (s.u t).ownsPause = true)
    (tr : Tr s b s') : canBeginN s'.d ≤ canBeginN s.d := by
  obtain ⟨hown, hnh⟩ := inv.pause_user hu
  cases tr with
  | dLockPause _ hp => rw [hown] at hp; cases hp
  | dUnlockPause hd => exact absurd hd (hnh _)
  | dRunEnter hd | dRunExit hd | dRunGo hd | dStepEnter hd => rw [hd]; exact Nat.le_refl 1
  | dLockStep | dToPoll | dPollPipe | dPollOther | dUnlockStep => exact Nat.zero_le _
  | dStop | uTryOk | uTryFail | uLockPause | uBump | uLockStep | uRelPause | uUnlock | uStopSet | uStopBump =>
    exact Nat.le_refl _

/-- steps `Run` can still begin without testing the stop flag (the potential of `stop_at_most_one_step`) -/
def runCanBeginN : DPc → Nat
  | .wantStep true => 1
  | _ => 0

theorem runCanBeginN_le (d : DPc) : runCanBeginN d ≤ 1 := by
  cases d with
  | wantStep r => cases r <;> simp [runCanBeginN]
  | _ => simp [runCanBeginN]

/-- the loop test of `Run` would have to find the flag down -/
theorem runCanBeginN_mono {s s' : St} {b : Bool} (hs : s.stop = true) (tr : Tr s b s') :
    runCanBeginN s'.d ≤ runCanBeginN s.d := by
  cases tr with
  | dRunGo _ hf => rw [hs] at hf; cases hf
  | dUnlockPause => rename_i r _; cases r <;> exact Nat.zero_le _
  | dRunEnter | dRunExit | dStepEnter | dLockStep | dToPoll | dPollPipe | dPollOther | dUnlockStep | dLockPause =>
    exact Nat.zero_le _
  | dStop | uTryOk | uTryFail | uLockPause | uBump | uLockStep | uRelPause | uUnlock | uStopSet | uStopBump =>
    exact Nat.le_refl _

end Spec

end SockModel.Locks
