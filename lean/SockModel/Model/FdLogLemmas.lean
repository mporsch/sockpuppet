import SockModel.Model.FdLemmas
/-!
Log calculus for `Model/Fd.lean`: what the ghost field `Ledger.log` (every call with its answer, every
close, in time order) looks like after a program ran.

`Lg m Q`: whatever the oracle and the starting ledger, `m` extends the log by a segment `seg` such that
* `Ext`: replaying `seg` on `(live, next)` of the starting ledger gives `(live, next)` of the final one,
  unless a close was reported as double / foreign (the flags are sticky, so "flags clear at the end"
  certifies every intermediate close); every failed call in `seg` is an answer of the oracle;
* `Q r seg` holds for the result `r`.
`Good r seg`: a normal return made no failing call and closed nothing; an exception carries category and
code of one of the failed calls of `seg`.  (`Lg` = log; a name ending in `Q` is a postcondition of `Lg`.)

Which calculus for what: `SpOn` (`Model/FdLemmas.lean`) speaks of the ledger - what is open, nothing closed twice,
how many calls failed; `Lg` speaks of what an observer of the calls sees - which call failed with which code, and in
which order things were closed.  `Spec/C14.lean` needs both for the same run.
-/
namespace SockModel.Fd

def Ledger.bad (L : Ledger) : Bool := L.closedTwice || L.closedForeign

def LogItem.fail? : LogItem → Option (Sys × Errno)
  | .call c _ (some e) none => some (c, e)
  | _ => none

def LogItem.open? : LogItem → Option Fd
  | .call _ _ _ (some n) => some n
  | _ => none

def LogItem.close? : LogItem → Option Fd
  | .close fd => some fd
  | _ => none

/-- the failed calls of a segment, in order -/
def failsOf (seg : List LogItem) : List (Sys × Errno) := seg.filterMap LogItem.fail?
def opensOf (seg : List LogItem) : List Fd := seg.filterMap LogItem.open?
def closesOf (seg : List LogItem) : List Fd := seg.filterMap LogItem.close?

theorem failsOf_append (a b : List LogItem) : failsOf (a ++ b) = failsOf a ++ failsOf b := List.filterMap_append
theorem opensOf_append (a b : List LogItem) : opensOf (a ++ b) = opensOf a ++ opensOf b := List.filterMap_append
theorem closesOf_append (a b : List LogItem) : closesOf (a ++ b) = closesOf a ++ closesOf b := List.filterMap_append

def replay1 (s : List Fd × Nat) : LogItem → Option (List Fd × Nat)
  | .call _ _ _ (some nfd) => if nfd = s.2 then some (s.1 ++ [nfd], s.2 + 1) else none
  | .call _ _ _ none => some s
  | .close fd => if fd ∈ s.1 then some (s.1.erase fd, s.2) else none

/-- replay of a segment (time order) on `(live, next)`: descriptors are handed out in sequence, only open
descriptors are closed -/
def replay : List Fd × Nat → List LogItem → Option (List Fd × Nat)
  | s, [] => some s
  | s, it :: rest =>
    match replay1 s it with
    | some s' => replay s' rest
    | none => none

theorem replay_append (s : List Fd × Nat) (a b : List LogItem) :
    replay s (a ++ b) = match replay s a with | some s' => replay s' b | none => none := by
  induction a generalizing s with
  | nil => rfl
  | cons it rest ih =>
    simp only [List.cons_append, replay]
    cases replay1 s it with
    | none => rfl
    | some s' => exact ih s'

theorem replay_cons_close (l : List Fd) (n : Nat) (g : Fd) (rest : List LogItem) :
    replay (l, n) (.close g :: rest) = if g ∈ l then replay (l.erase g, n) rest else none := by
  by_cases h : g ∈ l
  · simp only [replay, replay1, if_pos h]
  · simp only [replay, replay1, if_neg h]

theorem replay_cons_call (s : List Fd × Nat) (c : Sys) (a : Option Fd) (f : Option Errno) (rest : List LogItem) :
    replay s (.call c a f none :: rest) = replay s rest := rfl

theorem replay_cons_open (l : List Fd) (n : Nat) (c : Sys) (a : Option Fd) (f : Option Errno) (k : Fd) (rest : List LogItem) :
    replay (l, n) (.call c a f (some k) :: rest) = if k = n then replay (l ++ [k], n + 1) rest else none := by
  by_cases h : k = n
  · simp only [replay, replay1, if_pos h]
  · simp only [replay, replay1, if_neg h]

/-- the category and code a failure of call `c` is reported with -/
def exnFor (c : Sys) (e : Errno) : Exn :=
  match c with
  | .getaddrinfo | .getnameinfo => .address e
  | _ => .system e

def Reports (e : Exn) (seg : List LogItem) : Prop := ∃ p ∈ failsOf seg, exnFor p.1 p.2 = e

structure Ext (o : Oracle) (L L' : Ledger) (seg : List LogItem) : Prop where
  log : L'.log = seg.reverse ++ L.log
  mono : L.bad = true → L'.bad = true
  rep : L'.bad = false → replay (L.live, L.next) seg = some (L'.live, L'.next)
  orc : ∀ p ∈ failsOf seg, ∃ i, o i = some p.2

theorem Ext.refl (o : Oracle) (L : Ledger) : Ext o L L [] :=
  ⟨rfl, id, fun _ => rfl, fun _ h => nomatch h⟩

theorem Ext.trans {o : Oracle} {L L1 L2 : Ledger} {s1 s2 : List LogItem}
    (h1 : Ext o L L1 s1) (h2 : Ext o L1 L2 s2) : Ext o L L2 (s1 ++ s2) := by
  refine ⟨by rw [h2.log, h1.log, List.reverse_append, List.append_assoc], fun h => h2.mono (h1.mono h), ?_, ?_⟩
  · intro hb
    have hb1 : L1.bad = false := by
      cases h : L1.bad with
      | false => rfl
      | true => rw [h2.mono h] at hb; cases hb
    rw [replay_append, h1.rep hb1]
    exact h2.rep hb
  · intro p hp
    rw [failsOf_append] at hp
    exact (List.mem_append.mp hp).elim (h1.orc p) (h2.orc p)

theorem Ext_close (o : Oracle) (L : Ledger) (fd : Fd) : Ext o L (L.close fd) [.close fd] := by
  have orc : ∀ p ∈ failsOf [LogItem.close fd], ∃ i, o i = some p.2 := fun _ h => nomatch h
  unfold Ledger.close
  split
  · rename_i h
    exact ⟨rfl, id, fun _ => (replay_cons_close _ _ fd []).trans (if_pos h), orc⟩
  · split
    · exact ⟨rfl, fun _ => rfl, fun h => (nomatch h), orc⟩
    · exact ⟨rfl, fun _ => Bool.or_true _, fun h => (nomatch (Bool.or_true _).symm.trans h), orc⟩

variable {α β : Type}

def Lg {α : Type} (m : M α) (Q : Except Exn α → List LogItem → Prop) : Prop :=
  ∀ (o : Oracle) (L : Ledger) r L', m o L = (r, L') → ∃ seg, Ext o L L' seg ∧ Q r seg

theorem Lg.weaken {m : M α} {Q Q' : Except Exn α → List LogItem → Prop}
    (h : Lg m Q) (hw : ∀ r seg, Q r seg → Q' r seg) : Lg m Q' := by
  intro o L r L' hrun
  obtain ⟨seg, he, hq⟩ := h o L r L' hrun
  exact ⟨seg, he, hw _ _ hq⟩

theorem Lg_pure {Q : Except Exn α → List LogItem → Prop} (a : α) (h : Q (.ok a) []) :
    Lg (pure a : M α) Q := by
  intro o L r L' hrun
  cases hrun
  exact ⟨[], Ext.refl o L, h⟩

theorem Lg_raise {Q : Except Exn α → List LogItem → Prop} (e : Exn) (h : Q (.error e) []) :
    Lg (raise e : M α) Q := by
  intro o L r L' hrun
  cases hrun
  exact ⟨[], Ext.refl o L, h⟩

theorem Lg_sys (c : Sys) (fd : Option Fd) :
    Lg (sys c fd) (fun r seg => ∃ f, r = .ok f ∧ seg = [.call c fd f none]) := by
  intro o L r L' hrun
  cases hrun
  refine ⟨_, ⟨rfl, id, fun _ => rfl, fun p hp => ?_⟩, o L.pos, rfl, rfl⟩
  cases h : o L.pos with
  | none => rw [h] at hp; exact nomatch hp
  | some e => rw [h] at hp; cases List.mem_singleton.mp hp; exact ⟨L.pos, h⟩

theorem Lg_sysOpen (c : Sys) (fd : Option Fd) :
    Lg (sysOpen c fd) (fun r seg => (∃ e, r = .ok (.error e) ∧ seg = [.call c fd (some e) none]) ∨
      (∃ n, r = .ok (.ok n) ∧ seg = [.call c fd none (some n)])) := by
  intro o L r L' hrun
  unfold sysOpen at hrun
  split at hrun <;> cases hrun
  · rename_i e he
    refine ⟨_, ⟨rfl, id, fun _ => rfl, fun p hp => ?_⟩, .inl ⟨e, rfl, rfl⟩⟩
    cases List.mem_singleton.mp hp
    exact ⟨L.pos, he⟩
  · exact ⟨_, ⟨rfl, id, fun _ => (replay_cons_open _ _ c fd none _ []).trans (if_pos rfl), fun _ hp => (nomatch hp)⟩,
      .inr ⟨L.next, rfl, rfl⟩⟩

theorem Lg_closeFd (fd : Fd) : Lg (closeFd fd) (fun r seg => r = .ok () ∧ seg = [.close fd]) := by
  intro o L r L' hrun
  cases hrun
  exact ⟨_, Ext_close o L fd, rfl, rfl⟩

/-- sequencing: the postcondition of the whole follows from the parts -/
theorem Lg_bind {α β : Type} {m : M α} {k : α → M β} {Q1 : Except Exn α → List LogItem → Prop}
    {Q2 : α → Except Exn β → List LogItem → Prop} {Q : Except Exn β → List LogItem → Prop}
    (hm : Lg m Q1) (hk : ∀ a, Lg (k a) (Q2 a))
    (he : ∀ e s, Q1 (.error e) s → Q (.error e) s)
    (hok : ∀ a s1 r s2, Q1 (.ok a) s1 → Q2 a r s2 → Q r (s1 ++ s2)) : Lg (m >>= k) Q := by
  intro o L r L' hrun
  rw [bind_run] at hrun
  cases h1 : m o L with
  | mk r1 L1 =>
    rw [h1] at hrun
    obtain ⟨s1, e1, q1⟩ := hm o L r1 L1 h1
    cases r1 with
    | error e =>
      cases hrun
      exact ⟨s1, e1, he _ _ q1⟩
    | ok a =>
      obtain ⟨s2, e2, q2⟩ := hk a o L1 r L' hrun
      exact ⟨s1 ++ s2, e1.trans e2, hok _ _ _ _ q1 q2⟩

theorem Lg_seq {m : M α} {k : α → M β} {Q1 : Except Exn α → List LogItem → Prop}
    {Q : Except Exn β → List LogItem → Prop} (hm : Lg m Q1)
    (hk : ∀ a, Lg (k a) (fun r s2 => ∀ s1, Q1 (.ok a) s1 → Q r (s1 ++ s2)))
    (he : ∀ e s, Q1 (.error e) s → Q (.error e) s) : Lg (m >>= k) Q :=
  Lg_bind hm hk he (fun _ s1 _ _ h1 h2 => h2 s1 h1)

theorem Lg_sys_bind {c : Sys} {fd : Option Fd} {k : Option Errno → M β}
    {Q : Except Exn β → List LogItem → Prop}
    (hk : ∀ f, Lg (k f) (fun r s => Q r (.call c fd f none :: s))) : Lg (sys c fd >>= k) Q :=
  Lg_bind (Lg_sys c fd) hk (fun _ _ ⟨_, h, _⟩ => nomatch h)
    (fun _ _ _ _ ⟨_, h, hs⟩ h2 => by cases h; rw [hs]; exact h2)

theorem Lg_sysOpen_bind {c : Sys} {fd : Option Fd} {k : Except Errno Fd → M β}
    {Q : Except Exn β → List LogItem → Prop}
    (he : ∀ e, Lg (k (.error e)) (fun r s => Q r (.call c fd (some e) none :: s)))
    (hn : ∀ n, Lg (k (.ok n)) (fun r s => Q r (.call c fd none (some n) :: s))) : Lg (sysOpen c fd >>= k) Q := by
  refine Lg_bind (Lg_sysOpen c fd) (Q2 := fun x r s => match x with
    | .error e => Q r (.call c fd (some e) none :: s)
    | .ok n => Q r (.call c fd none (some n) :: s)) (fun x => ?_) ?_ ?_
  · cases x with
    | error e => exact he e
    | ok n => exact hn n
  · rintro _ _ (⟨_, h, _⟩ | ⟨_, h, _⟩) <;> cases h
  · rintro _ _ _ _ (⟨_, h, hs⟩ | ⟨_, h, hs⟩) h2 <;> cases h <;> rw [hs] <;> exact h2

/-- `guardFd`: on an exception the descriptor is closed after everything else -/
theorem Lg_guard {fd : Fd} {body : M α} {Q : Except Exn α → List LogItem → Prop}
    (hb : Lg body Q) :
    Lg (guardFd fd body) (fun r seg => match r with
      | .ok _ => Q r seg
      | .error e => ∃ s, seg = s ++ [.close fd] ∧ Q (.error e) s) := by
  intro o L r L' hrun
  unfold guardFd at hrun
  cases h2 : body o L with
  | mk r2 L2 =>
    rw [h2] at hrun
    obtain ⟨s, e2, q⟩ := hb o L r2 L2 h2
    cases r2 with
    | ok a => cases hrun; exact ⟨s, e2, q⟩
    | error e =>
      cases hrun
      exact ⟨s ++ [.close fd], e2.trans (Ext_close o L2 fd), s, rfl, q⟩

theorem Lg_tryM {m : M α} {Q : Except Exn α → List LogItem → Prop} (h : Lg m Q) :
    Lg (tryM m) (fun r seg => ∃ r0, r = .ok r0 ∧ Q r0 seg) := by
  intro o L r L' hrun
  unfold tryM at hrun
  cases h2 : m o L with
  | mk r2 L2 =>
    rw [h2] at hrun
    cases hrun
    obtain ⟨s, e2, q⟩ := h o L r2 L' h2
    exact ⟨s, e2, r2, rfl, q⟩

theorem Lg_try_bind {m : M α} {k : Except Exn α → M β} {Q1 : Except Exn α → List LogItem → Prop}
    {Q : Except Exn β → List LogItem → Prop} (hm : Lg m Q1)
    (hk : ∀ t, Lg (k t) (fun r s2 => ∀ s1, Q1 t s1 → Q r (s1 ++ s2))) : Lg (tryM m >>= k) Q :=
  Lg_bind (Lg_tryM hm) hk (fun _ _ ⟨_, h, _⟩ => nomatch h)
    (fun _ s1 _ _ ⟨_, h, q⟩ h2 => by cases h; exact h2 s1 q)

/-! ### `Good` -/

def Good {α : Type} (r : Except Exn α) (seg : List LogItem) : Prop :=
  match r with
  | .ok _ => failsOf seg = [] ∧ closesOf seg = []
  | .error e => Reports e seg

theorem Reports.append_left {e : Exn} {s : List LogItem} (t : List LogItem) (h : Reports e s) : Reports e (t ++ s) := by
  obtain ⟨p, hp, he⟩ := h
  exact ⟨p, by rw [failsOf_append]; exact List.mem_append_right _ hp, he⟩

theorem Reports.append_right {e : Exn} {s : List LogItem} (t : List LogItem) (h : Reports e s) : Reports e (s ++ t) := by
  obtain ⟨p, hp, he⟩ := h
  exact ⟨p, by rw [failsOf_append]; exact List.mem_append_left _ hp, he⟩

theorem Good_bind {m : M α} {k : α → M β} (hm : Lg m Good) (hk : ∀ a, Lg (k a) Good) :
    Lg (m >>= k) Good := by
  refine Lg_seq hm (fun a => (hk a).weaken fun r s2 h2 s1 ⟨f1, c1⟩ => ?_) (fun _ _ h => h)
  cases r with
  | ok b => exact ⟨by rw [failsOf_append, f1, h2.1]; rfl, by rw [closesOf_append, c1, h2.2]; rfl⟩
  | error e => exact h2.append_left _

theorem Good_pure (a : α) : Lg (pure a : M α) Good := Lg_pure a ⟨rfl, rfl⟩

theorem Good_guard {fd : Fd} {body : M α} (hb : Lg body Good) : Lg (guardFd fd body) Good := by
  refine (Lg_guard hb).weaken fun r seg h => ?_
  cases r with
  | ok a => exact h
  | error e => obtain ⟨s, rfl, q⟩ := h; exact q.append_right _

/-- what `sysE c fd` leaves in the log -/
def SysEQ (c : Sys) (fd : Fd) (r : Except Exn Unit) (seg : List LogItem) : Prop :=
  (r = .ok () ∧ seg = [.call c (some fd) none none]) ∨
  ∃ e, r = .error (.system e) ∧ seg = [.call c (some fd) (some e) none]

theorem Lg_sysE (c : Sys) (fd : Fd) : Lg (sysE c fd) (SysEQ c fd) := by
  unfold sysE
  refine Lg_sys_bind fun f => ?_
  cases f with
  | some e => exact Lg_raise _ (.inr ⟨e, rfl, rfl⟩)
  | none => exact Lg_pure _ (.inl ⟨rfl, rfl⟩)

theorem SysEQ.ok_fails {c : Sys} {fd : Fd} {seg : List LogItem} (h : SysEQ c fd (.ok ()) seg) : failsOf seg = [] := by
  rcases h with ⟨_, rfl⟩ | ⟨_, h, _⟩
  · rfl
  · cases h

/-- what `sysAddrMsg c fd` leaves in the log -/
def SysAddrQ (c : Sys) (fd : Fd) (r : Except Exn Unit) (seg : List LogItem) : Prop :=
  (r = .ok () ∧ seg = [.call c (some fd) none none]) ∨
  (∃ e, r = .error (.system e) ∧ seg = [.call c (some fd) (some e) none, .call .getnameinfo none none none]) ∨
  (∃ e g, r = .error (.address g) ∧ seg = [.call c (some fd) (some e) none, .call .getnameinfo none (some g) none])

theorem Lg_sysAddrMsg (c : Sys) (fd : Fd) : Lg (sysAddrMsg c fd) (SysAddrQ c fd) := by
  unfold sysAddrMsg
  refine Lg_sys_bind fun f => ?_
  cases f with
  | none => exact Lg_pure _ (.inl ⟨rfl, rfl⟩)
  | some e =>
    refine Lg_sys_bind fun g => ?_
    cases g with
    | some g => exact Lg_raise _ (.inr (.inr ⟨e, g, rfl, rfl⟩))
    | none => exact Lg_raise _ (.inr (.inl ⟨e, rfl, rfl⟩))

/-- calls whose failure is a `std::system_error(SocketError())` -/
def Sys.isSocketCall (c : Sys) : Bool :=
  match c with
  | .getaddrinfo | .getnameinfo => false
  | _ => true

theorem exnFor_socket {c : Sys} (h : c.isSocketCall = true) (e : Errno) : exnFor c e = .system e := by
  cases c <;> first | rfl | cases h

theorem exnFor_address {c : Sys} (h : c.isSocketCall = false) (e : Errno) : exnFor c e = .address e := by
  cases c <;> first | rfl | cases h

theorem Good_sysE {c : Sys} (hc : c.isSocketCall = true) (fd : Fd) : Lg (sysE c fd) Good := by
  apply (Lg_sysE c fd).weaken
  rintro r seg (⟨rfl, rfl⟩ | ⟨e, rfl, rfl⟩)
  · exact ⟨rfl, rfl⟩
  · exact ⟨(c, e), List.mem_cons_self, exnFor_socket hc e⟩

theorem Good_sysAddrMsg {c : Sys} (hc : c.isSocketCall = true) (fd : Fd) : Lg (sysAddrMsg c fd) Good := by
  apply (Lg_sysAddrMsg c fd).weaken
  rintro r seg (⟨rfl, rfl⟩ | ⟨e, rfl, rfl⟩ | ⟨e, g, rfl, rfl⟩)
  · exact ⟨rfl, rfl⟩
  · exact ⟨(c, e), List.mem_cons_self, exnFor_socket hc e⟩
  · exact ⟨(.getnameinfo, g), List.mem_cons_of_mem _ List.mem_cons_self, rfl⟩

theorem Good_gai {c : Sys} (hc : c.isSocketCall = false) : Lg (gai c) Good := by
  unfold gai
  refine Lg_sys_bind fun f => ?_
  cases f with
  | some e => exact Lg_raise _ ⟨(c, e), List.mem_cons_self, exnFor_address hc e⟩
  | none => exact Lg_pure _ ⟨rfl, rfl⟩

/-- what `openImpl c arg` leaves in the log -/
def OpenQ (c : Sys) (arg : Option Fd) (r : Except Exn Fd) (seg : List LogItem) : Prop :=
  (∃ n, r = .ok n ∧ seg = [.call c arg none (some n)]) ∨
  ∃ e, r = .error (.system e) ∧ seg = [.call c arg (some e) none]

theorem Lg_openImpl (c : Sys) (arg : Option Fd) : Lg (openImpl c arg) (OpenQ c arg) := by
  unfold openImpl
  exact Lg_sysOpen_bind (fun e => Lg_raise _ (.inr ⟨e, rfl, rfl⟩)) (fun n => Lg_pure _ (.inl ⟨n, rfl, rfl⟩))

/-- an open that succeeds is not a failure and closes nothing; `Good` continues with the body -/
theorem Good_open_guard {c : Sys} (hc : c.isSocketCall = true) (arg : Option Fd) {body : Fd → M α}
    (hb : ∀ fd, Lg (body fd) Good) : Lg (openImpl c arg >>= fun fd => guardFd fd (body fd)) Good := by
  refine Lg_seq (Lg_openImpl c arg) (fun fd => (Good_guard (hb fd)).weaken fun r s2 h s1 h1 => ?_) ?_
  · rcases h1 with ⟨_, _, rfl⟩ | ⟨_, h1, _⟩
    · exact h
    · cases h1
  · rintro e s (⟨_, h, _⟩ | ⟨e', h, rfl⟩) <;> cases h
    exact ⟨(c, e'), List.mem_cons_self, exnFor_socket hc e'⟩

theorem Good_setNonBlocking (fd : Fd) : Lg (setNonBlocking fd) Good :=
  Good_bind (Good_sysE rfl fd) fun _ => Good_sysE rfl fd

/-! ### every program of the scenario set is `Good` -/

/-- `query c`: the call is one whose failure is a socket error (the scenarios use getsockname, getpeername,
getsockopt); a `query .getaddrinfo` would throw the wrong category -/
def Prog.sane : Prog → Bool
  | .query c _ => c.isSocketCall
  | _ => true

theorem Good_tcpSend (fd : Fd) (more : Nat) : Lg (tcpSend fd more) Good := by
  induction more with
  | zero => exact Good_bind (Good_sysE rfl fd) fun _ => Good_bind (Good_sysE rfl fd) fun _ => Good_pure _
  | succ n ih => exact Good_bind (Good_sysE rfl fd) fun _ => Good_bind (Good_sysE rfl fd) fun _ => ih

theorem Good_acceptOn (fd : Fd) : Lg (acceptOn fd) Good :=
  Good_open_guard rfl (some fd) fun c => Good_bind (Good_setNonBlocking c) fun _ => Good_pure _

theorem Prog.good (p : Prog) (hp : p.sane = true) : Lg p.run Good := by
  cases p with
  | addrCtor => exact Good_bind (Good_gai rfl) fun _ => Good_pure _
  | addrPrint => exact Good_bind (Good_gai rfl) fun _ => Good_pure _
  | udpCtor =>
    exact Good_open_guard rfl none fun fd => Good_bind (Good_sysAddrMsg rfl fd) fun _ =>
      Good_bind (Good_sysE rfl fd) fun _ => Good_bind (Good_setNonBlocking fd) fun _ => Good_pure _
  | tcpCtor =>
    exact Good_open_guard rfl none fun fd => Good_bind (Good_sysAddrMsg rfl fd) fun _ =>
      Good_bind (Good_setNonBlocking fd) fun _ => Good_pure _
  | acceptorCtor =>
    exact Good_open_guard rfl none fun fd => Good_bind (Good_sysE rfl fd) fun _ =>
      Good_bind (Good_sysAddrMsg rfl fd) fun _ => Good_bind (Good_setNonBlocking fd) fun _ => Good_pure _
  | driverCtor =>
    exact Good_bind (Good_gai rfl) fun _ => Good_open_guard rfl none fun pfrom => Good_open_guard rfl none fun pto =>
      Good_bind (Good_sysAddrMsg rfl pto) fun _ => Good_bind (Good_sysE rfl pto) fun _ =>
      Good_bind (Good_gai rfl) fun _ => Good_bind (Good_sysAddrMsg rfl pfrom) fun _ => Good_pure _
  | udpSendTo fd => exact Good_bind (Good_sysE rfl fd) fun _ => Good_bind (Good_sysAddrMsg rfl fd) fun _ => Good_pure _
  | udpReceiveFrom fd => exact Good_bind (Good_sysE rfl fd) fun _ => Good_bind (Good_sysE rfl fd) fun _ => Good_pure _
  | tcpSend fd more => exact Good_tcpSend fd more
  | tcpReceive fd => exact Good_bind (Good_sysE rfl fd) fun _ => Good_bind (Good_sysE rfl fd) fun _ => Good_pure _
  | query c fd => exact Good_bind (Good_sysE hp fd) fun _ => Good_pure _
  | acceptorListen ready fd =>
    refine Good_bind (Good_sysE rfl fd) fun _ => Good_bind (Good_sysE rfl fd) fun _ => ?_
    cases ready
    · exact Good_pure _
    · exact Good_acceptOn fd
  | driverStop fd => exact Good_bind (Good_sysE rfl fd) fun _ => Good_bind (Good_sysAddrMsg rfl fd) fun _ => Good_pure _

theorem Consumer.good (c : Consumer) (fd : Fd) : Lg (c.run fd) Good := by
  cases c with
  | buffered q =>
    refine Good_guard ?_
    cases q
    · exact Good_bind (Good_pure ()) fun _ => Good_pure _
    · exact Good_bind (Good_sysE rfl fd) fun _ => Good_pure _
  | tcpAsync => exact Good_guard (Good_bind (Good_sysE rfl fd) fun _ => Good_pure _)
  | acceptorAsync => exact Good_guard (Good_bind (Good_sysE rfl fd) fun _ => Good_pure _)
  | udpAsync => exact Good_pure _

theorem Lg_destroy (fds : List Fd) : Lg (destroy fds) (fun _ _ => True) := by
  induction fds with
  | nil => exact Lg_pure () trivial
  | cons fd rest ih =>
    exact Lg_bind ih (fun _ => (Lg_closeFd fd).weaken (fun _ _ _ => trivial)) (fun _ _ _ => trivial) (fun _ _ _ _ _ _ => trivial)

theorem isClose_of_close? {it : LogItem} (h : it.close? = none) : it.isClose = false := by
  cases it <;> first | rfl | cases h

/-! ### consequences of a successful replay (pure list facts) -/

/-- descriptors opened by the segment are numbered from `next` on -/
theorem replay_opens_ge {seg : List LogItem} : ∀ {l : List Fd} {n : Nat} {l' : List Fd} {n' : Nat},
    replay (l, n) seg = some (l', n') → n ≤ n' ∧ ∀ fd ∈ opensOf seg, n ≤ fd := by
  induction seg with
  | nil => intro l n l' n' h; cases h; exact ⟨Nat.le_refl _, fun _ h => nomatch h⟩
  | cons it rest ih =>
    intro l n l' n' h
    cases it with
    | close g =>
      rw [replay_cons_close] at h
      split at h
      · exact ih h
      · cases h
    | call c fd f nf =>
      cases nf with
      | none => exact ih (replay_cons_call _ c fd f rest ▸ h)
      | some k =>
        rw [replay_cons_open] at h
        split at h
        · rename_i hk
          subst hk
          have := ih h
          refine ⟨Nat.le_of_succ_le this.1, fun x hx => ?_⟩
          rcases List.mem_cons.mp hx with rfl | hx
          · exact Nat.le_refl _
          · exact Nat.le_of_succ_le (this.2 x hx)
        · cases h

/-- a descriptor numbered below `next` that is not open does not come back -/
theorem replay_gone {seg : List LogItem} {fd : Fd} : ∀ {l : List Fd} {n : Nat} {l' : List Fd} {n' : Nat},
    replay (l, n) seg = some (l', n') → fd < n → fd ∉ l → fd ∉ l' := by
  induction seg with
  | nil => intro l n l' n' h _ hl; cases h; exact hl
  | cons it rest ih =>
    intro l n l' n' h hlt hl
    cases it with
    | close g =>
      rw [replay_cons_close] at h
      split at h
      · exact ih h hlt (fun hm => hl (List.mem_of_mem_erase hm))
      · cases h
    | call c a f nf =>
      cases nf with
      | none => exact ih (replay_cons_call _ c a f rest ▸ h) hlt hl
      | some k =>
        rw [replay_cons_open] at h
        split at h
        · rename_i hk
          subst hk
          refine ih h (Nat.lt_succ_of_lt hlt) (fun hm => ?_)
          rcases mem_append_singleton hm with hm | hm
          · exact hl hm
          · exact Nat.lt_irrefl _ (hm ▸ hlt)
        · cases h

/-- a descriptor the segment closes without having opened it was open before and is not open afterwards -/
theorem replay_closed {seg : List LogItem} {fd : Fd} : ∀ {l : List Fd} {n : Nat} {l' : List Fd} {n' : Nat},
    replay (l, n) seg = some (l', n') → l.Nodup → (∀ x ∈ l, x < n) → fd ∈ closesOf seg → fd ∉ opensOf seg →
    fd ∈ l ∧ fd ∉ l' := by
  induction seg with
  | nil => intro l n l' n' _ _ _ hc; cases hc
  | cons it rest ih =>
    intro l n l' n' h hnd hbelow hc ho
    cases it with
    | close g =>
      rw [replay_cons_close] at h
      split at h
      · rename_i hg
        rcases List.mem_cons.mp hc with rfl | hc
        · exact ⟨hg, replay_gone h (hbelow _ hg) (fun hm => ((List.Nodup.mem_erase_iff hnd).mp hm).1 rfl)⟩
        · have := ih h (hnd.erase _) (fun x hx => hbelow x (List.mem_of_mem_erase hx)) hc ho
          exact ⟨List.mem_of_mem_erase this.1, this.2⟩
      · cases h
    | call c a f nf =>
      cases nf with
      | none => exact ih (replay_cons_call _ c a f rest ▸ h) hnd hbelow hc ho
      | some k =>
        rw [replay_cons_open] at h
        split at h
        · rename_i hk
          subst hk
          have := ih h (nodup_append_fresh hnd hbelow) (below_append hbelow) hc (fun hm => ho (List.mem_cons_of_mem _ hm))
          refine ⟨(mem_append_singleton this.1).resolve_right (fun e => ho (e ▸ List.mem_cons_self)), this.2⟩
        · cases h

/-! ### the driver step -/

/-- at most one call failed, and it is one of `P`; a normal return made no failing call -/
def OneQ {α : Type} (P : Sys → Prop) (r : Except Exn α) (seg : List LogItem) : Prop :=
  match r with
  | .ok _ => failsOf seg = []
  | .error _ => ∃ c code, failsOf seg = [(c, code)] ∧ P c

theorem OneQ_bind {P : Sys → Prop} {m : M α} {k : α → M β} (hm : Lg m (OneQ P)) (hk : ∀ a, Lg (k a) (OneQ P)) :
    Lg (m >>= k) (OneQ P) := by
  refine Lg_seq hm (fun a => (hk a).weaken fun r s2 h2 s1 (h1 : failsOf s1 = []) => ?_) (fun _ _ h => h)
  cases r with
  | ok b => exact (failsOf_append s1 s2).trans (by rw [h1]; exact h2)
  | error e =>
    obtain ⟨c, code, h2, hp⟩ := h2
    exact ⟨c, code, (failsOf_append s1 s2).trans (by rw [h1]; exact h2), hp⟩

theorem OneQ_sysE {P : Sys → Prop} {c : Sys} (hc : P c) (fd : Fd) : Lg (sysE c fd) (OneQ P) := by
  apply (Lg_sysE c fd).weaken
  rintro r seg (⟨rfl, rfl⟩ | ⟨e, rfl, rfl⟩)
  · rfl
  · exact ⟨c, e, rfl, hc⟩

/-- what `Driver::Step` leaves in the log: an exception out of `Step` is a failed `poll` (or the failed
`recvfrom` of the signalling pipe); otherwise a failed call is reported by the disconnect handler (`recv`),
the send future (`send` / `sendto`), or - only for a readable UDP socket / acceptor - dropped -/
def DriveQ (d : DSt) (r : Except Exn StepOut) (seg : List LogItem) : Prop :=
  match r with
  | .error e => ∃ c code, failsOf seg = [(c, code)] ∧ e = .system code ∧ (c = .poll ∨ (c = .recvfrom ∧ 0 < d.bumps))
  | .ok out =>
    (failsOf seg = [] ∧ ∀ ev ∈ out.evs, ev.reportsFailure = false) ∨
    (out.fds = [] ∧ ∃ c code rest fd, failsOf seg = (c, code) :: rest ∧
      ((c = .recv ∧ out.evs = [.disconnect fd]) ∨
       ((c = .send ∨ c = .sendto) ∧ out.evs = [.futureExn fd]) ∨
       ((c = .recvfrom ∨ c = .accept ∨ c = .fcntl ∨ c = .listen) ∧ out.evs = [.discarded fd] ∧
          d.bumps = 0 ∧ ∃ s ∈ d.socks, s.kind ≠ .tcp ∧ 0 < s.rx)))

/-! how a `Step` that returns may end: no call failed, or the first failed call went to its channel -/
section Channels
variable {d : DSt} {out : StepOut} {seg : List LogItem} {c : Sys} {code : Errno} {rest : List (Sys × Errno)} {fd : Fd}

theorem DriveQ.noFail (hf : failsOf seg = []) (hev : ∀ ev ∈ out.evs, ev.reportsFailure = false) :
    DriveQ d (.ok out) seg := .inl ⟨hf, hev⟩

theorem DriveQ.disconnected (hfds : out.fds = []) (hf : failsOf seg = (.recv, code) :: rest)
    (hev : out.evs = [.disconnect fd]) : DriveQ d (.ok out) seg :=
  .inr ⟨hfds, _, _, _, _, hf, .inl ⟨rfl, hev⟩⟩

theorem DriveQ.futureFailed (hc : c = .send ∨ c = .sendto) (hfds : out.fds = []) (hf : failsOf seg = (c, code) :: rest)
    (hev : out.evs = [.futureExn fd]) : DriveQ d (.ok out) seg :=
  .inr ⟨hfds, _, _, _, _, hf, .inr (.inl ⟨hc, hev⟩)⟩

theorem DriveQ.dropped (hc : c = .recvfrom ∨ c = .accept ∨ c = .fcntl ∨ c = .listen) (hfds : out.fds = [])
    (hf : failsOf seg = (c, code) :: rest) (hev : out.evs = [.discarded fd])
    (hdrop : d.bumps = 0 ∧ ∃ s ∈ d.socks, s.kind ≠ .tcp ∧ 0 < s.rx) : DriveQ d (.ok out) seg :=
  .inr ⟨hfds, _, _, _, _, hf, .inr (.inr ⟨hc, hev, hdrop⟩)⟩

end Channels

theorem DriveQ.congr {d : DSt} {r : Except Exn StepOut} {s s' : List LogItem} (h : failsOf s' = failsOf s)
    (hq : DriveQ d r s) : DriveQ d r s' := by
  unfold DriveQ at hq ⊢
  rw [h]; exact hq

theorem noFailure_singleton {ev : Ev} (h : ev.reportsFailure = false) : ∀ e ∈ [ev], e.reportsFailure = false :=
  fun _ he => List.mem_singleton.mp he ▸ h

/-- a socket task is run when the pipe has not been signalled; it never throws -/
theorem Lg_socketTask (d : DSt) (s : ASock) (hs : s ∈ d.socks) (hb : d.bumps = 0) : Lg (socketTask d s) (DriveQ d) := by
  unfold socketTask
  split
  · rename_i hrx
    have hdrop : s.kind ≠ .tcp → d.bumps = 0 ∧ ∃ s ∈ d.socks, s.kind ≠ .tcp ∧ 0 < s.rx := fun hne => ⟨hb, s, hs, hne, hrx⟩
    cases hk : s.kind with
    | tcp =>
      refine Lg_sys_bind fun f => ?_
      cases f with
      | some e => exact Lg_pure _ (.disconnected (code := e) rfl rfl rfl)
      | none => exact Lg_pure _ (.noFail rfl (noFailure_singleton rfl))
    | udp =>
      have hdrop := hdrop (by rw [hk]; decide)
      refine Lg_sys_bind fun f => ?_
      cases f with
      | some e => exact Lg_pure _ (.dropped (code := e) (.inl rfl) rfl rfl rfl hdrop)
      | none => exact Lg_pure _ (.noFail rfl (noFailure_singleton rfl))
    | acc =>
      have hdrop := hdrop (by rw [hk]; decide)
      -- the accepted socket is switched to non-blocking and the acceptor listens again, under the guard
      have hbody : ∀ c, Lg (guardFd c (do setNonBlocking c; sysE .listen s.fd; pure [c]))
          (OneQ fun cc => cc = .fcntl ∨ cc = .listen) := by
        intro c
        have hb : Lg (do setNonBlocking c; sysE .listen s.fd; pure [c]) (OneQ fun cc => cc = .fcntl ∨ cc = .listen) :=
          OneQ_bind (OneQ_bind (OneQ_sysE (.inl rfl) c) fun _ => OneQ_sysE (.inl rfl) c) fun _ =>
            OneQ_bind (OneQ_sysE (.inr rfl) s.fd) fun _ => Lg_pure _ rfl
        refine (Lg_guard hb).weaken fun r seg h => ?_
        cases r with
        | ok a => exact h
        | error e =>
          obtain ⟨s0, rfl, cc, code, hf, hp⟩ := h
          exact ⟨cc, code, by rw [failsOf_append, hf]; rfl, hp⟩
      refine Lg_sysOpen_bind (fun e => Lg_pure _
        (.dropped (code := e) (.inr (.inl rfl)) rfl rfl rfl hdrop)) (fun c => Lg_try_bind (hbody c) fun t => ?_)
      cases t with
      | error e =>
        refine Lg_pure _ fun s1 ⟨cc, code, hf, hp⟩ => .dropped (code := code) (rest := []) (.inr (.inr hp)) rfl ?_ rfl hdrop
        rw [List.append_nil]; exact hf
      | ok a =>
        refine Lg_pure _ fun s1 (hf : failsOf s1 = []) => .noFail ?_ (noFailure_singleton rfl)
        rw [List.append_nil]; exact hf
  · cases hk : s.kind with
    | tcp =>
      refine Lg_sys_bind fun f => ?_
      cases f with
      | some e => exact Lg_pure _ (.futureFailed (code := e) (.inl rfl) rfl rfl rfl)
      | none => exact Lg_pure _ (.noFail rfl (noFailure_singleton rfl))
    | udp =>
      refine Lg_try_bind (Lg_sysAddrMsg .sendto s.fd) fun t => ?_
      cases t with
      | error e =>
        refine Lg_pure _ fun s1 h => ?_
        rcases h with ⟨h, _⟩ | ⟨e', _, rfl⟩ | ⟨e', g, _, rfl⟩
        · cases h
        · exact .futureFailed (.inr rfl) rfl rfl rfl
        · exact .futureFailed (.inr rfl) rfl rfl rfl
      | ok a =>
        refine Lg_pure _ fun s1 h => ?_
        rcases h with ⟨_, rfl⟩ | ⟨_, h, _⟩ | ⟨_, _, h, _⟩
        · exact .noFail rfl (noFailure_singleton rfl)
        · cases h
        · cases h
    | acc => exact Lg_pure _ (.noFail rfl fun _ h => nomatch h)

theorem Lg_driverStep (d : DSt) : Lg (driverStep d) (DriveQ d) := by
  unfold driverStep
  refine Lg_seq (Lg_sysE .poll d.pipeTo) (fun _ => Lg.weaken (Q := DriveQ d) ?_ fun r s2 h s1 h1 => ?_) ?_
  · split
    · rename_i hb
      refine Lg_seq (Lg_sysE .recvfrom d.pipeTo) (fun _ => Lg_pure _ fun s1 h1 => ?_) ?_
      · exact .inl ⟨by rw [List.append_nil]; exact h1.ok_fails, fun _ h => nomatch h⟩
      · rintro e s (⟨h, _⟩ | ⟨e', h, rfl⟩) <;> cases h
        exact ⟨.recvfrom, e', rfl, rfl, .inr ⟨rfl, hb⟩⟩
    · rename_i hb
      split
      · exact Lg_pure _ (.inl ⟨rfl, fun _ h => nomatch h⟩)
      · rename_i s hfind
        exact Lg_socketTask d s (List.mem_of_find?_eq_some hfind) (Nat.eq_zero_of_not_pos hb)
  · exact h.congr (by rw [failsOf_append, h1.ok_fails]; rfl)
  · rintro e s (⟨h, _⟩ | ⟨e', h, rfl⟩) <;> cases h
    exact ⟨.poll, e', rfl, rfl, .inl rfl⟩

end SockModel.Fd
