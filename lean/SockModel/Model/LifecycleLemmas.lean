import SockModel.Model.Lifecycle
import SockModel.Basic.ListLemmas
/-! Invariants of the lifecycle machine (`Model/Lifecycle.lean`).  Every transition is a sequence of elementary
updates (`Atom`); `FInv`, `QOK` (here), `LogInv`, `Tr` (`LifecycleLogLemmas`) are checked per kind of update. -/
namespace SockModel.Lifecycle

theorem erasePfd_map (l : List (Nat × Bool)) (fd : Nat) :
    (erasePfd l fd).map (·.1) = (l.map (·.1)).erase fd := by
  induction l with
  | nil => rfl
  | cons p ps ih =>
    simp only [erasePfd, List.map_cons, List.erase_cons]
    by_cases h : p.1 = fd
    · simp [h]
    · simp [h, ih]

theorem setOut_map (l : List (Nat × Bool)) (fd : Nat) (v : Bool) :
    (setOut l fd v).map (·.1) = l.map (·.1) := by
  induction l with
  | nil => rfl
  | cons p ps ih =>
    simp only [setOut]
    by_cases h : p.1 = fd
    · simp [h]
    · simp [h, ih]

@[simp] theorem setDrv_same (s : St) (d : Nat) (v : Drv) : (s.setDrv d v).drv d = v := by simp [St.setDrv]
theorem setDrv_other (s : St) {d x : Nat} (v : Drv) (h : x ≠ d) : (s.setDrv d v).drv x = s.drv x := by simp [St.setDrv, h]
@[simp] theorem setSock_same (s : St) (i : Nat) (v : Sock) : (s.setSock i v).sock i = v := by simp [St.setSock]
theorem setSock_other (s : St) {i x : Nat} (v : Sock) (h : x ≠ i) : (s.setSock i v).sock x = s.sock x := by simp [St.setSock, h]

/-- a conditional `fail` / `setDrv` as an update by a conditional value: fields are then read off by `rfl` -/
theorem ite_fail (c : Prop) [Decidable c] (s : St) (w : String) :
    (if c then s.fail w else s) = { s with ub := if c then some w else s.ub } := by
  split <;> rfl

theorem ite_setDrv (c : Prop) [Decidable c] (s : St) (d : Nat) (v : Drv) :
    (if c then s.setDrv d v else s) = { s with drv := if c then (s.setDrv d v).drv else s.drv } := by
  split <;> rfl

/-- `AsyncUnregister` through the socket's weak driver pointer -/
def St.unreg (s : St) (i : Nat) : St :=
  if (s.drv (s.sock i).drv).alive then s.setDrv (s.sock i).drv ((s.drv (s.sock i).drv).unregister i) else s

theorem unreg_eq (s : St) (i : Nat) : s.unreg i = { s with drv := (s.unreg i).drv } := by
  unfold St.unreg; split <;> rfl

/-- the futures `Q` get state `v` -/
def mark (f : Nat → Option (Nat × Fut)) (Q : List Nat) (v : Fut) (j : Nat) : Option (Nat × Fut) :=
  if j ∈ Q then (f j).map fun p => (p.1, v) else f j

section
variable {f : Nat → Option (Nat × Fut)} {Q : List Nat} {v st : Fut} {j x : Nat}

theorem mark_of_mem (h : j ∈ Q) : mark f Q v j = (f j).map fun p => (p.1, v) := if_pos h

theorem mark_of_not_mem (h : j ∉ Q) : mark f Q v j = f j := if_neg h

theorem mark_eq_none : mark f Q v j = none ↔ f j = none := by
  unfold mark; split <;> simp

theorem mark_pending (hv : v ≠ .pending) : mark f Q v j = some (x, .pending) ↔ j ∉ Q ∧ f j = some (x, .pending) := by
  unfold mark
  split
  · rename_i h
    cases f j <;> simp [h, hv]
  · rename_i h
    simp [h]

theorem mark_some (h : f j = some (x, st)) : ∃ st', mark f Q v j = some (x, st') := by
  unfold mark; rw [h]
  split
  · exact ⟨v, rfl⟩
  · exact ⟨st, rfl⟩

end

/-- the futures `Q` are resolved with `v` and logged, the record of socket `i` becomes `k` (`~SocketAsyncImpl`: the
whole queue; `DriverSend`: its front; `Q = []`: a plain update) -/
def St.settle (s : St) (i : Nat) (Q : List Nat) (v : Fut) (k : Sock) : St :=
  { s with futs := mark s.futs Q v, log := (Q.map fun id => Ev.fut id v).reverse ++ s.log,
           sock := fun x => if x = i then k else s.sock x }

@[simp] theorem settle_futs (s : St) (i : Nat) (Q : List Nat) (v : Fut) (k : Sock) :
    (s.settle i Q v k).futs = mark s.futs Q v := rfl
@[simp] theorem settle_sock_same (s : St) (i : Nat) (Q : List Nat) (v : Fut) (k : Sock) :
    (s.settle i Q v k).sock i = k := by simp [St.settle]
theorem settle_sock_other (s : St) {i x : Nat} (Q : List Nat) (v : Fut) (k : Sock) (h : x ≠ i) :
    (s.settle i Q v k).sock x = s.sock x := by simp [St.settle, h]

theorem setSock_eq_settle (s : St) (i : Nat) (k : Sock) (v : Fut) : s.setSock i k = s.settle i [] v k := by
  have : mark s.futs [] v = s.futs := by funext j; simp [mark]
  unfold St.settle St.setSock; rw [this]; rfl

theorem resolve_eq (s : St) (id : Nat) (v : Fut) :
    s.resolve id v = { s with futs := mark s.futs [id] v, log := .fut id v :: s.log } := by
  have : (fun j => if j = id then (s.futs id).map (fun (p : Nat × Fut) => (p.1, v)) else s.futs j) = mark s.futs [id] v := by
    funext j; unfold mark; by_cases h : j = id <;> simp [h]
  unfold St.resolve; rw [this]

theorem pop_eq (s : St) (i id : Nat) (v : Fut) (k : Sock) : (s.resolve id v).setSock i k = s.settle i [id] v k := by
  rw [resolve_eq]; rfl

theorem destroySockObj_eq (s : St) (i : Nat) : s.destroySockObj i =
    St.settle { s with ub := (s.destroySockObj i).ub, drv := (s.unreg i).drv }
      i (s.sock i).sendQ .broken { s.sock i with alive := false, sendQ := [] } := by
  unfold St.destroySockObj St.unreg
  simp only [ite_fail, ite_setDrv]
  rfl

theorem destroySockObj_ub {s : St} {i : Nat} (hheld : (s.sock i).held = 0)
    (hq : ¬ ((s.sock i).sendQ.any (fun id => !s.echo id) = true ∧ ¬ s.poolAlive = true)) : (s.destroySockObj i).ub = s.ub := by
  unfold St.destroySockObj
  simp only [ite_setDrv, hheld, Nat.lt_irrefl, ↓reduceIte, hq]
  rfl

theorem destroySockObj_sock_same (s : St) (i : Nat) :
    (s.destroySockObj i).sock i = { s.sock i with alive := false, sendQ := [] } := by
  rw [destroySockObj_eq, settle_sock_same]

theorem destroySockObj_sock_other (s : St) {i j : Nat} (h : j ≠ i) : (s.destroySockObj i).sock j = s.sock j := by
  rw [destroySockObj_eq, settle_sock_other _ _ _ _ h]

theorem disconnect_eq (s : St) (i : Nat) : s.disconnect i =
    if (s.sock i).onDisc then ((s.unreg i).emit (.disc i)).destroySockObj i else (s.unreg i).emit (.disc i) := rfl

def isFutEv : Ev → Bool
  | .fut .. => true
  | _ => false

inductive Atom : St → St → List Ev → Prop
  /-- only `ub`, the drivers, the ToDos, `echo` or the pool flag change -/
  | same (s s' : St) : s'.sock = s.sock → s'.futs = s.futs → s'.nfut = s.nfut → s'.log = s.log → Atom s s' []
  | emit (s : St) (e : Ev) : isFutEv e = false → Atom s (s.emit e) [e]
  /-- `Q` is the front of the queue of socket `i` -/
  | settle (s : St) (i : Nat) (Q rest : List Nat) (v : Fut) (k : Sock) :
      (s.sock i).sendQ = Q ++ rest → k.sendQ = rest → v ≠ .pending → k.present = (s.sock i).present →
      k.onDisc = (s.sock i).onDisc → (k.alive = (s.sock i).alive ∨ k.alive = false ∧ rest = []) →
      Atom s (s.settle i Q v k) []

inductive Steps : St → St → List Ev → Prop
  | refl (s : St) : Steps s s []
  | head {s s1 s2 : St} {H1 H2 : List Ev} : Atom s s1 H1 → Steps s1 s2 H2 → Steps s s2 (H2 ++ H1)

theorem Atom.steps {s s' : St} {H : List Ev} (a : Atom s s' H) : Steps s s' H := .head a (.refl s')

theorem Steps.trans {s s1 s2 : St} {H1 H2 : List Ev} (a : Steps s s1 H1) (b : Steps s1 s2 H2) : Steps s s2 (H2 ++ H1) := by
  induction a with
  | refl => rw [List.append_nil]; exact b
  | head x _ ih => rw [← List.append_assoc]; exact .head x (ih b)

theorem Steps.ind {P : St → Prop} (atom : ∀ {s s' : St} {H : List Ev}, Atom s s' H → P s → P s')
    {s s' : St} {H : List Ev} (st : Steps s s' H) (h : P s) : P s' := by
  induction st with
  | refl => exact h
  | head a _ ih => exact ih (atom a h)

theorem Steps.same {s s' : St} (hs : s'.sock = s.sock) (hf : s'.futs = s.futs) (hn : s'.nfut = s.nfut)
    (hl : s'.log = s.log) : Steps s s' [] := (Atom.same s s' hs hf hn hl).steps

theorem Steps.then_same {s s1 s2 : St} {H : List Ev} (a : Steps s s1 H) (hs : s2.sock = s1.sock) (hf : s2.futs = s1.futs)
    (hn : s2.nfut = s1.nfut) (hl : s2.log = s1.log) : Steps s s2 H := a.trans (.same hs hf hn hl)

theorem Steps.after_same {s s1 s2 : St} {H : List Ev} (b : Steps s1 s2 H) (hs : s1.sock = s.sock) (hf : s1.futs = s.futs)
    (hn : s1.nfut = s.nfut) (hl : s1.log = s.log) : Steps s s2 H :=
  List.append_nil H ▸ (Steps.same hs hf hn hl).trans b

theorem Steps.setSock {s : St} {i : Nat} {k : Sock} (ha : k.alive = (s.sock i).alive) (hq : k.sendQ = (s.sock i).sendQ)
    (hp : k.present = (s.sock i).present) (ho : k.onDisc = (s.sock i).onDisc) : Steps s (s.setSock i k) [] := by
  rw [setSock_eq_settle s i k .value]
  exact (Atom.settle s i [] _ _ k rfl hq (by simp) hp ho (.inl ha)).steps

theorem unreg_steps (s : St) (i : Nat) : Steps s (s.unreg i) [] := by
  rw [unreg_eq]; exact .same rfl rfl rfl rfl

theorem destroySockObj_steps (s : St) (i : Nat) : Steps s (s.destroySockObj i) [] := by
  rw [destroySockObj_eq]
  exact (Atom.settle { s with ub := _, drv := (s.unreg i).drv } i _ [] .broken { s.sock i with alive := false, sendQ := [] }
    (List.append_nil _).symm rfl (by simp) rfl rfl (.inr ⟨rfl, rfl⟩)).steps.after_same rfl rfl rfl rfl

theorem disconnect_steps (s : St) (i : Nat) : Steps s (s.disconnect i) [.disc i] := by
  have h := (unreg_steps s i).trans (Atom.emit _ (.disc i) rfl).steps
  rw [disconnect_eq]
  split
  · exact h.trans (destroySockObj_steps _ i)
  · exact h

theorem disconnect_dead (s : St) (i : Nat) (h : (s.sock i).onDisc = true) : ((s.disconnect i).sock i).alive = false := by
  rw [disconnect_eq, if_pos h, destroySockObj_sock_same]

/-- the handler events of a socket task: none, or one handler of a socket -/
def SockShape (s s' : St) (i : Nat) (H : List Ev) : Prop :=
  H = [] ∨ H = [.recv i] ∨ H = [.recvFrom i] ∨ H = [.conn i] ∨
    (H = [.disc i] ∧ ((s.sock i).onDisc = true → (s'.sock i).alive = false))

theorem onReadable_cases {P : St → Prop} (s : St) (i : Nat) (disc : P (s.disconnect i)) (idle : P s)
    (bad : (s.sock i).selfDestroyInRecv = true → ∀ e w, (e = .recv i ∨ e = .recvFrom i) → P ((s.emit e).fail w))
    (ok : ∀ e hd, (e = .recv i ∨ e = .recvFrom i ∨ e = .conn i) →
      (hd = (s.sock i).held ∨ hd = if (s.sock i).holdRx then (s.sock i).held + 1 else (s.sock i).held) →
      P ((s.emit e).setSock i { (s.sock i) with rx := (s.sock i).rx - 1, held := hd })) : P (s.onReadable i) := by
  unfold St.onReadable
  simp only
  split
  · split
    · split
      · exact disc
      · split
        · exact bad ‹_› _ _ (.inl rfl)
        · exact ok _ _ (.inl rfl) (.inr rfl)
    · exact disc
  · split
    · exact idle
    · split
      · exact bad ‹_› _ _ (.inr rfl)
      · exact ok _ _ (.inr (.inl rfl)) (.inr rfl)
  · exact ok _ _ (.inr (.inr rfl)) (.inl rfl)

theorem onReadable_steps (s : St) (i : Nat) : ∃ H, Steps s (s.onReadable i) H ∧ SockShape s (s.onReadable i) i H := by
  refine onReadable_cases (P := fun s' => ∃ H, Steps s s' H ∧ SockShape s s' i H) s i
    ⟨_, disconnect_steps s i, .inr (.inr (.inr (.inr ⟨rfl, disconnect_dead s i⟩)))⟩ ⟨_, .refl s, .inl rfl⟩
    (fun _ e w he => ?_) (fun e hd he _ => ?_)
  · have hs := (Atom.emit s e (by rcases he with rfl | rfl <;> rfl)).steps.then_same (s2 := (s.emit e).fail w) rfl rfl rfl rfl
    exact ⟨_, hs, by rcases he with rfl | rfl <;> simp [SockShape]⟩
  · have hs := (Atom.emit s e (by rcases he with rfl | rfl | rfl <;> rfl)).steps.trans
      (Steps.setSock (k := { (s.sock i) with rx := (s.sock i).rx - 1, held := hd }) rfl rfl rfl rfl)
    exact ⟨_, hs, by rcases he with rfl | rfl | rfl <;> simp [SockShape]⟩

theorem sent_ne_pending (k : Sock) : (if k.kind = .tcp ∧ k.failSend = true then Fut.exn
    else if k.kind = .tcp ∧ k.peer ≠ .up then Fut.either else Fut.value) ≠ .pending := by
  split
  · simp
  · split <;> simp

theorem onWritable_steps (s : St) (i : Nat) : Steps s (s.onWritable i) [] := by
  unfold St.onWritable
  simp only
  split
  · exact .refl s
  · rename_i id rest hq
    rw [pop_eq]
    have h1 := (Atom.settle s i [id] rest _
      { (s.sock i) with sendQ := rest, failSend := if (s.sock i).kind = .tcp then false else (s.sock i).failSend }
      hq rfl (sent_ne_pending (s.sock i)) rfl rfl (.inl rfl)).steps
    split
    · exact h1.then_same rfl rfl rfl rfl
    · exact h1

theorem runTodo_steps (s : St) (d : Nat) : ∃ H, Steps s (s.runTodo d) H ∧ (H = [] ∨ ∃ t, H = [.todo t]) := by
  unfold St.runTodo
  split
  · exact ⟨_, .refl s, .inl rfl⟩
  · rename_i t rest _
    exact ⟨_, (Atom.emit (s.setDrv d { (s.drv d) with todos := rest }) (.todo t) rfl).steps.after_same rfl rfl rfl rfl, .inr ⟨t, rfl⟩⟩

theorem runTodo_sock (s : St) (d : Nat) : (s.runTodo d).sock = s.sock := by
  unfold St.runTodo; split <;> rfl

theorem scan_read_alive (sock : Nat → Sock) : ∀ (l : List Nat) (p : List (Nat × Bool)) (i : Nat),
    scan sock l p = .ok (some (.read i)) → (sock i).alive = true := by
  intro l
  induction l with
  | nil => intro p i h; cases p <;> simp [scan] at h
  | cons x xs ih =>
    intro p i h
    cases p with
    | nil => simp [scan] at h
    | cons a as =>
      unfold scan at h
      split at h
      · cases h
      · split at h
        · cases h
        · rename_i hal
          split at h
          · cases h; simpa using hal
          · split at h
            · cases h
            · exact ih as i h

theorem stepSockets_steps (s : St) (d : Nat) : ∃ H, Steps s (s.stepSockets d) H ∧
    (H = [] ∨ ∃ i, (s.sock i).alive = true ∧ SockShape s (s.stepSockets d) i H) := by
  unfold St.stepSockets
  split
  · exact ⟨_, .same rfl rfl rfl rfl, .inl rfl⟩
  · exact ⟨_, .refl _, .inl rfl⟩
  · rename_i i hsc
    obtain ⟨H, h1, h2⟩ := onReadable_steps s i
    exact ⟨H, h1, .inr ⟨i, scan_read_alive _ _ _ _ hsc, h2⟩⟩
  · exact ⟨_, onWritable_steps _ _, .inl rfl⟩

/-- `Step`: at most one ToDo, then at most one handler of a socket that is alive -/
theorem step_steps (s : St) (d : Nat) : ∃ Ht Hs, Steps s (s.step d) (Hs ++ Ht) ∧ (Ht = [] ∨ ∃ t, Ht = [.todo t]) ∧
    (Hs = [] ∨ ∃ i, (s.sock i).alive = true ∧ SockShape s (s.step d) i Hs) := by
  obtain ⟨Ht, h1, ht⟩ := runTodo_steps s d
  obtain ⟨Hs, h2, hs⟩ := stepSockets_steps (s.runTodo d) d
  unfold SockShape at hs ⊢
  rw [runTodo_sock] at hs
  exact ⟨Ht, Hs, h1.trans h2, ht, hs⟩

theorem wantSend_same (v : Variant) (s : St) (i : Nat) : (St.wantSend v s i).sock = s.sock ∧
    (St.wantSend v s i).futs = s.futs ∧ (St.wantSend v s i).nfut = s.nfut ∧ (St.wantSend v s i).log = s.log := by
  unfold St.wantSend
  simp only
  split
  · exact ⟨rfl, rfl, rfl, rfl⟩
  · split
    · exact ⟨rfl, rfl, rfl, rfl⟩
    · cases v <;> exact ⟨rfl, rfl, rfl, rfl⟩

theorem wantSend_steps (v : Variant) (s : St) (i : Nat) : Steps s (St.wantSend v s i) [] :=
  have h := wantSend_same v s i
  .same h.1 h.2.1 h.2.2.1 h.2.2.2

/-- operations that add no handler event and keep socket identities and the number of futures -/
def plainOp : Op → Bool
  | .mkSock .. | .send _ | .echo _ | .step _ => false
  | _ => true

theorem exec_of_ub {s : St} (v : Variant) (op : Op) (h : s.ub.isSome = true) : exec v s op = s := by
  unfold Lifecycle.exec; rw [if_pos h]

theorem Steps.orFail {c : Prop} [Decidable c] {s x : St} {w : String} (h : Steps s x []) :
    Steps s (if c then s.fail w else x) [] := by
  split
  · exact .same rfl rfl rfl rfl
  · exact h

theorem exec_plain_steps (v : Variant) (s : St) (op : Op) (hp : plainOp op = true) : Steps s (exec v s op) [] := by
  by_cases hub : s.ub.isSome = true
  · rw [exec_of_ub v op hub]; exact .refl s
  unfold Lifecycle.exec
  rw [if_neg hub]
  cases op with
  | mkSock i k d a b c | send i | echo i | step d => cases hp
  | peerSend i | peerConnect i | peerClose i | peerReset i | sendFail i | release i => exact .setSock rfl rfl rfl rfl
  | mkDriver d | destroyDriver d | dropTodo t => exact .orFail (.same rfl rfl rfl rfl)
  | destroySock i => exact .orFail (destroySockObj_steps s i)
  | mkTodo t d scheduled => exact .orFail (.orFail (by split <;> exact .same rfl rfl rfl rfl))
  | cancel t | shift t => exact .orFail (by split; exact .same rfl rfl rfl rfl; exact .refl s)
  | destroyPool => exact .orFail (.orFail (.same rfl rfl rfl rfl))

theorem exec_ind {P : St → Prop} (steps : ∀ {s s' : St} {H : List Ev}, P s → Steps s s' H → P s')
    (enq : ∀ {s : St} (i : Nat) (e : Bool), (s.sock i).alive = true → P s → P (s.enqueue i e))
    (new : ∀ {s : St} (i : Nat) (k : Sock), (s.sock i).present = false → k.present = true → k.sendQ = [] →
      P s → P (s.setSock i k))
    (v : Variant) {s : St} (h : P s) (op : Op) : P (exec v s op) := by
  by_cases hp : plainOp op = true
  · exact steps h (exec_plain_steps v s op hp)
  by_cases hub : s.ub.isSome = true
  · rw [exec_of_ub v op hub]; exact h
  have orFail : ∀ {c : Prop} [Decidable c] {w : String} {x : St}, (¬ c → P x) → P (if c then s.fail w else x) := by
    intro c _ w x hx
    split
    · exact steps h (.same rfl rfl rfl rfl)
    · exact hx ‹_›
  have wake : ∀ {c : Prop} [Decidable c] {s1 : St} (i : Nat), P s1 → P (if c then St.wantSend v s1 i else s1) := by
    intro c _ s1 i h1
    split
    · exact steps h1 (wantSend_steps v s1 i)
    · exact h1
  unfold Lifecycle.exec
  rw [if_neg hub]
  cases op with
  | mkSock i k d a b c =>
    exact orFail fun hnp => orFail fun _ => steps (new i _ (by simpa using hnp) rfl rfl h) (.same rfl rfl rfl rfl)
  | send i => exact orFail fun hal => orFail fun _ => wake i (enq i false (by simpa using hal) h)
  | echo i =>
    exact orFail fun hal => orFail fun _ =>
      wake i (enq i true (by simpa using hal) (steps h (Steps.setSock rfl rfl rfl rfl)))
  | step d =>
    obtain ⟨_, _, st, _⟩ := step_steps s d
    exact orFail fun _ => steps h st
  | _ => exact absurd rfl hp

theorem enqueue_sock_same (s : St) (i : Nat) (e : Bool) :
    (s.enqueue i e).sock i = { (s.sock i) with sendQ := (s.sock i).sendQ ++ [s.nfut] } :=
  setSock_same s i _

theorem enqueue_sock_other (s : St) {i x : Nat} (e : Bool) (h : x ≠ i) : (s.enqueue i e).sock x = s.sock x :=
  setSock_other s _ h

theorem enqueue_futs (s : St) (i : Nat) (e : Bool) (j : Nat) :
    (s.enqueue i e).futs j = if j = s.nfut then some (i, .pending) else s.futs j := rfl

theorem enqueue_nf {s : St} (h : ∀ j, s.futs j ≠ none → j < s.nfut) (i : Nat) (e : Bool) (j : Nat)
    (hj : (s.enqueue i e).futs j ≠ none) : j < (s.enqueue i e).nfut := by
  show j < s.nfut + 1
  rw [enqueue_futs] at hj
  split at hj
  · omega
  · exact Nat.lt_succ_of_lt (h j hj)

theorem nf_atom {s s' : St} {H : List Ev} (a : Atom s s' H) (h : ∀ j, s.futs j ≠ none → j < s.nfut) :
    ∀ j, s'.futs j ≠ none → j < s'.nfut := by
  cases a with
  | same _ hs hf hn hl => rw [hf, hn]; exact h
  | emit => exact h
  | settle => exact fun j hj => h j (fun hn => hj (mark_eq_none.mpr hn))

/-! ### futures never dangle (every history, legal or not, both variants) -/

structure FInv (s : St) : Prop where
  fd : ∀ j x, s.futs j = some (x, .pending) → (s.sock x).alive = true ∧ j ∈ (s.sock x).sendQ
  nf : ∀ j, s.futs j ≠ none → j < s.nfut
  pres : ∀ x, (s.sock x).alive = true → (s.sock x).present = true

theorem FInv.init : FInv {} := ⟨fun _ _ h => by simp at h, fun _ h => by simp at h, fun _ h => by simp at h⟩

theorem FInv.atom {s s' : St} {H : List Ev} (a : Atom s s' H) (h : FInv s) : FInv s' := by
  have hnf := nf_atom a h.nf
  cases a with
  | same _ hs hf hn hl => exact ⟨by rw [hs, hf]; exact h.fd, hnf, by rw [hs]; exact h.pres⟩
  | emit => exact { h with }
  | settle i Q rest v k hq hk hv hp ho ha =>
    refine ⟨fun j x hj => ?_, hnf, fun x hx => ?_⟩
    · rw [settle_futs, mark_pending hv] at hj
      have hx := h.fd j x hj.2
      by_cases hxi : x = i
      · subst hxi
        have hm : j ∈ rest := by
          have := hx.2
          rw [hq, List.mem_append] at this
          exact this.resolve_left hj.1
        rw [settle_sock_same, hk]
        rcases ha with ha | ⟨_, hr⟩
        · exact ⟨ha ▸ hx.1, hm⟩
        · rw [hr] at hm; cases hm
      · rw [settle_sock_other _ _ _ _ hxi]; exact hx
    · by_cases hxi : x = i
      · subst hxi
        rw [settle_sock_same] at hx ⊢
        rcases ha with ha | ⟨ha, _⟩
        · rw [hp]; exact h.pres x (ha ▸ hx)
        · rw [ha] at hx; cases hx
      · rw [settle_sock_other _ _ _ _ hxi] at hx ⊢; exact h.pres x hx

theorem FInv.steps {s s' : St} {H : List Ev} (h : FInv s) (st : Steps s s' H) : FInv s' := st.ind FInv.atom h

theorem FInv.destroySockObj {s : St} (h : FInv s) (i : Nat) : FInv (s.destroySockObj i) :=
  h.steps (destroySockObj_steps s i)

theorem FInv.disconnect {s : St} (h : FInv s) (i : Nat) : FInv (s.disconnect i) :=
  h.steps (disconnect_steps s i)

theorem FInv.enqueue {s : St} (h : FInv s) (i : Nat) (e : Bool) (hal : (s.sock i).alive = true) : FInv (s.enqueue i e) := by
  refine ⟨?_, enqueue_nf h.nf i e, ?_⟩
  · intro j x hj
    rw [enqueue_futs] at hj
    split at hj
    · rename_i hjn
      cases hj
      rw [enqueue_sock_same]
      exact ⟨hal, by simp [hjn]⟩
    · have hx := h.fd j x hj
      by_cases hxi : x = i
      · subst hxi; rw [enqueue_sock_same]; exact ⟨hx.1, List.mem_append_left _ hx.2⟩
      · rw [enqueue_sock_other _ _ hxi]; exact hx
  · intro x hx
    by_cases hxi : x = i
    · subst hxi; rw [enqueue_sock_same]; exact h.pres x hal
    · rw [enqueue_sock_other _ _ hxi] at hx ⊢; exact h.pres x hx

theorem FInv.newSock {s : St} (h : FInv s) (i : Nat) (k : Sock) (hnp : (s.sock i).present = false) (hp : k.present = true) :
    FInv (s.setSock i k) := by
  refine ⟨?_, h.nf, ?_⟩
  · intro j x hj
    have hx := h.fd j x hj
    have hxi : x ≠ i := fun e => by
      subst e
      have := h.pres x hx.1
      rw [hnp] at this; cases this
    rw [setSock_other _ _ hxi]; exact hx
  · intro x hx
    by_cases hxi : x = i
    · subst hxi; rw [setSock_same]; exact hp
    · rw [setSock_other _ _ hxi] at hx ⊢; exact h.pres x hx

theorem FInv.exec {s : St} (h : FInv s) (v : Variant) (op : Op) : FInv (exec v s op) :=
  exec_ind FInv.steps (fun i e hal h => h.enqueue i e hal) (fun i k hnp hp _ h => h.newSock i k hnp hp) v h op

theorem FInv.run {s : St} (h : FInv s) (v : Variant) (ops : List Op) : FInv (run v s ops) := by
  induction ops generalizing s with
  | nil => exact h
  | cons op rest ih => exact ih (h.exec v op)

/-- queued sends are pending futures of their socket, each queued once (part of `LInv`) -/
def QOK (s : St) : Prop :=
  (∀ x id, id ∈ (s.sock x).sendQ → s.futs id = some (x, .pending)) ∧ ∀ x, (s.sock x).sendQ.Nodup

theorem QOK.atom {s s' : St} {H : List Ev} (a : Atom s s' H) (h : QOK s) : QOK s' := by
  cases a with
  | same _ hs hf hn hl => unfold QOK; rw [hs, hf]; exact h
  | emit => exact h
  | settle i Q rest v k hq hk hv hp ho ha =>
    have hnd := h.2 i
    rw [hq] at hnd
    refine ⟨?_, ?_⟩
    · intro x id hid
      -- `id` is still queued, hence not among the settled ones
      have hold : id ∈ (s.sock x).sendQ ∧ id ∉ Q := by
        by_cases hxi : x = i
        · subst hxi
          rw [settle_sock_same, hk] at hid
          exact ⟨by rw [hq]; exact List.mem_append_right _ hid,
            fun hQ => (List.nodup_append.mp hnd).2.2 id hQ id hid rfl⟩
        · rw [settle_sock_other _ _ _ _ hxi] at hid
          refine ⟨hid, fun hQ => ?_⟩
          have h1 := h.1 x id hid
          rw [h.1 i id (by rw [hq]; exact List.mem_append_left _ hQ)] at h1
          cases h1; exact hxi rfl
      rw [settle_futs, mark_of_not_mem hold.2]; exact h.1 x id hold.1
    · intro x
      by_cases hxi : x = i
      · subst hxi; rw [settle_sock_same, hk]; exact (List.nodup_append.mp hnd).2.1
      · rw [settle_sock_other _ _ _ _ hxi]; exact h.2 x

theorem QOK.steps {s s' : St} {H : List Ev} (h : QOK s) (st : Steps s s' H) : QOK s' := st.ind QOK.atom h

theorem QOK.enqueue {s : St} (h : QOK s) (hnf : ∀ j, s.futs j ≠ none → j < s.nfut) (i : Nat) (e : Bool) :
    QOK (s.enqueue i e) := by
  have hfresh : ∀ x, s.nfut ∉ (s.sock x).sendQ := by
    intro x hin
    have := hnf s.nfut (by rw [h.1 x _ hin]; simp)
    omega
  refine ⟨?_, ?_⟩
  · intro x id hid
    rw [enqueue_futs]
    by_cases hxi : x = i
    · subst hxi
      rw [enqueue_sock_same] at hid
      simp only [List.mem_append, List.mem_singleton] at hid
      rcases hid with hm | he
      · have hne : id ≠ s.nfut := fun e => hfresh x (e ▸ hm)
        rw [if_neg hne]; exact h.1 x id hm
      · rw [if_pos he]
    · rw [enqueue_sock_other _ _ hxi] at hid
      have hne : id ≠ s.nfut := fun e => hfresh x (e ▸ hid)
      rw [if_neg hne]; exact h.1 x id hid
  · intro x
    by_cases hxi : x = i
    · subst hxi
      rw [enqueue_sock_same]
      exact nodup_snoc (h.2 x) (hfresh x)
    · rw [enqueue_sock_other _ _ hxi]; exact h.2 x

theorem QOK.newSock {s : St} (h : QOK s) (i : Nat) (k : Sock) (hq : k.sendQ = []) : QOK (s.setSock i k) := by
  refine ⟨?_, ?_⟩
  · intro x id hid
    by_cases hxi : x = i
    · subst hxi; rw [setSock_same, hq] at hid; cases hid
    · rw [setSock_other _ _ hxi] at hid; exact h.1 x id hid
  · intro x
    by_cases hxi : x = i
    · subst hxi; rw [setSock_same, hq]; exact List.nodup_nil
    · rw [setSock_other _ _ hxi]; exact h.2 x

/-- the invariant behind `legal_never_ub` -/
structure LInv (s : St) : Prop where
  ub : s.ub = none
  par : ∀ d, (s.drv d).pfds.map (·.1) = (s.drv d).sockets
  reg : ∀ d x, (s.drv d).alive = true → x ∈ (s.drv d).sockets → (s.sock x).alive = true ∧ (s.sock x).drv = d
  nodup : ∀ d, (s.drv d).sockets.Nodup
  sockPresent : ∀ x, (s.sock x).alive = true → (s.sock x).present = true
  drvPresent : ∀ d, (s.drv d).alive = true → (s.drv d).present = true
  cfg : ∀ x, (s.sock x).selfDestroyInRecv = false ∧ ((s.sock x).onDisc = true → (s.sock x).holdRx = false) ∧
    ((s.sock x).held > 0 → (s.sock x).holdRx = true)
  q : ∀ x id, id ∈ (s.sock x).sendQ → s.futs id = some (x, .pending)
  qnodup : ∀ x, (s.sock x).sendQ.Nodup
  poolq : s.poolAlive = false → ∀ j, s.isPoolPending j = false
  nf : ∀ j, s.futs j ≠ none → j < s.nfut

theorem LInv.init : LInv {} :=
  { ub := rfl, par := fun _ => rfl, reg := fun _ _ h => by simp at h, nodup := fun _ => List.nodup_nil,
    sockPresent := fun _ h => by simp at h, drvPresent := fun _ h => by simp at h,
    cfg := fun _ => ⟨rfl, by simp, by simp⟩, q := fun _ _ h => by simp at h, qnodup := fun _ => List.nodup_nil,
    poolq := fun h => by simp at h, nf := fun _ h => by simp at h }

theorem QOK.of_LInv {s : St} (h : LInv s) : QOK s := ⟨h.q, h.qnodup⟩

theorem LInv.setDrv {s : St} (h : LInv s) (d : Nat) (v : Drv)
    (hpar : v.pfds.map (·.1) = v.sockets) (hnd : v.sockets.Nodup)
    (hreg : v.alive = true → ∀ x ∈ v.sockets, (s.sock x).alive = true ∧ (s.sock x).drv = d)
    (hpr : v.alive = true → v.present = true) :
    LInv (s.setDrv d v) :=
  { h with
    par := fun d' => by
      by_cases hd : d' = d
      · subst hd; simpa using hpar
      · rw [setDrv_other s v hd]; exact h.par d'
    reg := fun d' x ha hx => by
      by_cases hd : d' = d
      · subst hd
        simp only [setDrv_same] at ha hx
        exact hreg ha x hx
      · rw [setDrv_other s v hd] at ha hx; exact h.reg d' x ha hx
    nodup := fun d' => by
      by_cases hd : d' = d
      · subst hd; simpa using hnd
      · rw [setDrv_other s v hd]; exact h.nodup d'
    drvPresent := fun d' ha => by
      by_cases hd : d' = d
      · subst hd; simp only [setDrv_same] at ha ⊢; exact hpr ha
      · rw [setDrv_other s v hd] at ha ⊢; exact h.drvPresent d' ha }

theorem LInv.emit {s : St} (h : LInv s) (e : Ev) : LInv (s.emit e) := { h with }
theorem LInv.setTodo {s : St} (h : LInv s) (t : Nat) (v : Todo) : LInv (s.setTodo t v) := { h with }

theorem LInv.unregister {s : St} (h : LInv s) (d i : Nat) : LInv (s.setDrv d ((s.drv d).unregister i)) :=
  h.setDrv d _ (by simp only [Drv.unregister]; rw [erasePfd_map, h.par d]) ((h.nodup d).erase i)
    (fun ha x hx => h.reg d x ha (List.mem_of_mem_erase hx)) (h.drvPresent d)

theorem unreg_sock (s : St) (i : Nat) : (s.unreg i).sock = s.sock := by rw [unreg_eq]

theorem LInv.unreg {s : St} (h : LInv s) (i : Nat) : LInv (s.unreg i) := by
  unfold St.unreg
  split
  · exact h.unregister _ _
  · exact h

theorem LInv.unreg_unlisted {s : St} (h : LInv s) (i d : Nat) (hda : ((s.unreg i).drv d).alive = true) :
    i ∉ ((s.unreg i).drv d).sockets := by
  intro hin
  by_cases hdrv : (s.drv (s.sock i).drv).alive = true
  · simp only [St.unreg, hdrv, ↓reduceIte] at hda hin
    by_cases hd : d = (s.sock i).drv
    · subst hd
      simp only [setDrv_same, Drv.unregister] at hin
      exact (List.Nodup.mem_erase_iff (h.nodup _)).mp hin |>.1 rfl
    · rw [setDrv_other s _ hd] at hda hin
      exact hd (h.reg d i hda hin).2.symm
  · simp only [St.unreg, hdrv] at hda hin
    have := (h.reg d i hda hin).2
    rw [← this] at hda
    exact hdrv hda

/-- changing only the POLLOUT flags -/
theorem LInv.setOut {s : St} (h : LInv s) (d i : Nat) (v : Bool) :
    LInv (s.setDrv d { (s.drv d) with pfds := setOut (s.drv d).pfds i v }) :=
  h.setDrv d _ (by simp only; rw [setOut_map, h.par d]) (h.nodup d) (fun ha x hx => h.reg d x ha hx) (h.drvPresent d)

theorem LInv.setTodos {s : St} (h : LInv s) (d : Nat) (l : List Nat) :
    LInv (s.setDrv d { (s.drv d) with todos := l }) :=
  h.setDrv d _ (h.par d) (h.nodup d) (fun ha x hx => h.reg d x ha hx) (h.drvPresent d)

theorem isPending_iff (s : St) (j : Nat) : s.isPending j = true ↔ ∃ x, s.futs j = some (x, .pending) := by
  unfold St.isPending
  constructor
  · intro h
    split at h
    · rename_i x heq; exact ⟨x, heq⟩
    · cases h
  · intro ⟨x, hx⟩; rw [hx]

theorem FInv.noPending {s : St} (h : FInv s) (hd : ∀ i, (s.sock i).alive = false) (j : Nat) : s.isPending j = false := by
  cases hp : s.isPending j with
  | false => rfl
  | true =>
    obtain ⟨x, hx⟩ := (isPending_iff _ j).mp hp
    have := (h.fd j x hx).1
    rw [hd x] at this; cases this

theorem isPoolPending_iff (s : St) (j : Nat) : s.isPoolPending j = true ↔ s.isPending j = true ∧ s.echo j = false := by
  unfold St.isPoolPending
  simp

theorem poolq_mono {s s' : St} (h : ∀ j, s.isPoolPending j = false)
    (hm : ∀ j x, s'.futs j = some (x, .pending) → s'.echo j = false → s.futs j = some (x, .pending) ∧ s.echo j = false) :
    ∀ j, s'.isPoolPending j = false := by
  intro j
  cases hpj : s'.isPoolPending j with
  | false => rfl
  | true =>
    obtain ⟨hpen, hech⟩ := (isPoolPending_iff _ j).mp hpj
    obtain ⟨x, hx⟩ := (isPending_iff _ j).mp hpen
    obtain ⟨h1, h2⟩ := hm j x hx hech
    have : s.isPoolPending j = true := (isPoolPending_iff _ j).mpr ⟨(isPending_iff _ j).mpr ⟨x, h1⟩, h2⟩
    rw [h j] at this; cases this

theorem LInv.settle {s : St} (h : LInv s) (i : Nat) (Q rest : List Nat) (v : Fut) (k : Sock)
    (hq : (s.sock i).sendQ = Q ++ rest) (hk : k.sendQ = rest) (hv : v ≠ .pending)
    (hp : k.present = (s.sock i).present) (hd : k.drv = (s.sock i).drv)
    (hs : k.selfDestroyInRecv = (s.sock i).selfDestroyInRecv) (ho : k.onDisc = (s.sock i).onDisc)
    (hh : k.holdRx = (s.sock i).holdRx) (hheld : k.held > 0 → k.holdRx = true)
    (ha : k.alive = (s.sock i).alive ∨
      k.alive = false ∧ rest = [] ∧ ∀ d, (s.drv d).alive = true → i ∉ (s.drv d).sockets) :
    LInv (s.settle i Q v k) :=
  have a : Atom s (s.settle i Q v k) [] := .settle s i Q rest v k hq hk hv hp ho (ha.imp_right fun a => ⟨a.1, a.2.1⟩)
  have hQ := QOK.atom a (QOK.of_LInv h)
  { h with
    q := hQ.1, qnodup := hQ.2
    reg := fun d x hda hx => by
      by_cases hxi : x = i
      · subst hxi
        rw [settle_sock_same, hd]
        rcases ha with ha | ⟨_, _, hn⟩
        · rw [ha]; exact h.reg d x hda hx
        · exact absurd hx (hn d hda)
      · rw [settle_sock_other _ _ _ _ hxi]; exact h.reg d x hda hx
    sockPresent := fun x hal => by
      by_cases hxi : x = i
      · subst hxi
        rw [settle_sock_same] at hal ⊢
        rw [hp]
        rcases ha with ha | ⟨ha, _⟩
        · exact h.sockPresent x (ha ▸ hal)
        · rw [ha] at hal; cases hal
      · rw [settle_sock_other _ _ _ _ hxi] at hal ⊢; exact h.sockPresent x hal
    cfg := fun x => by
      by_cases hxi : x = i
      · subst hxi
        rw [settle_sock_same, hs, ho]
        exact ⟨(h.cfg x).1, fun hod => hh ▸ (h.cfg x).2.1 hod, hheld⟩
      · rw [settle_sock_other _ _ _ _ hxi]; exact h.cfg x
    poolq := fun hpa => poolq_mono (h.poolq hpa) fun j x hx he => ⟨((mark_pending hv).mp hx).2, he⟩
    nf := nf_atom a h.nf }

/-- a change to a socket record that keeps identity, configuration and queue -/
theorem LInv.setSockLight {s : St} (h : LInv s) (i : Nat) (k : Sock)
    (ha : k.alive = (s.sock i).alive) (hd : k.drv = (s.sock i).drv) (hp : k.present = (s.sock i).present)
    (hs : k.selfDestroyInRecv = (s.sock i).selfDestroyInRecv) (ho : k.onDisc = (s.sock i).onDisc)
    (hh : k.holdRx = (s.sock i).holdRx) (hq : k.sendQ = (s.sock i).sendQ) (hheld : k.held > 0 → k.holdRx = true) :
    LInv (s.setSock i k) := by
  rw [setSock_eq_settle s i k .value]
  exact h.settle i [] _ .value k rfl hq (by simp) hp hd hs ho hh hheld (.inl ha)

/-- `~SocketAsyncImpl` of a live socket whose receive buffers were all returned -/
theorem LInv.destroySockObj {s : St} (h : LInv s) (i : Nat) (hal : (s.sock i).alive = true) (hheld : (s.sock i).held = 0) :
    LInv (s.destroySockObj i) := by
  -- the pool check cannot fire: a queued send-pool buffer is pending, so the pool is alive
  have hq0 : ¬ ((s.sock i).sendQ.any (fun id => !s.echo id) = true ∧ ¬ s.poolAlive = true) := by
    intro ⟨hany, hp⟩
    obtain ⟨id, hid, hne⟩ := List.any_eq_true.mp hany
    have hpt : s.isPoolPending id = true :=
      (isPoolPending_iff s id).mpr ⟨(isPending_iff s id).mpr ⟨i, h.q i id hid⟩, by simpa using hne⟩
    rw [h.poolq (by simpa using hp) id] at hpt; cases hpt
  have h1 := h.unreg i
  rw [unreg_eq] at h1
  rw [destroySockObj_eq, destroySockObj_ub hheld hq0]
  exact h1.settle i _ [] .broken _ (List.append_nil _).symm rfl (by simp) rfl rfl rfl rfl rfl (h.cfg i).2.2
    (.inr ⟨rfl, rfl, h.unreg_unlisted i⟩)

theorem LInv.disconnect {s : St} (h : LInv s) (i : Nat) (hal : (s.sock i).alive = true) : LInv (s.disconnect i) := by
  have h2 : LInv ((s.unreg i).emit (.disc i)) := (h.unreg i).emit _
  rw [disconnect_eq]
  split
  · rename_i hod
    apply h2.destroySockObj i
    · show ((s.unreg i).sock i).alive = true
      rw [unreg_sock]; exact hal
    · show ((s.unreg i).sock i).held = 0
      rw [unreg_sock]
      -- a socket whose disconnect handler destroys it never keeps receive buffers
      cases hh : (s.sock i).held with
      | zero => rfl
      | succ n =>
        have := (h.cfg i).2.2 (by omega)
        rw [(h.cfg i).2.1 hod] at this; cases this
  · exact h2

theorem LInv.onReadable {s : St} (h : LInv s) (i : Nat) (hal : (s.sock i).alive = true) : LInv (s.onReadable i) := by
  have hc := h.cfg i
  refine onReadable_cases s i (h.disconnect i hal) h (fun hsd => ?_) (fun e hd _ hhd => ?_)
  · -- legal sockets do not destroy themselves in the receive handler
    rw [hc.1] at hsd; cases hsd
  · apply (h.emit e).setSockLight i <;> try rfl
    intro hgt
    rcases hhd with rfl | rfl
    · exact hc.2.2 hgt
    · by_cases hh : (s.sock i).holdRx = true
      · exact hh
      · simp only [hh, Bool.false_eq_true, ↓reduceIte] at hgt
        exact hc.2.2 hgt

theorem LInv.onWritable {s : St} (h : LInv s) (i : Nat) : LInv (s.onWritable i) := by
  unfold St.onWritable
  simp only
  split
  · exact h
  · rename_i id rest hq
    rw [pop_eq]
    have h1 := h.settle i [id] rest _
      { (s.sock i) with sendQ := rest, failSend := if (s.sock i).kind = .tcp then false else (s.sock i).failSend }
      hq rfl (sent_ne_pending (s.sock i)) rfl rfl rfl rfl rfl (h.cfg i).2.2 (.inl rfl)
    split
    · exact h1.setOut _ _ _
    · exact h1

theorem scan_ok (sock : Nat → Sock) : ∀ (l : List Nat) (p : List (Nat × Bool)), p.map (·.1) = l →
    (∀ x ∈ l, (sock x).alive = true) → ∃ r, scan sock l p = .ok r := by
  intro l
  induction l with
  | nil =>
    intro p hp _
    cases p with
    | nil => exact ⟨none, rfl⟩
    | cons a as => simp at hp
  | cons x xs ih =>
    intro p hp hal
    cases p with
    | nil => simp at hp
    | cons a as =>
      simp only [List.map_cons, List.cons.injEq] at hp
      unfold scan
      simp only [hp.1, ne_eq, not_true_eq_false, ↓reduceIte, hal x (by simp)]
      split
      · exact ⟨_, rfl⟩
      · split
        · exact ⟨_, rfl⟩
        · exact ih as hp.2 (fun y hy => hal y (by simp [hy]))

theorem LInv.runTodo {s : St} (h : LInv s) (d : Nat) : LInv (s.runTodo d) := by
  unfold St.runTodo
  split
  · exact h
  · exact (h.setTodos d _).emit _

theorem runTodo_alive (s : St) (d : Nat) : ((s.runTodo d).drv d).alive = (s.drv d).alive := by
  unfold St.runTodo
  split
  · rfl
  · simp [St.emit]

theorem LInv.stepSockets {s : St} (h : LInv s) (d : Nat) (hda : (s.drv d).alive = true) : LInv (s.stepSockets d) := by
  unfold St.stepSockets
  obtain ⟨r, hr⟩ := scan_ok s.sock (s.drv d).sockets (s.drv d).pfds (h.par d) (fun x hx => (h.reg d x hda hx).1)
  rw [hr]
  cases r with
  | none => exact h
  | some t =>
    cases t with
    | read i => exact h.onReadable i (scan_read_alive _ _ _ _ hr)
    | write i => exact h.onWritable i

theorem LInv.step {s : St} (h : LInv s) (d : Nat) (hda : (s.drv d).alive = true) : LInv (s.step d) :=
  (h.runTodo d).stepSockets d (by rw [runTodo_alive]; exact hda)

/-- a new live socket object that is not (yet) registered anywhere -/
theorem LInv.newSock {s : St} (h : LInv s) (i : Nat) (k : Sock) (hnp : (s.sock i).present = false)
    (hp : k.present = true) (hs : k.selfDestroyInRecv = false) (ho : k.onDisc = true → k.holdRx = false)
    (hheld : k.held > 0 → k.holdRx = true) (hq : k.sendQ = []) : LInv (s.setSock i k) :=
  have hfresh : ∀ d, (s.drv d).alive = true → i ∉ (s.drv d).sockets := by
    intro d hd hin
    have := h.sockPresent i (h.reg d i hd hin).1
    rw [hnp] at this; cases this
  have hQ := (QOK.of_LInv h).newSock i k hq
  { h with
    q := hQ.1, qnodup := hQ.2
    reg := fun d x hal hx => by
      have hxi : x ≠ i := fun e => hfresh d hal (e ▸ hx)
      rw [setSock_other s k hxi]; exact h.reg d x hal hx
    sockPresent := fun x hal => by
      by_cases hxi : x = i
      · subst hxi; simp only [setSock_same]; exact hp
      · rw [setSock_other s k hxi] at hal ⊢; exact h.sockPresent x hal
    cfg := fun x => by
      by_cases hxi : x = i
      · subst hxi; simp only [setSock_same]; exact ⟨hs, ho, hheld⟩
      · rw [setSock_other s k hxi]; exact h.cfg x }

theorem LInv.wantSend {s : St} (h : LInv s) (i : Nat) : LInv (St.wantSend .fixed s i) := by
  unfold St.wantSend
  simp only
  split
  · exact h
  · split
    · exact h.setOut _ _ _
    · exact h

theorem poolBusy_zero {s : St} (hnf : ∀ j, s.futs j ≠ none → j < s.nfut) (h0 : s.poolBusy = 0) (j : Nat) :
    s.isPoolPending j = false := by
  cases hp : s.isPoolPending j with
  | false => rfl
  | true =>
    exfalso
    obtain ⟨x, hx⟩ := (isPending_iff s j).mp ((isPoolPending_iff s j).mp hp).1
    have hlt : j < s.nfut := hnf j (by rw [hx]; simp)
    unfold St.poolBusy at h0
    have hnil := List.eq_nil_of_length_eq_zero h0
    have : j ∈ (List.range s.nfut).filter s.isPoolPending := List.mem_filter.mpr ⟨List.mem_range.mpr hlt, hp⟩
    rw [hnil] at this
    cases this

theorem LInv.enqueue {s : St} (h : LInv s) (i : Nat) (e : Bool) (hal : (s.sock i).alive = true)
    (hpa : e = false → s.poolAlive = true) : LInv (s.enqueue i e) :=
  have hQ := (QOK.of_LInv h).enqueue h.nf i e
  { h with
    q := hQ.1, qnodup := hQ.2
    nf := enqueue_nf h.nf i e
    reg := fun d x hda hx => by
      by_cases hxi : x = i
      · subst hxi; rw [enqueue_sock_same]; exact h.reg d x hda hx
      · rw [enqueue_sock_other _ _ hxi]; exact h.reg d x hda hx
    sockPresent := fun x hxa => by
      by_cases hxi : x = i
      · subst hxi; rw [enqueue_sock_same]; exact h.sockPresent x hal
      · rw [enqueue_sock_other _ _ hxi] at hxa ⊢; exact h.sockPresent x hxa
    cfg := fun x => by
      by_cases hxi : x = i
      · subst hxi; rw [enqueue_sock_same]; exact h.cfg x
      · rw [enqueue_sock_other _ _ hxi]; exact h.cfg x
    poolq := fun hp => poolq_mono (h.poolq hp) fun j x hx he => by
      -- the new send takes a pool buffer only if `e = false`, and then the pool is alive
      rw [enqueue_futs] at hx
      have he' : (if j = s.nfut then e else s.echo j) = false := he
      by_cases hj : j = s.nfut
      · rw [if_pos hj] at he'
        have := hpa he'
        rw [show s.poolAlive = false from hp] at this; cases this
      · rw [if_neg hj] at hx he'; exact ⟨hx, he'⟩ }

theorem LInv.exec {s : St} (h : LInv s) (op : Op) (hl : legalOp s op = true) : LInv (exec .fixed s op) := by
  unfold Lifecycle.exec
  rw [if_neg (by rw [h.ub]; simp)]
  cases op <;> simp only [legalOp, Bool.and_eq_true, Bool.not_eq_eq_eq_not, Bool.not_true, bne_iff_ne, ne_eq,
    decide_eq_true_eq, beq_iff_eq] at hl
  case mkDriver d =>
    simp only [hl, Bool.false_eq_true, ↓reduceIte]
    exact h.setDrv d _ rfl List.nodup_nil (fun _ x hx => by cases hx) (fun _ => rfl)
  case mkSock i k d onDisc holdRx sdr =>
    obtain ⟨⟨⟨hnp, hda⟩, hsdr⟩, hcfg⟩ := hl
    simp only [hnp, Bool.false_eq_true, ↓reduceIte, hda, not_true_eq_false]
    subst hsdr
    have h1 := h.newSock i { present := true, alive := true, kind := k, drv := d, onDisc := onDisc, holdRx := holdRx }
      hnp rfl rfl (by intro ho; subst ho; simpa using hcfg) (by simp) rfl
    have hfresh : i ∉ (s.drv d).sockets := by
      intro hin
      have := h.sockPresent i (h.reg d i hda hin).1
      rw [hnp] at this; cases this
    apply h1.setDrv d
    · show ((s.drv d).pfds ++ [(i, false)]).map (·.1) = (s.drv d).sockets ++ [i]
      rw [List.map_append, h.par d]; rfl
    · exact nodup_snoc (h.nodup d) hfresh
    · intro _ x hx
      have hx' : x ∈ (s.drv d).sockets ++ [i] := hx
      simp only [List.mem_append, List.mem_singleton] at hx'
      cases hx' with
      | inl hm =>
        have hxi : x ≠ i := fun e => hfresh (e ▸ hm)
        rw [setSock_other _ _ hxi]; exact h.reg d x hda hm
      | inr he => subst he; simp
    · intro _; exact h.drvPresent d hda
  case send i =>
    obtain ⟨⟨⟨hal, _⟩, hpa⟩, _⟩ := hl
    simp only [hal, not_true_eq_false, ↓reduceIte, hpa]
    have h1 := h.enqueue i false hal (fun _ => hpa)
    split
    · exact h1.wantSend i
    · exact h1
  case echo i =>
    obtain ⟨⟨hal, _⟩, hheld⟩ := hl
    have hne : ¬ (s.sock i).held = 0 := by omega
    simp only [hal, not_true_eq_false, ↓reduceIte, hne]
    have h1 : LInv (s.setSock i { (s.sock i) with held := (s.sock i).held - 1 }) :=
      h.setSockLight i _ rfl rfl rfl rfl rfl rfl rfl (fun hgt => (h.cfg i).2.2 (by simp only at hgt; omega))
    have h2 := h1.enqueue i true (by simp [hal]) (fun e => by cases e)
    simp only [hal] at h2
    split
    · exact h2.wantSend i
    · exact h2
  case step d =>
    simp only [hl, not_true_eq_false, ↓reduceIte]
    exact h.step d hl
  case peerSend i | peerConnect i | peerClose i | peerReset i | sendFail i =>
    exact h.setSockLight i _ rfl rfl rfl rfl rfl rfl rfl (h.cfg i).2.2
  case release i => exact h.setSockLight i _ rfl rfl rfl rfl rfl rfl rfl (by simp)
  case destroySock i =>
    simp only [hl.1, not_true_eq_false, ↓reduceIte]
    exact h.destroySockObj i hl.1 hl.2
  case destroyDriver d =>
    simp only [hl, not_true_eq_false, ↓reduceIte]
    exact h.setDrv d _ (h.par d) (h.nodup d) (fun ha => by simp at ha) (fun ha => by simp at ha)
  case mkTodo t d scheduled =>
    simp only [hl.1, Bool.false_eq_true, ↓reduceIte, hl.2, not_true_eq_false]
    split
    · exact (h.setTodo t _).setTodos d _
    · exact h.setTodo t _
  case cancel t | shift t =>
    simp only [hl, not_true_eq_false, ↓reduceIte]
    split
    · exact h.setTodos _ _
    · exact h
  case dropTodo t =>
    simp only [hl, not_true_eq_false, ↓reduceIte]
    exact h.setTodo t _
  case destroyPool =>
    simp only [hl.1, not_true_eq_false, ↓reduceIte, hl.2, Nat.lt_irrefl]
    exact { h with poolq := fun _ j => poolBusy_zero h.nf hl.2 j }

theorem run_legal_ind {P : St → Prop} (step : ∀ {s : St} (op : Op), P s → legalOp s op = true → P (exec .fixed s op)) :
    ∀ (ops : List Op) {s : St}, P s → legalFrom .fixed s ops = true → P (run .fixed s ops)
  | [], _, h, _ => h
  | op :: rest, _, h, hl => by
    simp only [legalFrom, Bool.and_eq_true] at hl
    exact run_legal_ind step rest (step op h hl.1) hl.2

theorem LInv.run {s : St} (h : LInv s) (ops : List Op) (hl : legalFrom .fixed s ops = true) : LInv (run .fixed s ops) :=
  run_legal_ind (fun op h hl => h.exec op hl) ops h hl

/-! ### destruction in any order -/

def isDestroy : Op → Bool
  | .destroySock _ | .destroyDriver _ | .dropTodo _ => true
  | _ => false

theorem legalFrom_append (v : Variant) (s : St) (a b : List Op) :
    legalFrom v s (a ++ b) = (legalFrom v s a && legalFrom v (run v s a) b) := by
  induction a generalizing s with
  | nil => simp [legalFrom, run]
  | cons op rest ih => simp [legalFrom, run, ih, Bool.and_assoc]

theorem run_append (v : Variant) (s : St) (a b : List Op) : run v s (a ++ b) = run v (run v s a) b := by
  induction a generalizing s with
  | nil => rfl
  | cons op rest ih => simp [run, ih]

theorem unreg_alive (s : St) (i d : Nat) : ((s.unreg i).drv d).alive = (s.drv d).alive := by
  unfold St.unreg
  split
  · by_cases hd : d = (s.sock i).drv
    · subst hd; rw [setDrv_same]; rfl
    · rw [setDrv_other _ _ hd]
  · rfl

theorem destroySockObj_other (s : St) (i : Nat) :
    (∀ j, j ≠ i → (s.destroySockObj i).sock j = s.sock j) ∧
    (∀ d, ((s.destroySockObj i).drv d).alive = (s.drv d).alive) ∧ (s.destroySockObj i).todo = s.todo := by
  refine ⟨fun j hj => destroySockObj_sock_other s hj, fun d => ?_, ?_⟩
  · rw [destroySockObj_eq]; exact unreg_alive s i d
  · rw [destroySockObj_eq]; rfl

/-- a destroy operation does not take away the legality of a different destroy operation -/
theorem destroy_preserves_legal (s : St) (op op' : Op) (hne : op ≠ op') (hd : isDestroy op = true) (hd' : isDestroy op' = true)
    (hl : legalOp s op' = true) : legalOp (exec .fixed s op) op' = true := by
  by_cases hub : s.ub.isSome = true
  · rw [exec_of_ub _ _ hub]; exact hl
  unfold Lifecycle.exec
  rw [if_neg hub]
  cases op with
  | destroySock i =>
    simp only
    split
    · exact hl
    · obtain ⟨h1, h2, h3⟩ := destroySockObj_other s i
      cases op' with
      | destroySock j =>
        have hji : j ≠ i := fun e => hne (by rw [e])
        simp only [legalOp] at hl ⊢
        rw [h1 j hji]; exact hl
      | destroyDriver d => simp only [legalOp] at hl ⊢; rw [h2 d]; exact hl
      | dropTodo t => simp only [legalOp] at hl ⊢; rw [h3]; exact hl
      | _ => cases hd'
  | destroyDriver d =>
    simp only
    split
    · exact hl
    · cases op' with
      | destroySock j => exact hl
      | destroyDriver d' =>
        have hdd : d' ≠ d := fun e => hne (by rw [e])
        simp only [legalOp] at hl ⊢
        rw [setDrv_other _ _ hdd]; exact hl
      | dropTodo t => exact hl
      | _ => cases hd'
  | dropTodo t =>
    simp only
    split
    · exact hl
    · cases op' with
      | destroySock j => exact hl
      | destroyDriver d' => exact hl
      | dropTodo t' =>
        have htt : t' ≠ t := fun e => hne (by rw [e])
        simp only [legalOp, St.setTodo] at hl ⊢
        simp only [htt, ↓reduceIte]; exact hl
      | _ => cases hd'
  | _ => cases hd

theorem legalFrom_destroy_tail : ∀ (tail : List Op) (s : St), tail.Nodup → (∀ op ∈ tail, isDestroy op = true) →
    (∀ op ∈ tail, legalOp s op = true) → legalFrom .fixed s tail = true := by
  intro tail
  induction tail with
  | nil => intro _ _ _ _; rfl
  | cons op rest ih =>
    intro s hnd hk hl
    simp only [legalFrom, Bool.and_eq_true]
    refine ⟨hl op (by simp), ih _ (List.nodup_cons.mp hnd).2 (fun o ho => hk o (by simp [ho])) ?_⟩
    intro o ho
    have hne : op ≠ o := fun e => (List.nodup_cons.mp hnd).1 (e ▸ ho)
    exact destroy_preserves_legal s op o hne (hk op (by simp)) (hk o (by simp [ho])) (hl o (by simp [ho]))

end SockModel.Lifecycle
