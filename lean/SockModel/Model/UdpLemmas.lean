import SockModel.Model.Udp
import SockModel.Model.AsyncQLemmas
/-! Invariants of the datagram network and of the async `SendToQ` (`Model/Udp.lean`). -/
namespace SockModel.Udp
open SockModel.AsyncQ (Bytes Fut upd upd_same upd_other Ledger upd_fresh)

@[simp] theorem updL_same {α} (f : Nat → List α) (i : Nat) (v : List α) : updL f i v i = v := by simp [updL]
theorem updL_other {α} (f : Nat → List α) (i : Nat) (v : List α) (x : Nat) (h : x ≠ i) : updL f i v x = f x := by
  simp [updL, h]

/-- the deliveries addressed to `r`, in the order they took effect -/
def deliveredTo (r : Nat) : List NetOp → List Dgram
  | [] => []
  | .deliver s d p :: ops => if d = r then ⟨p, s⟩ :: deliveredTo r ops else deliveredTo r ops
  | .recv _ _ :: ops => deliveredTo r ops

structure NetInv (n : Net) : Prop where
  arrived : ∀ r, n.arrived r = (n.removed r).map (·.1) ++ n.chan r
  reports : ∀ r, n.reports r = (n.removed r).map (fun x => receiveFrom x.1 x.2)

theorem netInv_init : NetInv {} := ⟨fun _ => rfl, fun _ => rfl⟩

theorem netInv_step {n : Net} (h : NetInv n) (op : NetOp) : NetInv (netStep n op) := by
  cases op with
  | deliver s d p =>
    simp only [netStep]
    refine ⟨fun r => ?_, h.reports⟩
    dsimp only
    by_cases hr : r = d
    · subst hr; simp [h.arrived r]
    · rw [updL_other _ _ _ _ hr, updL_other _ _ _ _ hr]; exact h.arrived r
  | recv r size =>
    simp only [netStep]
    split
    · exact h
    · rename_i d rest hc
      refine ⟨fun x => ?_, fun x => ?_⟩ <;> dsimp only
      · by_cases hx : x = r
        · subst hx; simp [h.arrived x, hc]
        · rw [updL_other _ _ _ _ hx, updL_other _ _ _ _ hx]; exact h.arrived x
      · by_cases hx : x = r
        · subst hx; simp [h.reports x]
        · rw [updL_other _ _ _ _ hx, updL_other _ _ _ _ hx]; exact h.reports x

theorem netInv_run {n : Net} (h : NetInv n) (ops : List NetOp) : NetInv (netRun n ops) := by
  induction ops generalizing n with
  | nil => exact h
  | cons a as ih => exact ih (netInv_step h a)

theorem arrived_run (n : Net) (ops : List NetOp) (r : Nat) :
    (netRun n ops).arrived r = n.arrived r ++ deliveredTo r ops := by
  induction ops generalizing n with
  | nil => simp [netRun, deliveredTo]
  | cons a as ih =>
    simp only [netRun, List.foldl_cons]
    have := ih (netStep n a)
    simp only [netRun] at this
    rw [this]
    cases a with
    | deliver s d p =>
      simp only [netStep, deliveredTo]
      by_cases hr : d = r
      · subst hr; simp
      · rw [updL_other _ _ _ _ (fun h => hr h.symm)]; simp [hr]
    | recv x size =>
      simp only [netStep, deliveredTo]
      split <;> rfl

/-! ### SendToQ -/

structure TInv (s : TQ) : Prop where
  enqd : s.enqd = s.done.map (·.1) ++ s.q
  sent : s.sent = (s.done.filter (fun d => d.2 = .value)).map (·.1)
  ret : s.returned = s.done.map (·.1.id)
  nodup : (s.enqd.map (·.id)).Nodup
  futq : ∀ e ∈ s.q, s.fut e.id = .pending
  futd : ∀ d ∈ s.done, s.fut d.1.id = d.2 ∧ d.2.resolved = true
  futn : ∀ id, id ∉ s.enqd.map (·.id) → s.fut id = .none
  armedInv : s.destroyed = false → (s.armed = true ↔ s.q ≠ [])
  destr : s.destroyed = true → s.q = []

theorem tInv_init : TInv {} := by
  refine ⟨rfl, rfl, rfl, by simp, ?_, ?_, ?_, ?_, ?_⟩ <;> simp

theorem TInv.ids {s : TQ} (h : TInv s) : s.enqd.map (·.id) = s.done.map (·.1.id) ++ s.q.map (·.id) := by
  rw [h.enqd]; simp [Function.comp_def]

theorem TInv.done_ne_q {s : TQ} (h : TInv s) {d : TElem × Fut} {e : TElem} (hd : d ∈ s.done) (he : e ∈ s.q) :
    d.1.id ≠ e.id :=
  (List.nodup_append.mp (h.ids ▸ h.nodup)).2.2 d.1.id (List.mem_map_of_mem (f := fun x => x.1.id) hd) e.id
    (List.mem_map_of_mem (f := fun x => x.id) he)

theorem TInv.ledger {s : TQ} (h : TInv s) : Ledger s.fut (s.done.map (·.1.id)) (s.q.map (·.id)) := by
  refine ⟨?_, ?_, fun i hi => h.futn i (by rw [h.ids]; exact hi)⟩
  · intro i hi
    obtain ⟨e, he, rfl⟩ := List.mem_map.mp hi
    exact h.futq e he
  · intro i hi
    obtain ⟨d, hd, rfl⟩ := List.mem_map.mp hi
    rw [(h.futd d hd).1]; exact (h.futd d hd).2

theorem TInv.fresh {s : TQ} (h : TInv s) {id : Nat} (hn : s.fut id = .none) : id ∉ s.enqd.map (·.id) := by
  rw [h.ids]; exact h.ledger.fresh hn

theorem TInv.returned_iff {s : TQ} (h : TInv s) (id : Nat) : id ∈ s.returned ↔ (s.fut id).resolved = true := by
  rw [h.ret]; exact (h.ledger.resolved_iff id).symm

theorem tInv_step {s : TQ} (h : TInv s) (a : TAct) : TInv (tqStep s a) := by
  cases a with
  | enq id p dst =>
    simp only [tqStep]
    split
    · exact h
    · rename_i hc
      simp only [not_or, Decidable.not_not] at hc
      obtain ⟨hd, hf⟩ := hc
      have hfresh := h.fresh hf
      refine ⟨?_, h.sent, h.ret, ?_, ?_, ?_, ?_, ?_, ?_⟩ <;> dsimp only
      · rw [h.enqd]; simp
      · simp only [List.map_append, List.map_cons, List.map_nil]
        exact nodup_snoc h.nodup hfresh
      · intro e he
        rcases List.mem_append.mp he with he | he
        · rw [upd_fresh hf _ (by rw [h.futq e he]; nofun)]; exact h.futq e he
        · rw [List.mem_singleton.mp he]; exact upd_same _ _ _
      · intro d hd'
        have hr := h.ledger.popped d.1.id (List.mem_map_of_mem (f := fun x => x.1.id) hd')
        rw [upd_fresh hf _ (fun hn => by rw [hn] at hr; cases hr)]; exact h.futd d hd'
      · intro id' hid'
        simp only [List.map_append, List.map_cons, List.map_nil, List.mem_append, List.mem_singleton, not_or] at hid'
        rw [upd_other _ _ _ _ hid'.2]; exact h.futn id' hid'.1
      · intro _; simp
      · intro hdes; simp [hd] at hdes
  | destroy =>
    simp only [tqStep]
    split
    · exact h
    · rename_i hc
      refine ⟨?_, ?_, ?_, h.nodup, ?_, ?_, ?_, ?_, ?_⟩ <;> dsimp only
      · rw [h.enqd]; simp [Function.comp_def]
      · rw [h.sent]; simp [List.filter_append, List.filter_map, Function.comp_def]
      · rw [h.ret]; simp [Function.comp_def]
      · intro e he; simp at he
      · intro d hd
        rcases List.mem_append.mp hd with hd | hd
        · have hr := h.ledger.popped d.1.id (List.mem_map_of_mem (f := fun x => x.1.id) hd)
          rw [if_neg (fun hp => by rw [hp] at hr; cases hr)]; exact h.futd d hd
        · obtain ⟨e, he, rfl⟩ := List.mem_map.mp hd
          simp [h.futq e he, Fut.resolved]
      · intro id hid
        rw [h.futn id hid]; simp
      · intro hf; cases hf
      · intro _; rfl
  | writable an =>
    simp only [tqStep]
    split
    · exact h
    · rename_i hc
      simp only [not_or, Decidable.not_not] at hc
      obtain ⟨hdes, harm⟩ := hc
      split
      · exact h
      · rename_i e rest hq
        have hemem : e ∈ s.q := by rw [hq]; simp
        have hrest : ∀ x ∈ rest, x ∈ s.q := by intro x hx; rw [hq]; simp [hx]
        have hne : ∀ x ∈ rest, x.id ≠ e.id := by
          intro x hx
          have hn := h.nodup
          rw [h.ids, hq] at hn
          have := (List.nodup_append.mp hn).2.1
          simp only [List.map_cons, List.nodup_cons, List.mem_map, not_exists, not_and] at this
          exact this.1 x hx
        have heid : e.id ∈ s.enqd.map (·.id) := by
          rw [h.ids]; exact List.mem_append_right _ (List.mem_map_of_mem (f := fun x => x.id) hemem)
        have pop : ∀ (how : Fut) (snt : List TElem), how.resolved = true →
            snt = ((s.done ++ [(e, how)]).filter (fun d => d.2 = .value)).map (·.1) →
            TInv { s with q := rest, fut := upd s.fut e.id how, sent := snt, returned := s.returned ++ [e.id],
                          done := s.done ++ [(e, how)], armed := !rest.isEmpty } := by
          intro how snt hres hsnt
          refine ⟨?_, hsnt, ?_, h.nodup, ?_, ?_, ?_, ?_, ?_⟩ <;> dsimp only
          · rw [h.enqd, hq]; simp
          · rw [h.ret]; simp
          · intro x hx
            rw [upd_other _ _ _ _ (hne x hx)]; exact h.futq x (hrest x hx)
          · intro d hd
            rcases List.mem_append.mp hd with hd | hd
            · rw [upd_other _ _ _ _ (h.done_ne_q hd hemem)]; exact h.futd d hd
            · simp only [List.mem_singleton] at hd; subst hd
              exact ⟨by simp, hres⟩
          · intro id hid
            have : id ≠ e.id := by intro heq; subst heq; exact hid heid
            rw [upd_other _ _ _ _ this]; exact h.futn id hid
          · intro _; cases rest <;> simp
          · intro hd'; exact absurd hd' hdes
        cases an with
        | ok => exact pop .value _ rfl (by rw [h.sent]; simp [List.filter_append])
        | fail => exact pop .exn _ rfl (by rw [h.sent]; simp [List.filter_append])

theorem tInv_run {s : TQ} (h : TInv s) (acts : List TAct) : TInv (tqRun s acts) := by
  induction acts generalizing s with
  | nil => exact h
  | cons a as ih => exact ih (tInv_step h a)

/-! ### `tqStep`: the enabled cases as equations, and what no action undoes -/

theorem tq_enq {s : TQ} {id : Nat} (p : Bytes) (dst : Nat) (hd : s.destroyed = false) (hf : s.fut id = .none) :
    tqStep s (.enq id p dst) =
      { s with q := s.q ++ [⟨id, p, dst⟩], armed := true, fut := upd s.fut id .pending, enqd := s.enqd ++ [⟨id, p, dst⟩] } := by
  simp [tqStep, hd, hf]

theorem tq_writable {s : TQ} {e : TElem} {rest : List TElem} (hd : s.destroyed = false) (ha : s.armed = true)
    (hq : s.q = e :: rest) (a : TAns) :
    tqStep s (.writable a) =
      { s with q := rest, fut := upd s.fut e.id (match a with | .ok => .value | .fail => .exn),
               sent := match a with | .ok => s.sent ++ [e] | .fail => s.sent,
               returned := s.returned ++ [e.id],
               done := s.done ++ [(e, match a with | .ok => .value | .fail => .exn)], armed := !rest.isEmpty } := by
  cases a <;> simp [tqStep, hd, ha, hq]

theorem tq_destroy {s : TQ} (hd : s.destroyed = false) :
    (tqStep s .destroy).q = [] ∧ (tqStep s .destroy).destroyed = true ∧
    (tqStep s .destroy).fut = fun i => if s.fut i = .pending then .broken else s.fut i := by
  simp [tqStep, hd]

theorem upd_ne_none {f : Nat → Fut} {i x : Nat} {v : Fut} (hv : v ≠ .none) (h : f x ≠ .none) : upd f i v x ≠ .none := by
  unfold upd; split
  · exact hv
  · exact h

/-- what no action of the queue undoes: only `destroy` destroys, only `enq` adds to the enqueued elements (one with
its own id), a future once created never disappears -/
theorem tq_frame (s : TQ) (a : TAct) :
    ((tqStep s a).destroyed = true → s.destroyed = true ∨ a = .destroy) ∧
    (∀ e ∈ (tqStep s a).enqd, e ∈ s.enqd ∨ ∃ p dst, a = .enq e.id p dst) ∧
    (∀ m, s.fut m ≠ .none → (tqStep s a).fut m ≠ .none) := by
  have same : (s.destroyed = true → s.destroyed = true ∨ a = .destroy) ∧
      (∀ e ∈ s.enqd, e ∈ s.enqd ∨ ∃ p dst, a = .enq e.id p dst) ∧ (∀ m, s.fut m ≠ .none → s.fut m ≠ .none) :=
    ⟨.inl, fun _ => .inl, fun _ h => h⟩
  cases a with
  | enq id p dst =>
    simp only [tqStep]; split
    · exact same
    · refine ⟨.inl, fun e he => ?_, fun m h => upd_ne_none nofun h⟩
      rcases List.mem_append.mp he with he | he
      · exact .inl he
      · rw [List.mem_singleton.mp he]; exact .inr ⟨p, dst, rfl⟩
  | writable an =>
    simp only [tqStep]; split
    · exact same
    · split
      · exact same
      · cases an <;> exact ⟨.inl, fun _ => .inl, fun m h => upd_ne_none nofun h⟩
  | destroy =>
    refine ⟨fun _ => .inr rfl, fun e he => .inl ?_, fun m h => ?_⟩
    · simp only [tqStep] at he; split at he <;> exact he
    · simp only [tqStep]; split
      · exact h
      · dsimp only; split
        · nofun
        · exact h

end SockModel.Udp
