import SockModel.Model.TlsLemmas
/-!
Simulation through the glue.  `f` maps the states of a glue over a world `W` to states over `W'` and keeps the fields
that decide what the glue does next; `I` is an invariant of the `W`-side.  If wait, BIO read and BIO write commute with
`f` and keep `I` (`SimFrame`), so does every function of the model up to `Read` and `Write` (`Sim`).  The relational
counterpart of `Frame` (Model/TlsLemmas.lean).
-/
namespace SockModel.Tls
open SockModel.Net

variable {σ ω ω' : Type}

/-- overwrite the five fields that decide what the glue does next -/
def ctl (s : St σ ω) (le : SslErr) (ps : Bytes) (pe : Option Exn) (ec : List EngCall) (e : σ) : St σ ω :=
  { s with e := e, g := { s.g with lastError := le, pendingSend := ps, pendingError := pe, engCalls := ec } }

/-- `Y`, a result over `W'`, is the image of `X`, the result over `W` -/
def Sim {α : Type} (f : St σ ω → St σ ω') (I : St σ ω → Prop) (X : α × St σ ω) (Y : α × St σ ω') : Prop :=
  Y = (X.1, f X.2) ∧ I X.2

theorem Sim.cases {α : Type} {f : St σ ω → St σ ω'} {I : St σ ω → Prop} {X : α × St σ ω} {Y : α × St σ ω'}
    (h : Sim f I X Y) : ∃ a s', X = (a, s') ∧ Y = (a, f s') ∧ I s' := ⟨X.1, X.2, rfl, h.1, h.2⟩

/-- `same`: `f` keeps the five fields of `ctl`; `upd`: overwriting them commutes with `f` and keeps `I` -/
structure SimFrame (W : World ω) (W' : World ω') (f : St σ ω → St σ ω') (I : St σ ω → Prop) : Prop where
  same : ∀ s, (f s).g.lastError = s.g.lastError ∧ (f s).g.pendingSend = s.g.pendingSend ∧
    (f s).g.pendingError = s.g.pendingError ∧ (f s).g.engCalls = s.g.engCalls ∧ (f s).e = s.e
  upd : ∀ s le ps pe ec e, f (ctl s le ps pe ec e) = ctl (f s) le ps pe ec e ∧ (I s → I (ctl s le ps pe ec e))
  wait : ∀ s d, I s → Sim f I (waitUnder W s d) (waitUnder W' (f s) d)
  bioRead : ∀ s n, I s → Sim f I (bioRead W s n) (bioRead W' (f s) n)
  bioWrite : ∀ s bs, I s → Sim f I (bioWrite W s bs) (bioWrite W' (f s) bs)

namespace SimFrame
variable {W : World ω} {W' : World ω'} {f : St σ ω → St σ ω'} {I : St σ ω → Prop}

theorem f_ctl (F : SimFrame W W' f I) (s : St σ ω) (le : SslErr) (ps : Bytes) (pe : Option Exn) (ec : List EngCall)
    (e : σ) : f (ctl s le ps pe ec e) = ctl (f s) le ps pe ec e := (F.upd s le ps pe ec e).1

theorem f_setLastError (F : SimFrame W W' f I) (s : St σ ω) (x : SslErr) : f (setLastError s x) = setLastError (f s) x := by
  obtain ⟨_, c2, c3, c4, c5⟩ := F.same s
  calc f (setLastError s x) = ctl (f s) x s.g.pendingSend s.g.pendingError s.g.engCalls s.e := F.f_ctl s ..
    _ = setLastError (f s) x := by rw [← c2, ← c3, ← c4, ← c5]; rfl

theorem f_setPending (F : SimFrame W W' f I) (s : St σ ω) (p : Bytes) : f (setPending s p) = setPending (f s) p := by
  obtain ⟨c1, _, c3, c4, c5⟩ := F.same s
  calc f (setPending s p) = ctl (f s) s.g.lastError p s.g.pendingError s.g.engCalls s.e := F.f_ctl s ..
    _ = setPending (f s) p := by rw [← c1, ← c3, ← c4, ← c5]; rfl

theorem f_stash (F : SimFrame W W' f I) (s : St σ ω) (x : Exn) : f (stash s x) = stash (f s) x := by
  obtain ⟨c1, c2, _, c4, c5⟩ := F.same s
  calc f (stash s x) = ctl (f s) s.g.lastError s.g.pendingSend (some x) s.g.engCalls s.e := F.f_ctl s ..
    _ = stash (f s) x := by rw [← c1, ← c2, ← c4, ← c5]; rfl

theorem f_noteCall (F : SimFrame W W' f I) (E : Engine σ) (s : St σ ω) (b : Bool) (arg : Bytes) (ans : SslAns) :
    f (noteCall E s b arg ans) = noteCall E (f s) b arg ans := by
  obtain ⟨c1, c2, c3, c4, c5⟩ := F.same s
  calc f (noteCall E s b arg ans)
      = ctl (f s) s.g.lastError s.g.pendingSend s.g.pendingError (⟨b, arg, ans, E.initFinished s.e⟩ :: s.g.engCalls) s.e :=
        F.f_ctl s ..
    _ = noteCall E (f s) b arg ans := by rw [← c1, ← c2, ← c3, ← c4, ← c5]; rfl

theorem f_ret (F : SimFrame W W' f I) (s : St σ ω) (e' : σ) : f { s with e := e' } = { f s with e := e' } := by
  obtain ⟨c1, c2, c3, c4, _⟩ := F.same s
  calc f { s with e := e' } = ctl (f s) s.g.lastError s.g.pendingSend s.g.pendingError s.g.engCalls e' := F.f_ctl s ..
    _ = { f s with e := e' } := by rw [← c1, ← c2, ← c3, ← c4]; rfl

theorem f_sticky (F : SimFrame W W' f I) (s : St σ ω) :
    f { s with g := { s.g with lastError := .syscall, pendingError := none } } =
      { f s with g := { (f s).g with lastError := .syscall, pendingError := none } } := by
  obtain ⟨_, c2, _, c4, c5⟩ := F.same s
  calc f { s with g := { s.g with lastError := .syscall, pendingError := none } }
      = ctl (f s) .syscall s.g.pendingSend none s.g.engCalls s.e := F.f_ctl s ..
    _ = _ := by rw [← c2, ← c4, ← c5]; rfl

theorem I_ctl (F : SimFrame W W' f I) {s : St σ ω} (h : I s) (le : SslErr) (ps : Bytes) (pe : Option Exn)
    (ec : List EngCall) (e : σ) : I (ctl s le ps pe ec e) := (F.upd s le ps pe ec e).2 h

theorem handleError (F : SimFrame W W' f I) (s : St σ ω) (err : SslErr) (h : I s) :
    Sim f I (handleError W s err) (handleError W' (f s) err) := by
  cases err with
  | none => exact ⟨rfl, h⟩
  | wantRead =>
    obtain ⟨a, s', hL, hR, h'⟩ := (F.wait s .rd h).cases
    simp only [Tls.handleError, hL, hR]
    exact ⟨rfl, h'⟩
  | wantWrite =>
    obtain ⟨a, s', hL, hR, h'⟩ := (F.wait s .wr h).cases
    simp only [Tls.handleError, hL, hR]
    exact ⟨rfl, h'⟩
  | zeroReturn => exact ⟨rfl, h⟩
  | syscall => exact ⟨rfl, h⟩
  | ssl => exact ⟨rfl, h⟩

theorem handleLastError (F : SimFrame W W' f I) (s : St σ ω) (h : I s) :
    Sim f I (handleLastError W s) (handleLastError W' (f s)) := by
  obtain ⟨a, s', hL, hR, h'⟩ := (F.handleError s s.g.lastError h).cases
  unfold Tls.handleLastError
  rw [(F.same s).1, hL, hR]
  rcases a with (_|_)|_|_
  · exact ⟨rfl, h'⟩
  · exact ⟨by rw [F.f_setLastError], F.I_ctl h' ..⟩
  · exact ⟨rfl, h'⟩
  · exact ⟨rfl, h'⟩

theorem handleResult (F : SimFrame W W' f I) (s : St σ ω) (ans : SslAns) (h : I s) :
    Sim f I (handleResult W s ans) (handleResult W' (f s) ans) := by
  unfold Tls.handleResult
  rw [(F.same s).2.2.1]
  cases s.g.pendingError with
  | some x => exact ⟨by rw [F.f_sticky], F.I_ctl h ..⟩
  | none =>
    dsimp only
    rw [← F.f_setLastError]
    exact F.handleLastError _ (F.I_ctl h ..)

theorem interp (F : SimFrame W W' f I) (p : EngProg σ) : ∀ (s : St σ ω), I s →
    Sim f I (interp W s p) (interp W' (f s) p) := by
  induction p with
  | ret ans out e' =>
    intro s h
    refine ⟨?_, F.I_ctl h ..⟩
    show (Out.ok (ans, out), { f s with e := e' }) = (Out.ok (ans, out), f { s with e := e' })
    rw [F.f_ret s e']
  | bioRead n k ih =>
    intro s h
    obtain ⟨a, s', hL, hR, h'⟩ := (F.bioRead s n h).cases
    unfold Tls.interp
    rw [hL, hR]
    cases a with
    | ok bs => exact ih (some bs) s' h'
    | exn e => dsimp only; rw [← F.f_stash]; exact ih none (stash s' e) (F.I_ctl h' ..)
    | abort m => exact ⟨rfl, h'⟩
  | bioWrite bs k ih =>
    intro s h
    obtain ⟨a, s', hL, hR, h'⟩ := (F.bioWrite s bs h).cases
    unfold Tls.interp
    rw [hL, hR]
    cases a with
    | ok n => exact ih (some n) s' h'
    | exn e => dsimp only; rw [← F.f_stash]; exact ih none (stash s' e) (F.I_ctl h' ..)
    | abort m => exact ⟨rfl, h'⟩

theorem readRound (F : SimFrame W W' f I) (C : Cfg) (E : Engine σ) (size i : Nat) (s : St σ ω) (h : I s) :
    Sim f I (readRound C W E size i s) (readRound C W' E size i (f s)) := by
  obtain ⟨a, s', hL, hR, h'⟩ := (F.interp (E.sslRead s.e size) s h).cases
  unfold Tls.readRound
  rw [(F.same s).2.2.2.2, hL, hR]
  rcases a with ⟨ans, out⟩ | e | m
  · dsimp only
    rw [← F.f_noteCall]
    have hn : I (noteCall E s' true [] ans) := F.I_ctl h' ..
    obtain ⟨b, s2, hL2, hR2, h2⟩ := (F.handleResult (noteCall E s' true [] ans) ans hn).cases
    cases ans <;> dsimp only <;> first
      | exact ⟨rfl, hn⟩
      | (rw [hL2, hR2]
         rcases b with (_|_)|_|_
         · exact ⟨rfl, h2⟩
         · dsimp only
           split <;> exact ⟨rfl, h2⟩
         · exact ⟨rfl, h2⟩
         · exact ⟨rfl, h2⟩)
  · exact ⟨rfl, h'⟩
  · exact ⟨rfl, h'⟩

theorem readLoop (F : SimFrame W W' f I) (C : Cfg) (E : Engine σ) (size i : Nat) (s : St σ ω) (h : I s) :
    Sim f I (readLoop C W E size i s) (readLoop C W' E size i (f s)) := by
  induction i generalizing s with
  | zero => exact ⟨rfl, h⟩
  | succ i ih =>
    obtain ⟨a, s', hL, hR, h'⟩ := (F.readRound C E size i s h).cases
    simp only [Tls.readLoop]
    rw [hL, hR]
    cases a with
    | some o => exact ⟨rfl, h'⟩
    | none => exact ih s' h'

theorem tlsRead (F : SimFrame W W' f I) (C : Cfg) (E : Engine σ) (s : St σ ω) (size : Nat) (h : I s) :
    Sim f I (tlsRead C W E s size) (tlsRead C W' E (f s) size) := by
  obtain ⟨a, s', hL, hR, h'⟩ := (F.handleLastError s h).cases
  unfold Tls.tlsRead
  rw [hL, hR]
  rcases a with (_|_)|_|_
  · exact ⟨rfl, h'⟩
  · exact F.readLoop C E size C.stepsMax s' h'
  · exact ⟨rfl, h'⟩
  · exact ⟨rfl, h'⟩

theorem writeRetry (F : SimFrame W W' f I) (C : Cfg) (i' : Nat) (rest : Bytes) (s : St σ ω) (ans : SslAns) (h : I s) :
    Sim f I (writeRetry C W i' rest s ans) (writeRetry C W' i' rest (f s) ans) := by
  obtain ⟨a, s', hL, hR, h'⟩ := (F.handleResult s ans h).cases
  unfold Tls.writeRetry
  rw [hL, hR]
  rcases a with (_|_)|_|_
  · exact ⟨rfl, h'⟩
  · dsimp only
    split <;> exact ⟨rfl, h'⟩
  · exact ⟨rfl, h'⟩
  · exact ⟨rfl, h'⟩

theorem writeRound (F : SimFrame W W' f I) (C : Cfg) (E : Engine σ) (i' : Nat) (rest : Bytes) (s : St σ ω) (h : I s) :
    Sim f I (writeRound C W E i' rest s) (writeRound C W' E i' rest (f s)) := by
  obtain ⟨a, s', hL, hR, h'⟩ := (F.interp (E.sslWrite s.e rest) s h).cases
  unfold Tls.writeRound
  rw [(F.same s).2.1, (F.same s).2.2.2.2, hL, hR]
  split
  · exact ⟨rfl, h⟩
  · rcases a with ⟨ans, out⟩ | e | m
    · dsimp only
      rw [← F.f_noteCall, ← F.f_setPending, ← F.f_setPending]
      have hn : I (noteCall E s' false rest ans) := F.I_ctl h' ..
      cases ans <;> dsimp only <;> first
        | ((repeat' split) <;> exact ⟨rfl, F.I_ctl hn ..⟩)
        | exact F.writeRetry C i' rest _ _ (F.I_ctl hn ..)
    · exact ⟨rfl, h'⟩
    · exact ⟨rfl, h'⟩

theorem writeLoop (F : SimFrame W W' f I) (C : Cfg) (E : Engine σ) (i : Nat) (rest : Bytes) (s : St σ ω) (h : I s) :
    Sim f I (writeLoop C W E i rest s) (writeLoop C W' E i rest (f s)) := by
  fun_induction Tls.writeLoop C W E i rest s with
  | case1 rest s => rw [Tls.writeLoop]; exact ⟨rfl, h⟩
  | case2 s i' => rw [Tls.writeLoop]; exact ⟨rfl, h⟩
  | case3 rest s i' hne o s' heq =>
    obtain ⟨a, s2, hL, hR, h'⟩ := (F.writeRound C E i' rest s h).cases
    rw [heq] at hL
    obtain ⟨rfl, rfl⟩ := Prod.mk.inj hL
    rw [Tls.writeLoop]
    simp only [hne, if_false, hR]
    exact ⟨rfl, h'⟩
  | case4 rest s i' hne j rest' s' heq hdec ih =>
    obtain ⟨a, s2, hL, hR, h'⟩ := (F.writeRound C E i' rest s h).cases
    rw [heq] at hL
    obtain ⟨rfl, rfl⟩ := Prod.mk.inj hL
    have := ih h'
    rw [Tls.writeLoop]
    simp only [hne, if_false, hR, hdec, dite_true]
    exact this
  | case5 rest s i' hne j rest' s' heq hdec =>
    obtain ⟨a, s2, hL, hR, h'⟩ := (F.writeRound C E i' rest s h).cases
    rw [heq] at hL
    obtain ⟨rfl, rfl⟩ := Prod.mk.inj hL
    rw [Tls.writeLoop]
    simp only [hne, if_false, hR, hdec, dite_false]
    exact ⟨rfl, h'⟩

theorem tlsWrite (F : SimFrame W W' f I) (C : Cfg) (E : Engine σ) (s : St σ ω) (data : Bytes) (h : I s) :
    Sim f I (tlsWrite C W E s data) (tlsWrite C W' E (f s) data) := by
  obtain ⟨a, s', hL, hR, h'⟩ := (F.handleLastError s h).cases
  unfold Tls.tlsWrite
  rw [hL, hR]
  rcases a with (_|_)|_|_
  · exact ⟨rfl, h'⟩
  · dsimp only
    obtain ⟨b, s2, hL2, hR2, h2⟩ := (F.writeLoop C E C.stepsMax data s' h').cases
    rw [hL2, hR2]
    cases b <;> exact ⟨rfl, h2⟩
  · exact ⟨rfl, h'⟩
  · exact ⟨rfl, h'⟩

end SimFrame

end SockModel.Tls
