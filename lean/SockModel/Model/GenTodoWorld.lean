import SockModel.Model.ToDos
import SockModel.Basic.GenEffects
/-
The ToDo model (`ToDos.St`: sorted list, clock, task bodies) as a `Gen.TodoWorld`, so that
`Driver::DriverImpl::StepTodos<Deadline>` as generated from the C++ source (Generated/Loops.lean) can be run against
the state the hand-written `ToDos.stepTodos` is defined on.  Hand-written, independent of /repo.

* `frontWhen` reads the due time of the first entry (the C++ code asserts that there is one; an empty list halts);
* `popFront` takes the first entry out of the list, makes it the current task and logs the model's ghost event
  `ran id when now rest seq` (`now` = the clock, which is what `deadline.now` holds at that point);
* `runTask` applies the body of the current task (`applyOp` over its `BodyOp`s, exactly as the model does: the body
  may reschedule, cancel, create ToDos and let time pass);
* `todosEmpty` / `clockNow` read the list / the clock; the socket calls of `World` do not occur (`halt`).
-/
namespace SockModel.GenWorld
open SockModel SockModel.ToDos SockModel.Deadline

structure TSt where
  st : ToDos.St
  cur : Option Entry       -- the task moved out of the front slot, until it has run

def todoWorld : Gen.TodoWorld TSt where
  doPoll _ := Gen.M.halt
  interrupted := Gen.M.halt
  clockNow w := (.ok w.st.now, w)
  send _ _ := Gen.M.halt
  recv _ := Gen.M.halt
  socketError := Gen.M.halt
  frontWhen w :=
    match w.st.todos with
    | [] => (.halted, w)
    | f :: _ => (.ok f.when, w)
  popFront w :=
    match w.st.todos with
    | [] => (.halted, w)
    | f :: rest =>
      (.ok (), { st := { w.st with todos := rest, log := .ran f.id f.when w.st.now rest f.seq :: w.st.log },
                 cur := some f })
  runTask w :=
    match w.cur with
    | none => (.halted, w)
    | some f => (.ok (), { st := (w.st.body f.id).foldl applyOp w.st, cur := none })
  todosEmpty w := (.ok w.st.todos.isEmpty, w)

theorem t_clockNow_eq (w : TSt) : todoWorld.toWorld.clockNow w = (.ok w.st.now, w) := rfl
theorem t_frontWhen_eq (w : TSt) :
    todoWorld.frontWhen w = match w.st.todos with | [] => (.halted, w) | f :: _ => (.ok f.when, w) := rfl
theorem t_popFront_eq (w : TSt) :
    todoWorld.popFront w = match w.st.todos with
      | [] => (.halted, w)
      | f :: rest =>
        (.ok (), { st := { w.st with todos := rest, log := .ran f.id f.when w.st.now rest f.seq :: w.st.log },
                   cur := some f }) := rfl
theorem t_runTask_eq (w : TSt) :
    todoWorld.runTask w = match w.cur with
      | none => (.halted, w)
      | some f => (.ok (), { st := (w.st.body f.id).foldl applyOp w.st, cur := none }) := rfl
theorem t_todosEmpty_eq (w : TSt) : todoWorld.todosEmpty w = (.ok w.st.todos.isEmpty, w) := rfl

/-- `ToDos.stepTodos` with the fuel made visible: `none` where `stepTodos` logs `.fuel`; proved of it is the
`some` direction only (`stepTodosO_sound`) -/
def stepTodosO : Nat → Deadline → St → Option (Int × St)
  | 0, _, _ => none
  | fuel + 1, d, s =>
    match s.todos with
    | [] => some (d.remaining, s)
    | front :: rest =>
      if front.when - d.now > 0 then
        some (minDuration (front.when - d.now) d.remaining, s)
      else
        let s1 := { s with todos := rest, log := .ran front.id front.when d.now rest front.seq :: s.log }
        let s2 := (s.body front.id).foldl applyOp s1
        let d' := d.tick s2.now
        if s2.todos.isEmpty then some (d'.remaining, s2)
        else if d'.timeLeft then stepTodosO fuel d' s2
        else some (0, s2)

/-- whenever the fuel suffices, it is `stepTodos` -/
theorem stepTodosO_sound : ∀ (fuel : Nat) (d : Deadline) (s : St) (r : Int × St),
    stepTodosO fuel d s = some r → stepTodos fuel d s = r := by
  intro fuel
  induction fuel with
  | zero => intro d s r h; cases h
  | succ n ih =>
    intro d s r h
    unfold stepTodosO at h
    unfold stepTodos
    cases hs : s.todos with
    | nil => rw [hs] at h; exact Option.some.inj h
    | cons front rest =>
      rw [hs] at h
      dsimp only at h ⊢
      split
      · rw [if_pos ‹_›] at h; exact Option.some.inj h
      · rw [if_neg ‹_›] at h
        split
        · rw [if_pos ‹_›] at h; exact Option.some.inj h
        · rw [if_neg ‹_›] at h
          split
          · rw [if_pos ‹_›] at h; exact ih _ _ _ h
          · rw [if_neg ‹_›] at h; exact Option.some.inj h

end SockModel.GenWorld
