import SockModel.Model.Udp
import SockModel.Basic.GenEffects
/-
The asynchronous send queues of the models (`AsyncQ.St` for TCP, `Udp.TQ` for UDP) as `Gen.QueueWorld`s, so that
`SocketAsyncImpl::DriverSend` / `DriverSendTo` as generated from the C++ source (Generated/Loops.lean) can be run on
the states the hand-written `AsyncQ.driverSend` / `Udp.tqStep (.writable _)` are defined on.  Hand-written,
independent of /repo.  One writable event = one answer of the OS (`ans`), consumed by the one `send` / `sendto`.

TCP: `sockSendSome len` is the socket's non-blocking `SendSome` (= `SendNow`): `accept k` hands
`min k len` bytes of the front buffer to the wire, 0 of a non-empty buffer is `SendNow`'s `logic_error` (not a
`runtime_error`), `fail` is a `system_error` (a `runtime_error`); `bufferErase n` moves `n` bytes of the front buffer
to its ghost `sent`; `promiseSetValue/Exception` resolve the front element's future; `qPop` destroys the front element:
its buffer returns to the pool and the ghost `done` records what became of it (`sockSendSome` does not move the ghost
`sent`, so `qPop` reads off the future whether the whole buffer went out: `value` = all of it, else the erased prefix).

UDP: `sockSendTo` hands the front datagram to the OS (`ok`) or throws `system_error` (`fail`); there is no partial
send, so no `bufferErase`; `qPop` records the element with the state its future has by then.
-/
namespace SockModel.GenWorld
open SockModel

/-! ### TCP: `AsyncQ.St` -/

structure QSt where
  s : AsyncQ.St
  ans : Option AsyncQ.Ans

open AsyncQ in
def asyncQWorld : Gen.QueueWorld QSt where
  qSize w := (.ok (w.s.q.length : Int), w)
  qEmpty w := (.ok w.s.q.isEmpty, w)
  qPop w :=
    match w.s.q with
    | [] => (.halted, w)
    | e :: rest =>
      (.ok (), { w with s := { w.s with q := rest, returned := w.s.returned ++ [e.id],
                                        done := w.s.done ++ [if w.s.fut e.id = .value then ⟨e.id, e.sent ++ e.rest, [], .value⟩
                                                             else ⟨e.id, e.sent, e.rest, w.s.fut e.id⟩] } })
  bufferSize w :=
    match w.s.q with
    | [] => (.halted, w)
    | e :: _ => (.ok (e.rest.length : Int), w)
  bufferErase n w :=
    match w.s.q with
    | [] => (.halted, w)
    | e :: rest =>
      (.ok (), { w with s := { w.s with q := { e with sent := e.sent ++ e.rest.take n.toNat, rest := e.rest.drop n.toNat } :: rest } })
  promiseSetValue w :=
    match w.s.q with
    | [] => (.halted, w)
    | e :: _ => (.ok (), { w with s := { w.s with fut := upd w.s.fut e.id .value } })
  promiseSetException w :=
    match w.s.q with
    | [] => (.halted, w)
    | e :: _ => (.ok (), { w with s := { w.s with fut := upd w.s.fut e.id .exn } })
  sockSendSome len w :=
    match w.s.q, w.ans with
    | e :: _, some (.accept k) =>
      if min k len.toNat = 0 ∧ len.toNat > 0 then (.thrown ⟨.logic_error, 0⟩, { w with ans := none })
      else (.ok ((min k len.toNat : Nat) : Int),
            { s := { w.s with wire := w.s.wire ++ e.rest.take (min k len.toNat) }, ans := none })
    | _ :: _, some .fail => (.thrown ⟨.system_error, 0⟩, { w with ans := none })
    | _, _ => (.halted, w)
  sockSendTo _ := Gen.M.halt
  sockDriverPending w := (.ok (), w)
  qEmplace := Gen.M.halt
  lock := Gen.M.halt
  unlock := Gen.M.halt
  driverLock := Gen.M.halt
  driverAsyncWantSend := Gen.M.halt

/-! the fields, one equation each: the ties rewrite with these instead of unfolding the whole world -/
section
open AsyncQ
theorem q_qSize (w : QSt) : asyncQWorld.qSize w = (.ok (w.s.q.length : Int), w) := rfl
theorem q_qEmpty (w : QSt) : asyncQWorld.qEmpty w = (.ok w.s.q.isEmpty, w) := rfl
theorem q_qPop (w : QSt) : asyncQWorld.qPop w =
    match w.s.q with
    | [] => (.halted, w)
    | e :: rest =>
      (.ok (), { w with s := { w.s with q := rest, returned := w.s.returned ++ [e.id],
                                        done := w.s.done ++ [if w.s.fut e.id = .value then ⟨e.id, e.sent ++ e.rest, [], .value⟩
                                                             else ⟨e.id, e.sent, e.rest, w.s.fut e.id⟩] } }) := rfl
theorem q_bufferSize (w : QSt) : asyncQWorld.bufferSize w =
    match w.s.q with
    | [] => (.halted, w)
    | e :: _ => (.ok (e.rest.length : Int), w) := rfl
theorem q_bufferErase (n : Int) (w : QSt) : asyncQWorld.bufferErase n w =
    match w.s.q with
    | [] => (.halted, w)
    | e :: rest =>
      (.ok (), { w with s := { w.s with q := { e with sent := e.sent ++ e.rest.take n.toNat, rest := e.rest.drop n.toNat } :: rest } }) := rfl
theorem q_promiseSetValue (w : QSt) : asyncQWorld.promiseSetValue w =
    match w.s.q with
    | [] => (.halted, w)
    | e :: _ => (.ok (), { w with s := { w.s with fut := upd w.s.fut e.id .value } }) := rfl
theorem q_promiseSetException (w : QSt) : asyncQWorld.promiseSetException w =
    match w.s.q with
    | [] => (.halted, w)
    | e :: _ => (.ok (), { w with s := { w.s with fut := upd w.s.fut e.id .exn } }) := rfl
theorem q_sockSendSome (len : Int) (w : QSt) : asyncQWorld.sockSendSome len w =
    match w.s.q, w.ans with
    | e :: _, some (.accept k) =>
      if min k len.toNat = 0 ∧ len.toNat > 0 then (.thrown ⟨.logic_error, 0⟩, { w with ans := none })
      else (.ok ((min k len.toNat : Nat) : Int),
            { s := { w.s with wire := w.s.wire ++ e.rest.take (min k len.toNat) }, ans := none })
    | _ :: _, some .fail => (.thrown ⟨.system_error, 0⟩, { w with ans := none })
    | _, _ => (.halted, w) := rfl
theorem q_sockDriverPending (w : QSt) : asyncQWorld.sockDriverPending w = (.ok (), w) := rfl
end

/-! ### UDP: `Udp.TQ` -/

structure TQSt where
  s : Udp.TQ
  ans : Option Udp.TAns

open Udp AsyncQ in
def tqWorld : Gen.QueueWorld TQSt where
  qSize w := (.ok (w.s.q.length : Int), w)
  qEmpty w := (.ok w.s.q.isEmpty, w)
  qPop w :=
    match w.s.q with
    | [] => (.halted, w)
    | e :: rest =>
      (.ok (), { w with s := { w.s with q := rest, returned := w.s.returned ++ [e.id],
                                        done := w.s.done ++ [(e, w.s.fut e.id)] } })
  bufferSize w :=
    match w.s.q with
    | [] => (.halted, w)
    | e :: _ => (.ok (e.payload.length : Int), w)
  bufferErase _ := Gen.M.halt
  promiseSetValue w :=
    match w.s.q with
    | [] => (.halted, w)
    | e :: _ => (.ok (), { w with s := { w.s with fut := upd w.s.fut e.id .value } })
  promiseSetException w :=
    match w.s.q with
    | [] => (.halted, w)
    | e :: _ => (.ok (), { w with s := { w.s with fut := upd w.s.fut e.id .exn } })
  sockSendSome _ := Gen.M.halt
  sockSendTo len w :=
    match w.s.q, w.ans with
    | e :: _, some .ok => (.ok len, { s := { w.s with sent := w.s.sent ++ [e] }, ans := none })
    | _ :: _, some .fail => (.thrown ⟨.system_error, 0⟩, { w with ans := none })
    | _, _ => (.halted, w)
  sockDriverPending := Gen.M.halt
  qEmplace := Gen.M.halt
  lock := Gen.M.halt
  unlock := Gen.M.halt
  driverLock := Gen.M.halt
  driverAsyncWantSend := Gen.M.halt

section
open Udp AsyncQ
theorem t_qSize (w : TQSt) : tqWorld.qSize w = (.ok (w.s.q.length : Int), w) := rfl
theorem t_qEmpty (w : TQSt) : tqWorld.qEmpty w = (.ok w.s.q.isEmpty, w) := rfl
theorem t_qPop (w : TQSt) : tqWorld.qPop w =
    match w.s.q with
    | [] => (.halted, w)
    | e :: rest =>
      (.ok (), { w with s := { w.s with q := rest, returned := w.s.returned ++ [e.id],
                                        done := w.s.done ++ [(e, w.s.fut e.id)] } }) := rfl
theorem t_bufferSize (w : TQSt) : tqWorld.bufferSize w =
    match w.s.q with
    | [] => (.halted, w)
    | e :: _ => (.ok (e.payload.length : Int), w) := rfl
theorem t_promiseSetValue (w : TQSt) : tqWorld.promiseSetValue w =
    match w.s.q with
    | [] => (.halted, w)
    | e :: _ => (.ok (), { w with s := { w.s with fut := upd w.s.fut e.id .value } }) := rfl
theorem t_promiseSetException (w : TQSt) : tqWorld.promiseSetException w =
    match w.s.q with
    | [] => (.halted, w)
    | e :: _ => (.ok (), { w with s := { w.s with fut := upd w.s.fut e.id .exn } }) := rfl
theorem t_sockSendTo (len : Int) (w : TQSt) : tqWorld.sockSendTo len w =
    match w.s.q, w.ans with
    | e :: _, some .ok => (.ok len, { s := { w.s with sent := w.s.sent ++ [e] }, ans := none })
    | _ :: _, some .fail => (.thrown ⟨.system_error, 0⟩, { w with ans := none })
    | _, _ => (.halted, w) := rfl
end

/-! ### the enqueue side (TCP): `Send` on producer thread `t` with promise `id` and buffer `bytes`

`sendQMtx` is a flag: the queue may only be looked at (`qEmpty`) and changed (`qEmplace` = the model's `enq` action)
while it is held, `lock` of a held mutex and `unlock` of a free one halt; `driverAsyncWantSend` is the model's `arm`
action of that thread (it takes the driver's `stepMtx`, so it must not happen under `sendQMtx`: it halts if held). -/
structure EnqSt where
  s : AsyncQ.St
  t : Nat
  id : Nat
  bytes : AsyncQ.Bytes
  held : Bool

open AsyncQ in
def enqWorld : Gen.QueueWorld EnqSt where
  qSize := Gen.M.halt
  qEmpty w := if w.held then (.ok w.s.q.isEmpty, w) else (.halted, w)
  qPop := Gen.M.halt
  bufferSize := Gen.M.halt
  bufferErase _ := Gen.M.halt
  promiseSetValue := Gen.M.halt
  promiseSetException := Gen.M.halt
  sockSendSome _ := Gen.M.halt
  sockSendTo _ := Gen.M.halt
  sockDriverPending := Gen.M.halt
  qEmplace w := if w.held then (.ok (), { w with s := step w.s (.enq w.t w.id w.bytes) }) else (.halted, w)
  lock w := if w.held then (.halted, w) else (.ok (), { w with held := true })
  unlock w := if w.held then (.ok (), { w with held := false }) else (.halted, w)
  driverLock w := (.ok true, w)
  driverAsyncWantSend w := if w.held then (.halted, w) else (.ok (), { w with s := step w.s (.arm w.t) })

section
open AsyncQ
theorem e_qEmpty (w : EnqSt) : enqWorld.qEmpty w = if w.held then (.ok w.s.q.isEmpty, w) else (.halted, w) := rfl
theorem e_qEmplace (w : EnqSt) : enqWorld.qEmplace w =
    if w.held then (.ok (), { w with s := step w.s (.enq w.t w.id w.bytes) }) else (.halted, w) := rfl
theorem e_lock (w : EnqSt) : enqWorld.lock w = if w.held then (.halted, w) else (.ok (), { w with held := true }) := rfl
theorem e_unlock (w : EnqSt) : enqWorld.unlock w = if w.held then (.ok (), { w with held := false }) else (.halted, w) := rfl
theorem e_driverLock (w : EnqSt) : enqWorld.driverLock w = (.ok true, w) := rfl
theorem e_driverAsyncWantSend (w : EnqSt) : enqWorld.driverAsyncWantSend w =
    if w.held then (.halted, w) else (.ok (), { w with s := step w.s (.arm w.t) }) := rfl
end


/-- after `qPop` the generated code returns `sendQSize == 1` / `q.empty()`: on the model's list that is `isEmpty` -/
theorem dec_len {α : Type} (l : List α) : decide (((l.length : Int) + 1) = 1) = l.isEmpty := by
  cases l <;> simp <;> omega

end SockModel.GenWorld
