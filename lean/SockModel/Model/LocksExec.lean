import SockModel.Model.LocksLemmas
/-! Executable form of the transition relation (for the trace validator of C04/C05/C08) and its
soundness: every transition the validator fires is one of `Tr`, so it stays inside `Reach`. -/
namespace SockModel.Locks

/-- names of the transitions -/
inductive L where
  | dRunEnter | dRunExit | dRunGo | dStepEnter | dLockStep | dToPoll | dPollPipe | dPollOther
  | dUnlockStep | dLockPause | dUnlockPause | dStop
  | uTryOk (t : Tid) | uTryFail (t : Tid) | uLockPause (t : Tid) | uBump (t : Tid) | uLockStep (t : Tid)
  | uRelPause (t : Tid) | uUnlock (t : Tid) | uStopSet (t : Tid) | uStopBump (t : Tid)
  deriving Repr

/-- the step in progress was started by `Run` (not by a single `Step` call) -/
def DPc.run? : DPc → Bool
  | .wantStep r | .inStep r | .atPoll r | .woke r | .wantPause r | .holdPause r => r
  | _ => false

/-- fire transition `l` if it is enabled -/
def apply (s : St) : L → Option St
  | .dRunEnter => if s.d = .idle then some { s with d := .r0 } else none
  | .dRunExit => if s.d = .r0 ∧ s.stop = true then some { s with stop := false, d := .idle, runs := s.runs + 1 } else none
  | .dRunGo => if s.d = .r0 ∧ s.stop = false then some { s with d := .wantStep true } else none
  | .dStepEnter => if s.d = .idle then some { s with d := .wantStep false } else none
  | .dLockStep =>
    match s.d with
    | .wantStep r => if s.step = .none then some { s with step := .drv, d := .inStep r } else none
    | _ => none
  | .dToPoll => match s.d with | .inStep r => some { s with d := .atPoll r } | _ => none
  | .dPollPipe =>
    match s.d with
    | .atPoll r => if 0 < s.pipe then some { s with pipe := s.pipe - 1, d := .woke r } else none
    | _ => none
  | .dPollOther =>
    match s.d with
    | .atPoll r => if s.pipe = 0 then some { s with d := .woke r } else none
    | _ => none
  | .dUnlockStep => match s.d with | .woke r => some { s with step := .none, d := .wantPause r } | _ => none
  | .dLockPause =>
    match s.d with
    | .wantPause r => if s.pause = .none then some { s with pause := .drv, d := .holdPause r } else none
    | _ => none
  | .dUnlockPause =>
    match s.d with
    | .holdPause r => some { s with pause := .none, d := if r then .r0 else .idle }
    | _ => none
  | .dStop => some { s with stop := true, pipe := s.pipe + 1, stops := s.stops + 1 }
  | .uTryOk t => if s.u t = .idle ∧ s.step = .none then some ({ s with step := .usr t }.setU t .crit) else none
  | .uTryFail t => if s.u t = .idle ∧ s.step ≠ .none then some (s.setU t .wantPause) else none
  | .uLockPause t => if s.u t = .wantPause ∧ s.pause = .none then some ({ s with pause := .usr t }.setU t .bump) else none
  | .uBump t => if s.u t = .bump then some ({ s with pipe := s.pipe + 1 }.setU t .waitStep) else none
  | .uLockStep t => if s.u t = .waitStep ∧ s.step = .none then some ({ s with step := .usr t }.setU t .relPause) else none
  | .uRelPause t => if s.u t = .relPause then some ({ s with pause := .none }.setU t .crit) else none
  | .uUnlock t => if s.u t = .crit then some ({ s with step := .none }.setU t .idle) else none
  | .uStopSet t => if s.u t = .idle then some ({ s with stop := true }.setU t .stopBump) else none
  | .uStopBump t => if s.u t = .stopBump then some ({ s with pipe := s.pipe + 1, stops := s.stops + 1 }.setU t .idle) else none

theorem some_of_ite {α : Type} {p : Prop} [Decidable p] {a b : α} (h : (if p then some a else none) = some b) :
    p ∧ a = b := by
  split at h
  · exact ⟨‹p›, Option.some.inj h⟩
  · cases h

/-- inversion of `apply` for the transitions that match on the driver's pc (`r`: the step was started by `Run`);
the others are one `if`: `some_of_ite` -/
theorem apply_some {s s' : St} : ∀ {l : L}, apply s l = some s' →
    match l with
    | .dLockStep => ∃ r, (s.d = .wantStep r ∧ s.step = .none) ∧ { s with step := .drv, d := .inStep r } = s'
    | .dToPoll => ∃ r, s.d = .inStep r ∧ { s with d := .atPoll r } = s'
    | .dPollPipe => ∃ r, (s.d = .atPoll r ∧ 0 < s.pipe) ∧ { s with pipe := s.pipe - 1, d := .woke r } = s'
    | .dPollOther => ∃ r, (s.d = .atPoll r ∧ s.pipe = 0) ∧ { s with d := .woke r } = s'
    | .dUnlockStep => ∃ r, s.d = .woke r ∧ { s with step := .none, d := .wantPause r } = s'
    | .dLockPause => ∃ r, (s.d = .wantPause r ∧ s.pause = .none) ∧ { s with pause := .drv, d := .holdPause r } = s'
    | .dUnlockPause => ∃ r, s.d = .holdPause r ∧ { s with pause := .none, d := if r then .r0 else .idle } = s'
    | _ => True := by
  intro l h
  obtain ⟨step, pause, pipe, stop, d, u, stops, runs⟩ := s
  cases l with
  | dLockStep =>
    cases d with
    | wantStep r => exact ⟨r, ⟨rfl, (some_of_ite h).1⟩, (some_of_ite h).2⟩
    | _ => cases h
  | dToPoll =>
    cases d with
    | inStep r => exact ⟨r, rfl, Option.some.inj h⟩
    | _ => cases h
  | dPollPipe =>
    cases d with
    | atPoll r => exact ⟨r, ⟨rfl, (some_of_ite h).1⟩, (some_of_ite h).2⟩
    | _ => cases h
  | dPollOther =>
    cases d with
    | atPoll r => exact ⟨r, ⟨rfl, (some_of_ite h).1⟩, (some_of_ite h).2⟩
    | _ => cases h
  | dUnlockStep =>
    cases d with
    | woke r => exact ⟨r, rfl, Option.some.inj h⟩
    | _ => cases h
  | dLockPause =>
    cases d with
    | wantPause r => exact ⟨r, ⟨rfl, (some_of_ite h).1⟩, (some_of_ite h).2⟩
    | _ => cases h
  | dUnlockPause =>
    cases d with
    | holdPause r => exact ⟨r, rfl, Option.some.inj h⟩
    | _ => cases h
  | _ => trivial

theorem apply_sound {s s' : St} {l : L} (h : apply s l = some s') : ∃ b, Tr s b s' := by
  cases l with
  | dRunEnter => obtain ⟨hg, rfl⟩ := some_of_ite h; exact ⟨_, .dRunEnter hg⟩
  | dRunExit => obtain ⟨hg, rfl⟩ := some_of_ite h; exact ⟨_, .dRunExit hg.1 hg.2⟩
  | dRunGo => obtain ⟨hg, rfl⟩ := some_of_ite h; exact ⟨_, .dRunGo hg.1 hg.2⟩
  | dStepEnter => obtain ⟨hg, rfl⟩ := some_of_ite h; exact ⟨_, .dStepEnter hg⟩
  | dLockStep => obtain ⟨r, hg, rfl⟩ := apply_some h; exact ⟨_, .dLockStep hg.1 hg.2⟩
  | dToPoll => obtain ⟨r, hd, rfl⟩ := apply_some h; exact ⟨_, .dToPoll hd⟩
  | dPollPipe => obtain ⟨r, hg, rfl⟩ := apply_some h; exact ⟨_, .dPollPipe hg.1 hg.2⟩
  | dPollOther => obtain ⟨r, hg, rfl⟩ := apply_some h; exact ⟨_, .dPollOther hg.1 hg.2⟩
  | dUnlockStep => obtain ⟨r, hd, rfl⟩ := apply_some h; exact ⟨_, .dUnlockStep hd⟩
  | dLockPause => obtain ⟨r, hg, rfl⟩ := apply_some h; exact ⟨_, .dLockPause hg.1 hg.2⟩
  | dUnlockPause => obtain ⟨r, hd, rfl⟩ := apply_some h; exact ⟨_, .dUnlockPause hd⟩
  | dStop => exact Option.some.inj h ▸ ⟨_, .dStop⟩
  | uTryOk t => obtain ⟨hg, rfl⟩ := some_of_ite h; exact ⟨_, .uTryOk hg.1 hg.2⟩
  | uTryFail t => obtain ⟨hg, rfl⟩ := some_of_ite h; exact ⟨_, .uTryFail hg.1 hg.2⟩
  | uLockPause t => obtain ⟨hg, rfl⟩ := some_of_ite h; exact ⟨_, .uLockPause hg.1 hg.2⟩
  | uBump t => obtain ⟨hg, rfl⟩ := some_of_ite h; exact ⟨_, .uBump hg⟩
  | uLockStep t => obtain ⟨hg, rfl⟩ := some_of_ite h; exact ⟨_, .uLockStep hg.1 hg.2⟩
  | uRelPause t => obtain ⟨hg, rfl⟩ := some_of_ite h; exact ⟨_, .uRelPause hg⟩
  | uUnlock t => obtain ⟨hg, rfl⟩ := some_of_ite h; exact ⟨_, .uUnlock hg⟩
  | uStopSet t => obtain ⟨hg, rfl⟩ := some_of_ite h; exact ⟨_, .uStopSet hg⟩
  | uStopBump t => obtain ⟨hg, rfl⟩ := some_of_ite h; exact ⟨_, .uStopBump hg⟩

def applyAll (s : St) : List L → Option St
  | [] => some s
  | l :: ls => match apply s l with | some s' => applyAll s' ls | none => none

/-- the validator never leaves the reachable states the theorems are about -/
theorem applyAll_reach {s s' : St} {ls : List L} (hr : Reach s) (h : applyAll s ls = some s') : Reach s' := by
  induction ls generalizing s with
  | nil => simp only [applyAll] at h; cases h; exact hr
  | cons l ls ih =>
    simp only [applyAll] at h
    cases ha : apply s l with
    | none => rw [ha] at h; cases h
    | some s1 =>
      rw [ha] at h
      obtain ⟨b, tr⟩ := apply_sound ha
      exact ih (Reach.step hr tr) h

end SockModel.Locks
