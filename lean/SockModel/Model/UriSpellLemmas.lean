import SockModel.Model.UriLemmas
/-!
The theorems about the URI model that both `Spec/Uri.lean` (`lit_values`, `name_values`, `reparse_eq`,
`parse_portText`) and `Props/C12.lean` need: spellings agree, `to_string` round trip, no silent wrap, service
names.  They are in namespace `SockModel.Uri.Lem` because a Spec module (reachable from the driver) must not
import a Props file; `Props/C12.lean` states those that are C12 theorems again in `SockModel.Uri`.

Every documented spelling is a host-port text (`h:p` or `[h]:p`, `HostPort`) in a frame: `scheme://` in front,
`/path` behind, both or none.
-/
namespace SockModel.Uri.Lem
open SockModel.Decimal

/-- `hp` is a host-port text: it splits into `(h, d)`, contains no '/', and is not mistaken for a scheme whatever
follows it -/
structure HostPort (hp h d : Bytes) : Prop where
  ne : hp ≠ []
  noslash : (0x2f : UInt8) ∉ hp
  split : splitPort hp = some (h, d)
  bare : ∀ tail, trimServAndPath (hp ++ tail) = (trimPath (hp ++ tail)).map (·, [])

theorem hostPort_plain {h d : Bytes} (hne : h ≠ []) (hc : (0x3a : UInt8) ∉ h) (hs : (0x2f : UInt8) ∉ h)
    (hb : h.head? ≠ some 0x5b) (hd : isDigits d = true) : HostPort (h ++ 0x3a :: d) h d where
  ne := by simp
  noslash := by simp [hs, digits_no_byte hd (k := 0x2f) (by decide)]
  split := splitPort_plain hne hc hb hd
  bare tail := by
    rw [List.append_assoc, List.cons_append]
    exact trimServAndPath_no_scheme (by decide) hc fun _ => digits_head_not_slash hd

theorem hostPort_bracket {h d : Bytes} (hs : (0x2f : UInt8) ∉ h) (hl : hasLineBreak h = false)
    (hd : isDigits d = true) : HostPort (0x5b :: (h ++ 0x5d :: 0x3a :: d)) h d where
  ne := by simp
  noslash := by simp [hs, digits_no_byte hd (k := 0x2f) (by decide)]
  split := splitPort_bracket hl hd
  bare tail := trimServAndPath_no_scheme (h := []) (by decide) (by simp) fun e => absurd e (by decide)

theorem HostPort.framed {hp h scheme tail : Bytes} {p : Nat} (H : HostPort hp h (render p)) (hlt : p < 65536)
    (hw : ∀ c ∈ scheme, isWord c = true) (ht : PathTail tail) :
    dissect (hp ++ tail) = .ok ⟨h, render p, true⟩ ∧
    dissect (scheme ++ 0x3a :: 0x2f :: 0x2f :: (hp ++ tail)) = .ok ⟨h, render p, true⟩ := by
  have htp := trimPath_eval H.noslash H.ne ht
  exact ⟨dissect_numeric hlt (by rw [H.bare, htp]; rfl) H.split,
    dissect_numeric hlt (trimServAndPath_scheme hw htp) H.split⟩

theorem HostPort.frames {hp h scheme path : Bytes} {p : Nat} (H : HostPort hp h (render p)) (hlt : p < 65536)
    (hw : ∀ c ∈ scheme, isWord c = true) (hpath : hasLineBreak path = false) :
    let want : Except Exn Dissect := .ok ⟨h, render p, true⟩
    dissect hp = want ∧ dissect (scheme ++ 0x3a :: 0x2f :: 0x2f :: hp) = want ∧
    dissect (hp ++ 0x2f :: path) = want ∧ dissect (scheme ++ 0x3a :: 0x2f :: 0x2f :: (hp ++ 0x2f :: path)) = want := by
  have h0 := H.framed hlt hw .nil
  rw [List.append_nil] at h0
  have h1 := H.framed hlt hw (.path hpath)
  exact ⟨h0.1, h0.2, h1.1, h1.2⟩

theorem pair_render {h : Bytes} {p : Nat} (hne : h ≠ []) (hlt : p < 65536) :
    parseHostServ h (render p) = .ok ⟨cstr h, render p, false⟩ := by
  have hd := isDigits_render p
  rw [parseHostServ_eq_guarded hne (fun e => by rw [e] at hd; cases hd), cstr_of_digits hd]
  exact guarded_ok_iff.mpr ⟨rfl, portText_render hlt⟩

theorem spellings_agree (h scheme path : Bytes) (p : Nat) (hp : p < 65536)
    (hne : h ≠ []) (hc : (0x3a : UInt8) ∉ h) (hs : (0x2f : UInt8) ∉ h) (hb : h.head? ≠ some 0x5b)
    (hl : hasLineBreak h = false) (hw : ∀ c ∈ scheme, isWord c = true) (hpath : hasLineBreak path = false) :
    let d := render p
    let want : Except Exn Dissect := .ok ⟨h, d, true⟩
    dissect (h ++ 0x3a :: d) = want ∧
    dissect (0x5b :: (h ++ 0x5d :: 0x3a :: d)) = want ∧
    dissect (scheme ++ 0x3a :: 0x2f :: 0x2f :: (h ++ 0x3a :: d)) = want ∧
    dissect (h ++ 0x3a :: d ++ 0x2f :: path) = want ∧
    dissect (scheme ++ 0x3a :: 0x2f :: 0x2f :: (0x5b :: (h ++ 0x5d :: 0x3a :: d) ++ 0x2f :: path)) = want ∧
    parseHostServ h d = .ok ⟨cstr h, d, false⟩ ∧
    parseUri (h ++ 0x3a :: d) = .ok ⟨cstr h, d, true⟩ := by
  have hd := isDigits_render p
  obtain ⟨p1, p2, p3, _⟩ := (hostPort_plain hne hc hs hb hd).frames hp hw hpath
  obtain ⟨b1, _, _, b4⟩ := (hostPort_bracket hs hl hd).frames hp hw hpath
  refine ⟨p1, b1, p2, p3, b4, pair_render hne hp, ?_⟩
  rw [parseUri_of_dissect p1, Dissect.toGai, cstr_of_digits hd]

theorem hostpath_spelling (h path : Bytes) (hne : h ≠ []) (hc : (0x3a : UInt8) ∉ h) (hs : (0x2f : UInt8) ∉ h)
    (hpath : hasLineBreak path = false) :
    dissect (h ++ 0x2f :: path) = .ok ⟨h, [], false⟩ ∧ dissect h = .ok ⟨h, [], false⟩ := by
  have hnum : isServiceNumeric [] = false := by decide
  constructor
  · refine dissect_named ?_ (splitPort_nocolon hc) hnum
    rw [trimServAndPath_no_scheme (by decide) hc fun e => absurd e (by decide), trimPath_eval hs hne (.path hpath)]
    rfl
  · refine dissect_named ?_ (splitPort_nocolon hc) hnum
    rw [trimServAndPath_nocolon hc, trimPath_self hs hne]; rfl

theorem spellings_agree_v6 (h6 scheme path : Bytes) (p : Nat) (hp : p < 65536)
    (hne : h6 ≠ []) (hs : (0x2f : UInt8) ∉ h6) (hl : hasLineBreak h6 = false)
    (hw : ∀ c ∈ scheme, isWord c = true) (hpath : hasLineBreak path = false) :
    let d := render p
    let want : Except Exn Dissect := .ok ⟨h6, d, true⟩
    dissect (0x5b :: (h6 ++ 0x5d :: 0x3a :: d)) = want ∧
    dissect (scheme ++ 0x3a :: 0x2f :: 0x2f :: (0x5b :: (h6 ++ 0x5d :: 0x3a :: d))) = want ∧
    dissect (0x5b :: (h6 ++ 0x5d :: 0x3a :: d) ++ 0x2f :: path) = want ∧
    dissect (scheme ++ 0x3a :: 0x2f :: 0x2f :: (0x5b :: (h6 ++ 0x5d :: 0x3a :: d) ++ 0x2f :: path)) = want ∧
    parseHostServ h6 d = .ok ⟨cstr h6, d, false⟩ := by
  obtain ⟨b1, b2, b3, b4⟩ := (hostPort_bracket hs hl (isDigits_render p)).frames hp hw hpath
  exact ⟨b1, b2, b3, b4, pair_render hne hp⟩

theorem tostring_roundtrip (v6 : Bool) (h : Bytes) (p : Nat) (hp : p < 65536)
    (hs : (0x2f : UInt8) ∉ h) (hl : hasLineBreak h = false)
    (h4 : v6 = false → h ≠ [] ∧ (0x3a : UInt8) ∉ h ∧ h.head? ≠ some 0x5b) :
    dissect (toString v6 h (render p)) = .ok ⟨h, render p, true⟩ := by
  have hd := isDigits_render p
  have hw : ∀ c ∈ ([] : Bytes), isWord c = true := by simp
  cases v6
  · obtain ⟨hne, hc, hb⟩ := h4 rfl
    have hshape : toString false h (render p) = h ++ 0x3a :: render p := by simp [toString]
    rw [hshape]
    exact ((hostPort_plain hne hc hs hb hd).frames hp hw (path := []) rfl).1
  · have hshape : toString true h (render p) = 0x5b :: (h ++ 0x5d :: 0x3a :: render p) := by simp [toString]
    rw [hshape]
    exact ((hostPort_bracket hs hl hd).frames hp hw (path := []) rfl).1

theorem no_silent_wrap_strict : NoSilentWrapStrict parseUri parseHostServ :=
  ⟨fun _ _ neg m hok => parseUri_portText hok neg m,
   fun _ _ _ neg m hok => (parseHostServ_ok hok).1 ▸ (parseHostServ_ok hok).2 neg m⟩

theorem no_silent_wrap : NoSilentWrap parseUri parseHostServ :=
  no_silent_wrap_strict.weaken

theorem render_parse (p : Nat) :
    parseDec (render p) = some p ∧ isDigits (render p) = true ∧
    (p < 2 ^ 64 → strtoulReads (render p) = some p) := by
  have hd := isDigits_render p
  refine ⟨by simp [parseDec, hd, decVal_render], hd, fun hp => ?_⟩
  have hcap : cap64 = 2 ^ 64 := rfl
  have hm : min p cap64 = p := by omega
  rw [strtoulReads_eq_map, numericReads_digits hd, satVal_eq, decVal_render, hm, Option.map_some]
  simp only [Bool.false_eq_true, if_false]
  rw [if_neg (by omega)]

/-- a text with two colons that does not start with '[' (every IPv6 literal) has no `host:port` reading -/
theorem splitPort_none_of_colons {h : Bytes} (hb : h.head? ≠ some 0x5b) (hc : 2 ≤ h.count 0x3a) :
    splitPort h = none := by
  rw [Option.eq_none_iff_forall_ne_some]
  rintro ⟨h', d⟩ e
  rcases splitPort_eq_some_iff.mp e with ⟨rfl, -, -⟩ | ⟨-, rfl, -, hc', hd⟩
  · exact hb rfl
  · rw [List.count_append, List.count_cons_self, List.count_eq_zero_of_not_mem hc',
      List.count_eq_zero_of_not_mem (digits_no_colon hd)] at hc
    omega

/-- "scheme or service names for well-known ports": `name://h` and `name://h/path` are dissected to host `h`
and service `name` (looked up by name, no AI_NUMERICSERV) for every host text without '/' that has no
`host:port` reading (an IPv4 literal: no colon; an IPv6 literal: two colons) and every `\w*` name that is
not a number -/
theorem name_spelling (h name tail : Bytes) (hne : h ≠ []) (hs : (0x2f : UInt8) ∉ h)
    (hsp : splitPort h = none) (hw : ∀ c ∈ name, isWord c = true) (hnum : isServiceNumeric name = false)
    (ht : tail = [] ∨ ∃ q, tail = 0x2f :: q ∧ hasLineBreak q = false) :
    dissect (name ++ 0x3a :: 0x2f :: 0x2f :: (h ++ tail)) = .ok ⟨h, name, false⟩ :=
  dissect_named (trimServAndPath_scheme hw (trimPath_eval hs hne ht)) hsp hnum

end SockModel.Uri.Lem
