import SockModel.Model.Pool
/-! What `get`, `recycle`, `fill` and the receive discipline `rx` do case by case, and the invariant of
`BufferPool` that they keep (C10). -/
namespace SockModel.Pool

theorem get_idle {p : Pool} {b : BufId} {rest : List BufId} (h : p.idle = b :: rest) :
    get p = .ok b { p with idle := rest, busy := p.busy ++ [b], len := upd p.len b 0 } := by
  simp only [get, h]

theorem get_alloc {p : Pool} (h : p.idle = []) (hle : p.busy.length ≤ p.maxM1) :
    get p = .ok p.next { p with busy := p.busy ++ [p.next], next := p.next + 1,
                                len := upd p.len p.next 0, cap := upd p.cap p.next 0 } := by
  simp only [get, h, if_pos hle]

theorem get_full {p : Pool} (h : p.idle = []) (hlt : ¬ p.busy.length ≤ p.maxM1) :
    get p = .outOfBuffers := by
  simp only [get, h, if_neg hlt]

theorem get_ok_cases {p p' : Pool} {b : BufId} (hg : get p = .ok b p') :
    (∃ rest, p.idle = b :: rest ∧
      p' = { p with idle := rest, busy := p.busy ++ [b], len := upd p.len b 0 }) ∨
    (p.idle = [] ∧ p.busy.length ≤ p.maxM1 ∧ b = p.next ∧
      p' = { p with busy := p.busy ++ [p.next], next := p.next + 1,
                    len := upd p.len p.next 0, cap := upd p.cap p.next 0 }) := by
  cases hi : p.idle with
  | cons b0 rest => rw [get_idle hi] at hg; cases hg; exact .inl ⟨rest, rfl, rfl⟩
  | nil =>
    by_cases hle : p.busy.length ≤ p.maxM1
    · rw [get_alloc hi hle] at hg; cases hg; exact .inr ⟨rfl, hle, rfl, by rw [hi]⟩
    · rw [get_full hi hle] at hg; cases hg

theorem get_out {p : Pool} (hg : get p = .outOfBuffers) : p.idle = [] ∧ ¬ p.busy.length ≤ p.maxM1 := by
  cases hi : p.idle with
  | cons b0 rest => rw [get_idle hi] at hg; cases hg
  | nil =>
    by_cases hle : p.busy.length ≤ p.maxM1
    · rw [get_alloc hi hle] at hg; cases hg
    · exact ⟨rfl, hle⟩

theorem get_ok_busy {p p' : Pool} {b : BufId} (hg : get p = .ok b p') : p'.busy = p.busy ++ [b] := by
  rcases get_ok_cases hg with ⟨_, _, rfl⟩ | ⟨_, _, rfl, rfl⟩ <;> rfl

theorem get_ok_len {p p' : Pool} {b : BufId} (hg : get p = .ok b p') : p'.len b = 0 := by
  rcases get_ok_cases hg with ⟨_, _, rfl⟩ | ⟨_, _, rfl, rfl⟩ <;> exact upd_same _ _ _

theorem recycle_mem {p : Pool} {b : BufId} (h : b ∈ p.busy) :
    recycle p b = some { p with idle := b :: p.idle, busy := p.busy.erase b } := if_pos h

theorem recycle_some {p p' : Pool} {b : BufId} (h : recycle p b = some p') :
    b ∈ p.busy ∧ p' = { p with idle := b :: p.idle, busy := p.busy.erase b } := by
  by_cases hm : b ∈ p.busy
  · rw [recycle_mem hm] at h; cases h; exact ⟨hm, rfl⟩
  · rw [recycle, if_neg hm] at h; cases h

@[simp] theorem fill_idle (p : Pool) (b m : Nat) : (fill p b m).idle = p.idle := by unfold fill; split <;> rfl
@[simp] theorem fill_busy (p : Pool) (b m : Nat) : (fill p b m).busy = p.busy := by unfold fill; split <;> rfl
@[simp] theorem fill_next (p : Pool) (b m : Nat) : (fill p b m).next = p.next := by unfold fill; split <;> rfl
@[simp] theorem fill_maxM1 (p : Pool) (b m : Nat) : (fill p b m).maxM1 = p.maxM1 := by unfold fill; split <;> rfl

theorem fill_cap (p : Pool) (b m x : Nat) :
    p.cap x ≤ (fill p b m).cap x ∧ (b ∈ p.busy → m ≤ (fill p b m).cap b) := by
  unfold fill
  split
  · refine ⟨?_, fun _ => by simp only [upd_same]; exact Nat.le_max_right _ _⟩
    by_cases hx : x = b
    · subst hx; simp only [upd_same]; exact Nat.le_max_left _ _
    · simp only [upd_other _ _ _ _ hx]; exact Nat.le_refl _
  · exact ⟨Nat.le_refl _, fun h => absurd h ‹_›⟩

theorem rx_of_get_ok {p p1 : Pool} {b : BufId} (size : Nat) (o : RxOutcome) (hg : get p = .ok b p1) :
    ∃ q, recycle (fill p1 b size) b = some q ∧
      rx p size o = match o with
        | .value m => .value b (fill (fill p1 b size) b m)
        | .nothing => .nothing q
        | .exn => .exn q := by
  have hm : b ∈ (fill p1 b size).busy := by simp [get_ok_busy hg]
  refine ⟨_, recycle_mem hm, ?_⟩
  simp only [rx, hg, recycle_mem hm]
  cases o <;> rfl

theorem rxStep_cases (size : Nat) (s : RxState) (op : RxOp) :
    rxStep size s op = s ∨
    (∃ b p1 m, get s.pool = .ok b p1 ∧
      rxStep size s op = { pool := fill (fill p1 b size) b m, held := s.held ++ [b] }) ∨
    (∃ b p1 q, get s.pool = .ok b p1 ∧ recycle (fill p1 b size) b = some q ∧
      rxStep size s op = { s with pool := q }) ∨
    (∃ b q, recycle s.pool b = some q ∧ rxStep size s op = { pool := q, held := s.held.erase b }) := by
  cases op with
  | rx o =>
    cases hg : get s.pool with
    | outOfBuffers => exact .inl (by simp only [rxStep, rx, hg])
    | ok b p1 =>
      obtain ⟨q, hq, hrx⟩ := rx_of_get_ok size o hg
      cases o with
      | value m => exact .inr (.inl ⟨b, p1, m, rfl, by simp only [rxStep, hrx]⟩)
      | nothing => exact .inr (.inr (.inl ⟨b, p1, q, rfl, hq, by simp only [rxStep, hrx]⟩))
      | exn => exact .inr (.inr (.inl ⟨b, p1, q, rfl, hq, by simp only [rxStep, hrx]⟩))
  | drop b =>
    simp only [rxStep]
    split
    · cases hr : recycle s.pool b with
      | none => exact .inl rfl
      | some q => exact .inr (.inr (.inr ⟨b, q, hr, rfl⟩))
    · exact .inl rfl

/-- The pool invariant for a pool created as `BufferPool(n, r)`. -/
structure PoolInv (n r : Nat) (p : Pool) : Prop where
  nodup   : (p.idle ++ p.busy).Nodup
  below   : ∀ b ∈ p.idle ++ p.busy, b < p.next
  maxM1   : p.maxM1 = (n + sizeMax - 1) % sizeMax
  conserv : 0 < n → p.idle.length + p.busy.length = n ∧ p.next = n
  capRes  : 0 < n → ∀ b, b < n → r ≤ p.cap b

theorem maxM1_pos {n : Nat} (h : 0 < n) (hn : n < sizeMax) : (n + sizeMax - 1) % sizeMax = n - 1 := by
  rw [Nat.add_comm, Nat.add_sub_assoc h, Nat.add_mod_left]
  exact Nat.mod_eq_of_lt (Nat.lt_of_le_of_lt (Nat.sub_le n 1) hn)

theorem maxM1_zero : (0 + sizeMax - 1) % sizeMax = sizeMax - 1 := by
  simp [sizeMax]

/-- with nothing idle all `n` buffers of a limited pool are out, one more than `m_maxCount`: `Get` refuses -/
theorem PoolInv.idle_nil_full {n r : Nat} {p : Pool} (h : PoolInv n r p) (hpos : 0 < n) (hn : n < sizeMax)
    (hi : p.idle = []) : p.busy.length = n ∧ ¬ p.busy.length ≤ p.maxM1 := by
  have hc := (h.conserv hpos).1
  have hm := h.maxM1
  rw [maxM1_pos hpos hn] at hm
  rw [hi, List.length_nil, Nat.zero_add] at hc
  omega

theorem inv_create (n r : Nat) : PoolInv n r (create n r) := by
  refine ⟨?_, ?_, rfl, ?_, ?_⟩
  · simpa [create] using (List.reverse_perm _).nodup_iff.mpr (List.nodup_range (n := n))
  · intro b hb
    simp [create] at hb
    simpa [create] using hb
  · intro _; simp [create]
  · intro _ b hb; simp [create, hb]

theorem PoolInv.get_ok {n r : Nat} {p p' : Pool} {b : BufId} (h : PoolInv n r p) (hn : n < sizeMax)
    (hg : get p = .ok b p') :
    b ∉ p.busy ∧ (0 < n → b ∈ p.idle ∧ b < n ∧ p'.next = p.next ∧ p'.cap b = p.cap b) := by
  rcases get_ok_cases hg with ⟨rest, hi, rfl⟩ | ⟨hi, hle, rfl, rfl⟩
  · have hb : b ∈ p.idle := by rw [hi]; exact List.mem_cons_self
    refine ⟨fun hm => (List.nodup_append.mp h.nodup).2.2 b hb b hm rfl, fun hpos => ⟨hb, ?_, rfl, rfl⟩⟩
    have := h.below b (List.mem_append_left _ hb)
    have := (h.conserv hpos).2
    omega
  · refine ⟨fun hm => Nat.lt_irrefl _ (h.below _ (List.mem_append_right _ hm)), fun hpos => ?_⟩
    exact absurd hle (h.idle_nil_full hpos hn hi).2

theorem perm_reuse {p : Pool} {b : BufId} {rest : List BufId} (hi : p.idle = b :: rest) :
    (rest ++ (p.busy ++ [b])).Perm (p.idle ++ p.busy) := by
  rw [hi, ← List.append_assoc]
  exact List.perm_append_singleton b (rest ++ p.busy)

theorem perm_alloc (p : Pool) : (p.idle ++ (p.busy ++ [p.next])).Perm (p.next :: (p.idle ++ p.busy)) := by
  rw [← List.append_assoc]
  exact List.perm_append_singleton _ _

theorem perm_recycle {p : Pool} {b : BufId} (hmem : b ∈ p.busy) :
    (b :: p.idle ++ p.busy.erase b).Perm (p.idle ++ p.busy) :=
  List.perm_middle.symm.trans (List.Perm.append_left _ (List.perm_cons_erase hmem).symm)

/-- the invariant only looks at the buffers as a set, the counter, the limit and lower bounds of the capacities -/
theorem PoolInv.of_perm {n r : Nat} {p q : Pool} (h : PoolInv n r p)
    (hperm : (q.idle ++ q.busy).Perm (p.idle ++ p.busy)) (hx : q.next = p.next) (hm : q.maxM1 = p.maxM1)
    (hcap : ∀ x, p.cap x ≤ q.cap x) : PoolInv n r q := by
  refine ⟨hperm.nodup_iff.mpr h.nodup, fun c hc => hx ▸ h.below c (hperm.subset hc), hm ▸ h.maxM1, fun hpos => ?_,
    fun hpos c hc => Nat.le_trans (h.capRes hpos c hc) (hcap c)⟩
  have hc := h.conserv hpos
  have := hperm.length_eq
  simp only [List.length_append] at this hc ⊢
  omega

theorem inv_get {n r : Nat} {p p' : Pool} {b : BufId} (hn : n < sizeMax)
    (h : PoolInv n r p) (hg : get p = .ok b p') : PoolInv n r p' := by
  rcases get_ok_cases hg with ⟨rest, hi, rfl⟩ | ⟨hi, hle, rfl, rfl⟩
  · exact h.of_perm (perm_reuse hi) rfl rfl fun _ => Nat.le_refl _
  · obtain rfl : n = 0 := Nat.eq_zero_of_not_pos fun hpos => (h.idle_nil_full hpos hn hi).2 hle
    have hfresh : p.next ∉ p.idle ++ p.busy := fun hm => Nat.lt_irrefl _ (h.below _ hm)
    refine ⟨(perm_alloc p).nodup_iff.mpr (List.nodup_cons.mpr ⟨hfresh, h.nodup⟩), fun c hc => ?_, h.maxM1,
      (absurd · (Nat.lt_irrefl 0)), (absurd · (Nat.lt_irrefl 0))⟩
    rcases List.mem_cons.mp ((perm_alloc p).subset hc) with rfl | hc
    · exact Nat.lt_succ_self _
    · exact Nat.lt_succ_of_lt (h.below c hc)

theorem inv_recycle {n r : Nat} {p p' : Pool} {b : BufId}
    (h : PoolInv n r p) (hr : recycle p b = some p') : PoolInv n r p' := by
  obtain ⟨hmem, rfl⟩ := recycle_some hr
  exact h.of_perm (perm_recycle hmem) rfl rfl fun _ => Nat.le_refl _

theorem inv_fill {n r : Nat} {p : Pool} (b m : Nat) (h : PoolInv n r p) : PoolInv n r (fill p b m) :=
  h.of_perm (by rw [fill_idle, fill_busy]) (fill_next p b m) (fill_maxM1 p b m) fun x => (fill_cap p b m x).1

theorem inv_step {n r : Nat} {p : Pool} (hn : n < sizeMax) (h : PoolInv n r p) (op : Op) :
    PoolInv n r (step p op) := by
  cases op with
  | get =>
    simp only [step]
    cases hg : get p with
    | ok b p' => exact inv_get hn h hg
    | outOfBuffers => exact h
  | rel b =>
    simp only [step]
    cases hr : recycle p b with
    | some p' => exact inv_recycle h hr
    | none => exact h
  | fill b m => exact inv_fill b m h

theorem inv_run {n r : Nat} {p : Pool} (hn : n < sizeMax) (h : PoolInv n r p) (ops : List Op) :
    PoolInv n r (run p ops) := by
  induction ops generalizing p with
  | nil => exact h
  | cons op ops ih => exact ih (inv_step hn h op)

theorem inv_run_create (n r : Nat) (hn : n < sizeMax) (ops : List Op) : PoolInv n r (run (create n r) ops) :=
  inv_run hn (inv_create n r) ops

theorem rx_inv {n size : Nat} (hn : n < sizeMax) {s0 : RxState} (h0 : PoolInv n size s0.pool ∧ s0.pool.busy = s0.held)
    (ops : List RxOp) :
    PoolInv n size (rxRun size s0 ops).pool ∧ (rxRun size s0 ops).pool.busy = (rxRun size s0 ops).held := by
  induction ops generalizing s0 with
  | nil => exact h0
  | cons op ops ih =>
    obtain ⟨hinv, hheld⟩ := h0
    apply ih
    rcases rxStep_cases size s0 op with h | ⟨b, p1, m, hg, h⟩ | ⟨b, p1, q, hg, hq, h⟩ | ⟨b, q, hq, h⟩ <;> rw [h]
    · exact ⟨hinv, hheld⟩
    · exact ⟨inv_fill b m (inv_fill b size (inv_get hn hinv hg)), by simp [get_ok_busy hg, hheld]⟩
    · refine ⟨inv_recycle (inv_fill b size (inv_get hn hinv hg)) hq, ?_⟩
      obtain ⟨_, rfl⟩ := recycle_some hq
      simp only [fill_busy, get_ok_busy hg, ← hheld]
      rw [List.erase_append_right _ (hinv.get_ok hn hg).1, List.erase_cons_head, List.append_nil]
    · refine ⟨inv_recycle hinv hq, ?_⟩
      obtain ⟨_, rfl⟩ := recycle_some hq
      simp only [hheld]

end SockModel.Pool
