import SockModel.Model.ToDosLemmas
/-! Lemmas about the timeout `Driver::Step` hands to the socket wait (`StepTodos` + `MinDuration` + `ToMsec`), by
induction along the `StepTodos` loop (`stepTodos_induct`).  `Spec/C07.lean` uses them; the property theorems
`step_bounded`, `step_not_past_todo` of `Props/C07.lean` are these statements. -/
namespace SockModel.ToDos
open SockModel.Deadline

theorem applyOp_now_mono (s : St) (op : BodyOp) : s.now ≤ (applyOp s op).now := by
  cases op <;> simp only [applyOp] <;> (try split) <;> first | exact Int.le_refl _ | omega

theorem foldl_applyOp_now_mono (ops : List BodyOp) (s0 : St) : s0.now ≤ (ops.foldl applyOp s0).now := by
  induction ops generalizing s0 with
  | nil => exact Int.le_refl _
  | cons op ops ih => exact Int.le_trans (applyOp_now_mono s0 op) (ih _)

theorem afterFront_now_mono (s : St) (front : Entry) (rest : List Entry) (now : Int) :
    s.now ≤ (afterFront s front rest now).now :=
  foldl_applyOp_now_mono _ _

theorem minDuration_bounds {u : Int} (hu : 0 ≤ u) (r : Int) :
    0 ≤ minDuration u r ∧ minDuration u r ≤ toMs u ∧ (0 ≤ r → minDuration u r ≤ r) := by
  have := toMs_nonneg hu
  unfold minDuration
  split <;> omega

/-- the clock does not go back during `StepTodos`, and while a ToDo is still pending the returned timeout is
non-negative and ends no later than its due time -/
theorem stepTodos_wait (fuel : Nat) (d : Deadline) (s : St) (hd : d.now = s.now) (ms : Int) (s' : St)
    (h : stepTodos fuel d s = (ms, s')) :
    s.now ≤ s'.now ∧
    (∀ f rest, s'.todos = f :: rest → 0 ≤ ms ∧ (s'.now < f.when → ms * nsPerMs ≤ f.when - s'.now)) := by
  have H := stepTodos_induct (P := fun d s r => d.now = s.now → s.now ≤ r.2.now ∧
      ∀ f rest, r.2.todos = f :: rest → 0 ≤ r.1 ∧ (r.2.now < f.when → r.1 * nsPerMs ≤ f.when - r.2.now))
    (fun d s _ => ⟨Int.le_refl _, fun f rest _ => ⟨Int.le_refl _, fun hh => by simp only at hh ⊢; omega⟩⟩)
    (fun d s ht _ => ⟨Int.le_refl _, fun f rest h => by rw [ht] at h; cases h⟩)
    (fun d s front rest ht hnot hd => ⟨Int.le_refl _, fun f rest' h => by
      rw [ht] at h
      cases h
      have hu : 0 ≤ front.when - d.now := by omega
      obtain ⟨h0, hle, _⟩ := minDuration_bounds hu d.remaining
      have := Int.mul_le_mul_of_nonneg_right hle (by decide : (0 : Int) ≤ nsPerMs)
      have := toMs_mul_le hu
      exact ⟨h0, fun _ => by simp only [← hd]; omega⟩⟩)
    (fun d s front rest ht _ hemp hd =>
      ⟨afterFront_now_mono .., fun f rest' h => by rw [hemp] at h; cases h⟩)
    (fun d s front rest r ht _ ih hd =>
      have := ih (deadline_tick_now ..)
      ⟨Int.le_trans (afterFront_now_mono ..) this.1, this.2⟩)
    (fun d s front rest ht _ hd =>
      ⟨afterFront_now_mono .., fun f rest' _ => ⟨Int.le_refl _, fun _ => by omega⟩⟩)
    fuel d s hd
  rwa [h] at H

/-- "it never sleeps past the due time of the earliest pending ToDo": when a ToDo is still pending
after the tasks of this step ran, the timeout passed to the socket wait is non-negative (never
unlimited) and ends no later than that ToDo's due time.  Holds for every timeout `T`, every due
time (also ≥ 2^31 ms ahead, thanks to the clamp of fix F6) and every task behaviour. -/
theorem stepTodos_not_past (fuel : Nat) (T : Int) (s : St) (ms : Int) (s' : St)
    (hst : stepTodos fuel (Deadline.make T s.now) s = (ms, s')) :
    ∀ f rest, s'.todos = f :: rest →
      0 ≤ toMsec ms ∧ (s'.now < f.when → toMsec ms * nsPerMs ≤ f.when - s'.now) := by
  intro f rest h
  obtain ⟨_, h2⟩ := stepTodos_wait fuel (Deadline.make T s.now) s (deadline_make_now T s.now) ms s' hst
  obtain ⟨h0, hle⟩ := h2 f rest h
  have hns : (0 : Int) < nsPerMs := by decide
  have hcl : 0 ≤ toMsec ms ∧ toMsec ms ≤ ms := by
    unfold toMsec
    split
    · unfold intMax at *; omega
    · split
      · unfold intMax at *; omega
      · omega
  refine ⟨hcl.1, ?_⟩
  intro hlt
  have := Int.mul_le_mul_of_nonneg_right hcl.2 (Int.le_of_lt hns)
  have := hle hlt
  omega

/-- the deadline object of a `Step(T)`, `T ≥ 0`, never promises more than `T` -/
def DBound (T : Int) : Deadline → Prop
  | .unlimited _ => T < 0
  | .zero _ => T = 0
  | .limited n dl => 0 < T ∧ dl - n ≤ T * nsPerMs

theorem DBound_make (T now : Int) : DBound T (Deadline.make T now) := by
  unfold Deadline.make
  split
  · assumption
  · split
    · assumption
    · exact ⟨by omega, by omega⟩

theorem DBound_tick {T : Int} {d : Deadline} (h : DBound T d) (n' : Int) (hn : d.now ≤ n') : DBound T (d.tick n') := by
  cases d with
  | unlimited n => exact h
  | zero n => exact h
  | limited n dl =>
    simp only [Deadline.tick, DBound, Deadline.now] at *
    exact ⟨h.1, by omega⟩

theorem toMs_le {x T : Int} (hT : 0 ≤ T) (h : x ≤ T * nsPerMs) : toMs x ≤ T := by
  by_cases hx : 0 ≤ x
  · have := toMs_mul_le hx
    unfold nsPerMs at *
    omega
  · have : 0 ≤ toMs (-x) := toMs_nonneg (by omega)
    rw [toMs, Int.neg_tdiv] at this
    unfold toMs
    omega

theorem DBound_remaining {T : Int} {d : Deadline} (h : DBound T d) (hT : 0 ≤ T) : d.remaining ≤ T ∧ 0 ≤ d.remaining := by
  cases d with
  | unlimited n => simp only [DBound] at h; omega
  | zero n => simp only [DBound] at h; simp only [Deadline.remaining]; omega
  | limited n dl =>
    have := toMs_le hT h.2
    show (if toMs (dl - n) < 0 then 0 else toMs (dl - n)) ≤ T ∧ 0 ≤ (if toMs (dl - n) < 0 then 0 else toMs (dl - n))
    split <;> omega

/-- "Driver::Step is bounded by T from above in the same way": for `T ≥ 0` the timeout handed to the
socket wait after the due tasks ran is within `[0, T]`, whatever the tasks did and however long they
took. -/
theorem stepTodos_bounded (fuel : Nat) (T : Int) (hT : 0 ≤ T) (d : Deadline) (s : St) (hd : d.now = s.now)
    (hb : DBound T d) (ms : Int) (s' : St) (h : stepTodos fuel d s = (ms, s')) : 0 ≤ ms ∧ ms ≤ T := by
  have hrem : ∀ {d : Deadline}, DBound T d → 0 ≤ d.remaining ∧ d.remaining ≤ T :=
    fun hb => (DBound_remaining hb hT).symm
  have htick : ∀ {d : Deadline} {s : St} (front rest), d.now = s.now → DBound T d →
      DBound T (d.tick (afterFront s front rest d.now).now) :=
    fun front rest hd hb => DBound_tick hb _ (hd ▸ afterFront_now_mono ..)
  have H := stepTodos_induct (P := fun d s r => d.now = s.now → DBound T d → 0 ≤ r.1 ∧ r.1 ≤ T)
    (fun _ _ _ _ => ⟨Int.le_refl _, hT⟩)
    (fun _ _ _ _ hb => hrem hb)
    (fun d s front rest _ hnot _ hb =>
      have ⟨h0, _, hle⟩ := minDuration_bounds (u := front.when - d.now) (by omega) d.remaining
      ⟨h0, Int.le_trans (hle (hrem hb).1) (hrem hb).2⟩)
    (fun _ _ front rest _ _ _ hd hb => hrem (htick front rest hd hb))
    (fun _ _ front rest _ _ _ ih hd hb => ih (deadline_tick_now ..) (htick front rest hd hb))
    (fun _ _ _ _ _ _ _ _ => ⟨Int.le_refl _, hT⟩)
    fuel d s hd hb
  rwa [h] at H

end SockModel.ToDos
