import SockModel.Model.SendLoop
/-! Lemmas about the blocking socket layer model.  A `poll` is read once (`pollSees`, `pollOnce_some`); a wait is a
run of polls (`Waited`), which gives what every wait leaves alone (`Polled`) without a bound on the timeout, and
`wait_spec` for the documented domain; `sendNow_facts`; the send loops hand a prefix of the buffer to the OS and
return its length (`send_prefix`). -/
namespace SockModel.SendLoop
open SockModel.Deadline

def callBytes : Call → Bytes
  | .send _ acc => acc
  | _ => []

theorem wire_eq (os : Os) : wire os = (os.calls.reverse.map callBytes).flatten := by
  unfold wire callBytes; rfl

theorem wire_cons (os : Os) (c : Call) (os' : Os) (h : os'.calls = c :: os.calls) :
    wire os' = wire os ++ callBytes c := by
  rw [wire_eq, wire_eq, h]; simp

theorem wire_nil_of_calls {os : Os} (h : os.calls = []) : wire os = [] := by
  unfold wire; rw [h]; rfl

/-! ### pollOnce -/

/-- what a `poll` with timeout `t` makes of the scripted answer: the answer the caller sees, and the
milliseconds that pass -/
def pollSees (t : Int) : PollAns → PollAns × Int
  | .ready d => if t ≥ 0 ∧ (d : Int) > t then (.timedOut, t) else (.ready d, d)
  | .eintr d => if t ≥ 0 ∧ (d : Int) > t then (.timedOut, t) else (.eintr d, d)
  | .timedOut => (.timedOut, if t > 0 then t else 0)
  | .fail e => (.fail e, 0)

theorem pollOnce_some {t : Int} {os os' : Os} {a : PollAns} (h : pollOnce t os = some (a, os')) :
    ∃ a0 rest, os.polls = a0 :: rest ∧ a = (pollSees t a0).1 ∧
      os' = { os with polls := rest, calls := .poll t :: os.calls, now := os.now + (pollSees t a0).2 * nsPerMs } := by
  unfold pollOnce at h
  cases hp : os.polls with
  | nil => rw [hp] at h; cases h
  | cons a0 rest =>
    rw [hp] at h
    refine ⟨a0, rest, rfl, ?_⟩
    cases a0 <;> simp only [pollSees] at h ⊢ <;> (try split at h) <;> cases h <;> simp [*]

theorem pollSees_ms (t : Int) (a0 : PollAns) :
    0 ≤ (pollSees t a0).2 ∧ (0 ≤ t → (pollSees t a0).2 ≤ t) ∧
    ((pollSees t a0).1 = .timedOut → 0 ≤ t → (pollSees t a0).2 = t) := by
  cases a0 <;> simp only [pollSees] <;> (try split) <;> simp <;> omega

theorem pollSees_eintr {t : Int} {a0 : PollAns} {d : Nat} (h : (pollSees t a0).1 = .eintr d) :
    a0 = .eintr d ∧ (pollSees t a0).2 = d ∧ (0 ≤ t → (d : Int) ≤ t) := by
  cases a0 <;> simp only [pollSees] at h ⊢ <;> (try split at h) <;> cases h
  rename_i hc
  rw [if_neg hc]
  exact ⟨rfl, rfl, fun ht => by omega⟩

theorem pollSees_fail {t : Int} {a0 : PollAns} {e : Nat} (h : (pollSees t a0).1 = .fail e) : a0 = .fail e := by
  cases a0 <;> simp only [pollSees] at h <;> (try split at h) <;> cases h
  rfl

theorem pollSees_timedOut {t : Int} {a0 : PollAns} (ht : t < 0) (h : (pollSees t a0).1 = .timedOut) : a0 = .timedOut := by
  cases a0 with
  | timedOut => rfl
  | fail e => cases h
  | ready d | eintr d =>
    simp only [pollSees] at h
    rw [if_neg (by omega)] at h
    cases h

theorem pollOnce_calls {t : Int} {os os' : Os} {a : PollAns} (h : pollOnce t os = some (a, os')) :
    os'.calls = .poll t :: os.calls ∧ os'.sends = os.sends ∧ os'.recvs = os.recvs ∧
    os'.polls.length + 1 = os.polls.length := by
  obtain ⟨a0, rest, hp, _, rfl⟩ := pollOnce_some h
  simp [hp]

theorem pollOnce_wire {t : Int} {os os' : Os} {a : PollAns} (h : pollOnce t os = some (a, os')) :
    wire os' = wire os := by
  rw [wire_cons os (.poll t) os' (pollOnce_calls h).1]; simp [callBytes]

/-- the clock never runs backwards in a poll, and a poll with timeout `t ≥ 0` advances it by at most `t` ms -/
theorem pollOnce_now {t : Int} {os os' : Os} {a : PollAns} (h : pollOnce t os = some (a, os')) :
    os.now ≤ os'.now ∧ (0 ≤ t → os'.now ≤ os.now + t * nsPerMs) ∧
    (a = .timedOut → 0 ≤ t → os'.now = os.now + t * nsPerMs) := by
  obtain ⟨a0, rest, _, rfl, rfl⟩ := pollOnce_some h
  obtain ⟨h0, h1, h2⟩ := pollSees_ms t a0
  simp only [nsPerMs]
  exact ⟨by omega, fun ht => by have := h1 ht; omega, fun ha ht => by rw [h2 ha ht]⟩

theorem pollOnce_pollArgs {t : Int} {os os' : Os} {a : PollAns} (h : pollOnce t os = some (a, os')) :
    pollArgs os' = pollArgs os ++ [t] := by
  unfold pollArgs
  rw [(pollOnce_calls h).1]
  simp

/-! ### a wait is a run of polls, all but the last interrupted by a signal -/

/-- `Waited os r os'`: polls take `os` to `os'` and the wait answers `r` -/
inductive Waited : Os → Res Bool → Os → Prop
  | exhausted (os : Os) : Waited os (.exn .exhausted) os
  | ready {t : Int} {os os' : Os} {d : Nat} : pollOnce t os = some (.ready d, os') → Waited os (.ok true) os'
  | timedOut {t : Int} {os os' : Os} : pollOnce t os = some (.timedOut, os') → Waited os (.ok false) os'
  | fail {t : Int} {os os' : Os} {e : Nat} : pollOnce t os = some (.fail e, os') → Waited os (.exn (.system e)) os'
  | eintr {t : Int} {os os1 os' : Os} {d : Nat} {r : Res Bool} :
      pollOnce t os = some (.eintr d, os1) → Waited os1 r os' → Waited os r os'

theorem waitFixed_waited (t : Int) (fuel : Nat) (os : Os) :
    Waited os (waitFixed t fuel os).1 (waitFixed t fuel os).2 := by
  induction fuel generalizing os with
  | zero => exact .exhausted os
  | succ fuel ih =>
    unfold waitFixed
    cases hp : pollOnce t os with
    | none => exact .exhausted os
    | some r =>
      obtain ⟨a, os1⟩ := r
      cases a with
      | ready d => exact .ready hp
      | timedOut => exact .timedOut hp
      | eintr d => exact .eintr hp (ih os1)
      | fail e => exact .fail hp

theorem waitLimited_waited (dl : Int) (fuel : Nat) (os : Os) :
    Waited os (waitLimited dl fuel os).1 (waitLimited dl fuel os).2 := by
  induction fuel generalizing os with
  | zero => exact .exhausted os
  | succ fuel ih =>
    unfold waitLimited
    cases hp : pollOnce (toMsec (Deadline.limited os.now dl).remaining) os with
    | none => exact .exhausted os
    | some r =>
      obtain ⟨a, os1⟩ := r
      cases a with
      | ready d => exact .ready hp
      | timedOut => exact .timedOut hp
      | eintr d => exact .eintr hp (ih os1)
      | fail e => exact .fail hp

theorem wait_waited (T : Int) (os : Os) : Waited os (wait T os).1 (wait T os).2 := by
  unfold wait
  split
  · exact waitFixed_waited _ _ _
  · exact waitLimited_waited _ _ _

/-- what polls leave alone, whatever their timeouts -/
structure Polled (os os' : Os) : Prop where
  wire : wire os' = wire os
  sends : os'.sends = os.sends
  recvs : os'.recvs = os.recvs
  mono : os.now ≤ os'.now
  fewer : os'.polls.length ≤ os.polls.length

theorem Polled.refl (os : Os) : Polled os os := ⟨rfl, rfl, rfl, Int.le_refl _, Nat.le_refl _⟩

theorem Polled.step {t : Int} {os os1 os2 : Os} {a : PollAns} (h1 : pollOnce t os = some (a, os1))
    (h2 : Polled os1 os2) : Polled os os2 := by
  have hc := pollOnce_calls h1
  exact ⟨by rw [h2.wire, pollOnce_wire h1], by rw [h2.sends, hc.2.1], by rw [h2.recvs, hc.2.2.1],
    Int.le_trans (pollOnce_now h1).1 h2.mono, by have := h2.fewer; omega⟩

theorem Waited.polled {os os' : Os} {r : Res Bool} (h : Waited os r os') : Polled os os' := by
  induction h with
  | exhausted os => exact .refl os
  | ready hp | timedOut hp | fail hp => exact .step hp (.refl _)
  | eintr hp _ ih => exact .step hp ih

/-- signals alone never make a wait fail: an exception needs a failing `poll` answer -/
theorem Waited.no_fail {os os' : Os} {r : Res Bool} (h : Waited os r os') (hs : ∀ a ∈ os.polls, ∀ e, a ≠ .fail e) :
    ∀ e, r ≠ .exn (.system e) := by
  induction h with
  | exhausted os | ready hp | timedOut hp => intro e h; cases h
  | fail hp =>
    obtain ⟨a0, rest, hpl, ha, _⟩ := pollOnce_some hp
    exact absurd (pollSees_fail ha.symm) (hs a0 (by rw [hpl]; exact List.mem_cons_self) _)
  | eintr hp _ ih =>
    obtain ⟨a0, rest, hpl, _, rfl⟩ := pollOnce_some hp
    exact ih fun a ha => hs a (by rw [hpl]; exact List.mem_cons_of_mem _ ha)

theorem wait_polled {T : Int} {os os' : Os} {r : Res Bool} (h : wait T os = (r, os')) : Polled os os' := by
  have := (wait_waited T os).polled; rw [h] at this; exact this

/-- every poll argument a wait adds satisfies `P` -/
def ArgsIn (P : Int → Prop) (os os' : Os) : Prop := ∀ p ∈ pollArgs os', p ∈ pollArgs os ∨ P p

theorem ArgsIn.refl (P : Int → Prop) (os : Os) : ArgsIn P os os := fun _ h => Or.inl h

theorem ArgsIn.step {P : Int → Prop} {t : Int} {os os1 os2 : Os} {a : PollAns}
    (h1 : pollOnce t os = some (a, os1)) (hP : P t) (h2 : ArgsIn P os1 os2) : ArgsIn P os os2 := by
  intro p hp
  rcases h2 p hp with hp | hp
  · rw [pollOnce_pollArgs h1] at hp
    rcases List.mem_append.mp hp with hp | hp
    · exact Or.inl hp
    · simp at hp; subst hp; exact Or.inr hP
  · exact Or.inr hp

theorem ArgsIn.mono {P Q : Int → Prop} {os os' : Os} (h : ArgsIn P os os') (hPQ : ∀ p, P p → Q p) : ArgsIn Q os os' :=
  fun p hp => (h p hp).imp_right (hPQ p)

theorem waitFixed_args (t : Int) (fuel : Nat) (os : Os) : ArgsIn (· = t) os (waitFixed t fuel os).2 := by
  induction fuel generalizing os with
  | zero => exact .refl _ _
  | succ fuel ih =>
    unfold waitFixed
    cases hp : pollOnce t os with
    | none => exact .refl _ _
    | some r =>
      obtain ⟨a, os1⟩ := r
      cases a with
      | eintr d => exact .step hp rfl (ih os1)
      | ready d | timedOut | fail e => exact .step hp rfl (.refl _ _)

/-- with timeout 0 the clock does not move at all -/
theorem waitFixed_zero_now (fuel : Nat) (os : Os) : (waitFixed 0 fuel os).2.now = os.now := by
  induction fuel generalizing os with
  | zero => rfl
  | succ fuel ih =>
    unfold waitFixed
    cases hp : pollOnce 0 os with
    | none => rfl
    | some r =>
      obtain ⟨a, os1⟩ := r
      have hn := pollOnce_now hp
      have h0 : os1.now = os.now := by
        have := hn.2.1 (Int.le_refl 0); have := hn.1; omega
      cases a with
      | eintr d => simp only; rw [ih os1, h0]
      | ready d | timedOut | fail e => exact h0

theorem toMs_mul (k : Int) : toMs (k * nsPerMs) = k := by
  unfold toMs nsPerMs
  exact Int.mul_tdiv_cancel k (by decide)

theorem remaining_of_multiple (now deadline : Int) (k : Nat) (h : deadline - now = (k : Int) * nsPerMs) :
    (Deadline.limited now deadline).remaining = k := by
  show (if toMs (deadline - now) < 0 then 0 else toMs (deadline - now)) = (k : Int)
  rw [h, toMs_mul]
  have : ¬ ((k : Int) < 0) := by omega
  rw [if_neg this]

theorem toMsec_of_range {k : Int} (hlo : -intMax ≤ k) (hhi : k ≤ intMax) : toMsec k = k := by
  unfold toMsec
  rw [if_neg (by omega), if_neg (by omega)]

theorem toMsec_small {k : Int} (h0 : 0 ≤ k) (h : k ≤ intMax) : toMsec k = k :=
  toMsec_of_range (by unfold intMax; omega) h

/-- `waitLimited`: never past the deadline, never a negative or over-budget poll argument, and
`false` (timeout) exactly at the deadline.  `k` is the budget left in whole ms: `wait` starts it at the timeout
`T ≤ intMax` (`wait_spec`), and a signal after `d` ms leaves `k - d`; so `Remaining` and `toMsec` are exact. -/
theorem waitLimited_facts (deadline : Int) (fuel : Nat) (os : Os) (k : Nat)
    (hk : deadline - os.now = (k : Int) * nsPerMs) (hmax : (k : Int) ≤ intMax) :
    ArgsIn (fun p => 0 ≤ p ∧ p ≤ k) os (waitLimited deadline fuel os).2 ∧
    (waitLimited deadline fuel os).2.now ≤ deadline ∧
    ((waitLimited deadline fuel os).1 = .ok false → (waitLimited deadline fuel os).2.now = deadline) := by
  have hns : (0 : Int) < nsPerMs := by decide
  induction fuel generalizing os k with
  | zero =>
    refine ⟨ArgsIn.refl _ _, ?_, by intro h; cases h⟩
    simp only [waitLimited]
    have := Int.mul_nonneg (Int.natCast_nonneg k) (Int.le_of_lt hns); omega
  | succ fuel ih =>
    unfold waitLimited
    rw [remaining_of_multiple os.now deadline k hk, toMsec_small (Int.natCast_nonneg k) hmax]
    have hkn := Int.mul_nonneg (Int.natCast_nonneg k) (Int.le_of_lt hns)
    cases hp : pollOnce (k : Int) os with
    | none =>
      exact ⟨ArgsIn.refl _ _, by simp only; omega, by intro h; cases h⟩
    | some r =>
      obtain ⟨a, os1⟩ := r
      have hn := pollOnce_now hp
      have hle : os1.now ≤ deadline := by have := hn.2.1 (Int.natCast_nonneg k); omega
      have hP : (fun p : Int => 0 ≤ p ∧ p ≤ (k : Int)) (k : Int) := ⟨Int.natCast_nonneg k, Int.le_refl _⟩
      cases a with
      | ready d | fail e => exact ⟨ArgsIn.step hp hP (ArgsIn.refl _ _), hle, by intro h; cases h⟩
      | timedOut =>
        refine ⟨ArgsIn.step hp hP (ArgsIn.refl _ _), hle, ?_⟩
        intro _
        have := hn.2.2 rfl (Int.natCast_nonneg k)
        simp only; omega
      | eintr d =>
        -- the clock advanced by d ms with d ≤ k: the remaining budget is k - d whole ms
        have hd : os1.now = os.now + (d : Int) * nsPerMs ∧ d ≤ k := by
          obtain ⟨a0, rest, _, ha, rfl⟩ := pollOnce_some hp
          obtain ⟨_, hms, hle⟩ := pollSees_eintr ha.symm
          exact ⟨by simp only [hms], by have := hle (Int.natCast_nonneg k); omega⟩
        have hk' : deadline - os1.now = ((k - d : Nat) : Int) * nsPerMs := by
          rw [hd.1]
          have : ((k - d : Nat) : Int) = (k : Int) - (d : Int) := by omega
          rw [this, Int.sub_mul]; omega
        have hmax' : ((k - d : Nat) : Int) ≤ intMax := by omega
        obtain ⟨f1, f2, f3⟩ := ih os1 (k - d) hk' hmax'
        simp only
        exact ⟨.step hp hP (f1.mono fun p h => ⟨h.1, by have := h.2; omega⟩), f2, f3⟩


/-- an unlimited wait reports "timeout" only if the OS itself answers an unlimited poll with 0 -/
theorem waitFixed_neg_false {t : Int} (ht : t < 0) (fuel : Nat) (os : Os)
    (hs : ∀ a ∈ os.polls, a ≠ .timedOut) : (waitFixed t fuel os).1 ≠ .ok false := by
  induction fuel generalizing os with
  | zero => simp [waitFixed]
  | succ fuel ih =>
    unfold waitFixed
    cases hp : pollOnce t os with
    | none => simp
    | some r =>
      obtain ⟨a, os1⟩ := r
      obtain ⟨a0, rest, hpl, ha, rfl⟩ := pollOnce_some hp
      cases a with
      | ready d => simp
      | fail e => simp
      | timedOut => exact absurd (pollSees_timedOut ht ha.symm) (hs a0 (by rw [hpl]; exact List.mem_cons_self))
      | eintr d => exact ih _ fun a ha => hs a (by rw [hpl]; exact List.mem_cons_of_mem _ ha)

/-! ### sendNow -/

theorem sendNow_facts {data : Bytes} {os os' : Os} {r : Res Nat} (h : sendNow data os = (r, os')) :
    os'.polls = os.polls ∧ os'.recvs = os.recvs ∧ os'.now = os.now ∧ pollArgs os' = pollArgs os ∧
    os'.sends.length ≤ os.sends.length ∧
    (r ≠ .exn .exhausted → os'.sends.length + 1 = os.sends.length) ∧
    ∃ n, n ≤ data.length ∧ wire os' = wire os ++ data.take n ∧
      (∀ m, r = .ok m → m = n ∧ (0 < data.length → 0 < m)) := by
  unfold sendNow at h
  cases hs : os.sends with
  | nil =>
    rw [hs] at h; cases h
    exact ⟨rfl, rfl, rfl, rfl, by simp [hs], by simp, 0, by omega, by simp, by intro m h; cases h⟩
  | cons a rest =>
    rw [hs] at h
    -- either answer consumes itself and logs one `send` that took the first `n` bytes
    obtain ⟨n, hn, rfl, hok⟩ : ∃ n, n ≤ data.length ∧
        os' = { os with sends := rest, calls := .send data.length (data.take n) :: os.calls } ∧
        ∀ m, r = .ok m → m = n ∧ (0 < data.length → 0 < m) := by
      cases a with
      | accept k =>
        simp only at h
        split at h <;> cases h
        · exact ⟨_, Nat.min_le_right _ _, rfl, by intro m h; cases h⟩
        · rename_i hc
          exact ⟨_, Nat.min_le_right _ _, rfl, by intro m h; cases h; exact ⟨rfl, fun hpos => by omega⟩⟩
      | fail e => cases h; exact ⟨0, by omega, rfl, by intro m h; cases h⟩
    exact ⟨rfl, rfl, rfl, by simp [pollArgs], by simp, fun _ => by simp, n, hn, by rw [wire_cons os _ _ rfl]; rfl, hok⟩

theorem take_length_take {α : Type} (l : List α) (k : Nat) : l.take (l.take k).length = l.take k := by
  rw [List.length_take]
  by_cases h : k ≤ l.length
  · rw [Nat.min_eq_left h]
  · rw [Nat.min_eq_right (by omega), List.take_length, List.take_of_length_le (by omega)]

theorem drop_take_rest (l : Bytes) (off : Nat) : (l.drop off).take (l.length - off) = l.drop off :=
  List.take_of_length_le (by simp)

theorem wait_sendNow_scripts {T : Int} {os os1 os2 : Os} {r : Res Bool} {rem : Bytes} {k : Nat}
    (hw : wait T os = (r, os1)) (hs : sendNow rem os1 = (.ok k, os2)) :
    k ≤ rem.length ∧ os2.sends.length + 1 = os.sends.length ∧ os2.polls.length ≤ os.polls.length := by
  obtain ⟨hpl, _, _, _, _, hsl, n, hn, _, hok⟩ := sendNow_facts hs
  have hp := wait_polled hw
  exact ⟨by rw [(hok k rfl).1]; exact hn, by rw [← hp.sends]; exact hsl (by simp), by rw [hpl]; exact hp.fewer⟩


/-- what the timeout argument of an operation allows the poll arguments to be -/
def ArgOk (T : Int) (p : Int) : Prop :=
  if T < 0 then p = T else if T = 0 then p = 0 else 0 ≤ p ∧ p ≤ T

/-- summary of `wait` for a timeout in the documented domain `|T| < 2^31` -/
theorem wait_spec {T : Int} {os os' : Os} {r : Res Bool} (h : wait T os = (r, os'))
    (hlo : -intMax ≤ T) (hhi : T ≤ intMax) :
    wire os' = wire os ∧ os'.sends = os.sends ∧ os'.recvs = os.recvs ∧ os.now ≤ os'.now ∧
    os'.polls.length ≤ os.polls.length ∧
    (∀ p ∈ pollArgs os', p ∈ pollArgs os ∨ ArgOk T p) ∧
    (T = 0 → os'.now = os.now) ∧
    (0 < T → os'.now ≤ os.now + T * nsPerMs ∧ (r = .ok false → os'.now = os.now + T * nsPerMs)) ∧
    (T < 0 → (∀ a ∈ os.polls, a ≠ .timedOut) → r ≠ .ok false) := by
  have hp := wait_polled h
  refine ⟨hp.wire, hp.sends, hp.recvs, hp.mono, hp.fewer, ?_⟩
  unfold wait at h
  split at h
  · rename_i hle
    rw [toMsec_of_range hlo hhi] at h
    have hf := waitFixed_args T (os.polls.length + 1) os
    have h1 : (waitFixed T (os.polls.length + 1) os).1 = r := by rw [h]
    have h2 : (waitFixed T (os.polls.length + 1) os).2 = os' := by rw [h]
    rw [h2] at hf
    refine ⟨?_, ?_, ?_, ?_⟩
    · intro p hp
      rcases hf p hp with hp | hp
      · exact Or.inl hp
      · right; unfold ArgOk
        by_cases hn : T < 0
        · rw [if_pos hn]; exact hp
        · have : T = 0 := by omega
          rw [if_neg hn, if_pos this]; rw [hp, this]
    · intro h0; subst h0
      have := waitFixed_zero_now (os.polls.length + 1) os
      rw [h2] at this; exact this
    · intro hpos; omega
    · intro hn hs
      have := waitFixed_neg_false hn (os.polls.length + 1) os hs
      rw [h1] at this; exact this
  · rename_i hgt
    have hTpos : 0 < T := by omega
    have hk : (os.now + T * nsPerMs) - os.now = ((T.toNat : Nat) : Int) * nsPerMs := by
      rw [Int.toNat_of_nonneg (by omega)]; omega
    have hmax : ((T.toNat : Nat) : Int) ≤ intMax := by rw [Int.toNat_of_nonneg (by omega)]; exact hhi
    obtain ⟨f1, f2, f3⟩ := waitLimited_facts (os.now + T * nsPerMs) (os.polls.length + 1) os T.toNat hk hmax
    have h1 : (waitLimited (os.now + T * nsPerMs) (os.polls.length + 1) os).1 = r := by rw [h]
    have h2 : (waitLimited (os.now + T * nsPerMs) (os.polls.length + 1) os).2 = os' := by rw [h]
    rw [h2] at f1 f2 f3
    rw [h1] at f3
    refine ⟨?_, by intro h0; omega, fun _ => ⟨f2, f3⟩, by intro hn; omega⟩
    intro p hp
    rcases f1 p hp with hp | hp
    · exact Or.inl hp
    · right; unfold ArgOk
      rw [if_neg (by omega), if_neg (by omega)]
      rw [Int.toNat_of_nonneg (by omega)] at hp
      exact hp


/-! ### the send loops: what reaches the OS is a prefix of the caller's buffer, and the count returned is its length -/

theorem wait_sendNow_prefix {T : Int} {os os1 os2 : Os} {r : Res Bool} {rem : Bytes} {rs : Res Nat}
    (hw : wait T os = (r, os1)) (hs : sendNow rem os1 = (rs, os2)) :
    ∃ n, n ≤ rem.length ∧ wire os2 = wire os ++ rem.take n ∧ ∀ k, rs = .ok k → k = n := by
  obtain ⟨_, _, _, _, _, _, n, hn, hwire, hok⟩ := sendNow_facts hs
  exact ⟨n, hn, by rw [hwire, (wait_polled hw).wire], fun k hk => (hok k hk).1⟩

theorem prefix_then {w0 w1 w2 rem : Bytes} {k n : Nat} (hk : k ≤ rem.length) (h1 : w1 = w0 ++ rem.take k)
    (hn : n ≤ (rem.drop k).length) (h2 : w2 = w1 ++ (rem.drop k).take n) :
    k + n ≤ rem.length ∧ w2 = w0 ++ rem.take (k + n) := by
  refine ⟨by simp only [List.length_drop] at hn; omega, ?_⟩
  rw [h2, h1, List.append_assoc, ← List.take_add]

theorem sendAllLoop_inv (fuel : Nat) (rem : Bytes) (sent : Nat) (os os' : Os) (r : Res Nat)
    (h : sendAllLoop fuel rem sent os = (r, os')) :
    ∃ n, n ≤ rem.length ∧ wire os' = wire os ++ rem.take n ∧
      (∀ m, r = .ok m → m = sent + rem.length ∧ n = rem.length) := by
  induction fuel generalizing rem sent os with
  | zero => cases h; exact ⟨0, by omega, by simp, by intro m h; cases h⟩
  | succ fuel ih =>
    unfold sendAllLoop at h
    cases hw : wait (-1) os with
    | mk rw osw =>
      rw [hw] at h
      cases rw with
      | exn e => cases h; exact ⟨0, by omega, by simp [(wait_polled hw).wire], by intro m h; cases h⟩
      | ok b =>
        simp only at h
        cases hs : sendNow rem osw with
        | mk rs oss =>
          rw [hs] at h
          obtain ⟨k, hk, hwire, hok⟩ := wait_sendNow_prefix hw hs
          cases rs with
          | exn e => cases h; exact ⟨k, hk, hwire, by intro m h; cases h⟩
          | ok k' =>
            cases hok k' rfl
            simp only at h
            split at h
            · rename_i hemp
              cases h
              have hlen : rem.length ≤ k := by simpa using hemp
              exact ⟨k, hk, hwire, fun m hm => by cases hm; exact ⟨by omega, by omega⟩⟩
            · obtain ⟨n2, hn2, hwire2, hok2⟩ := ih (rem.drop k) (sent + k) oss h
              obtain ⟨hle, hw2⟩ := prefix_then hk hwire hn2 hwire2
              refine ⟨k + n2, hle, hw2, fun m hm => ?_⟩
              obtain ⟨h1, h2⟩ := hok2 m hm
              simp only [List.length_drop] at h1 h2
              exact ⟨by omega, by omega⟩

theorem sendTry_inv (data : Bytes) (os os' : Os) (r : Res Nat) (h : sendTry data os = (r, os')) :
    ∃ n, n ≤ data.length ∧ wire os' = wire os ++ data.take n ∧ (∀ m, r = .ok m → m = n) := by
  unfold sendTry at h
  cases hw : wait 0 os with
  | mk rw osw =>
    rw [hw] at h
    have hwire0 := (wait_polled hw).wire
    cases rw with
    | exn e => cases h; exact ⟨0, by omega, by simp [hwire0], by intro m h; cases h⟩
    | ok b =>
      cases b with
      | false => cases h; exact ⟨0, by omega, by simp [hwire0], by intro m h; cases h; rfl⟩
      | true => exact wait_sendNow_prefix hw h

theorem sendSomeLoop_inv (deadline : Int) (fuel : Nat) (rem : Bytes) (sent : Nat) (dnow : Int) (os os' : Os)
    (r : Res Nat) (h : sendSomeLoop deadline fuel rem sent dnow os = (r, os')) :
    ∃ n, n ≤ rem.length ∧ wire os' = wire os ++ rem.take n ∧ (∀ m, r = .ok m → m = sent + n) := by
  induction fuel generalizing rem sent dnow os with
  | zero => cases h; exact ⟨0, by omega, by simp, by intro m h; cases h⟩
  | succ fuel ih =>
    unfold sendSomeLoop at h
    cases hw : wait (Deadline.limited dnow deadline).remaining os with
    | mk rw osw =>
      rw [hw] at h
      have hwire0 := (wait_polled hw).wire
      cases rw with
      | exn e => cases h; exact ⟨0, by omega, by simp [hwire0], by intro m h; cases h⟩
      | ok b =>
        cases b with
        | false => cases h; exact ⟨0, by omega, by simp [hwire0], by intro m h; cases h; rfl⟩
        | true =>
          simp only at h
          cases hs : sendNow rem osw with
          | mk rs oss =>
            rw [hs] at h
            obtain ⟨k, hk, hwire, hok⟩ := wait_sendNow_prefix hw hs
            cases rs with
            | exn e => cases h; exact ⟨k, hk, hwire, by intro m h; cases h⟩
            | ok k' =>
              cases hok k' rfl
              simp only at h
              split at h
              · cases h
                exact ⟨k, hk, hwire, by intro m hm; cases hm; rfl⟩
              · obtain ⟨n2, hn2, hwire2, hok2⟩ := ih (rem.drop k) (sent + k) osw.now oss h
                obtain ⟨hle, hw2⟩ := prefix_then hk hwire hn2 hwire2
                exact ⟨k + n2, hle, hw2, fun m hm => by have := hok2 m hm; omega⟩

/-- "any other Send returns 0 ≤ n ≤ size": for every timeout mode the count returned is exactly the
number of leading bytes of the buffer that were handed to the OS - nothing lost, duplicated,
reordered or invented by the library, for every short-write pattern. -/
theorem send_prefix (data : Bytes) (T : Int) (os os' : Os) (r : Res Nat) (h : send data T os = (r, os')) :
    ∃ n, n ≤ data.length ∧ wire os' = wire os ++ data.take n ∧
      (∀ m, r = .ok m → m = n ∧ (T < 0 → m = data.length)) := by
  unfold send at h
  split at h
  · obtain ⟨n, hn, hw, hok⟩ := sendAllLoop_inv _ data 0 os os' r h
    refine ⟨n, hn, hw, ?_⟩
    intro m hm
    obtain ⟨h1, h2⟩ := hok m hm
    exact ⟨by omega, fun _ => by omega⟩
  · split at h
    · obtain ⟨n, hn, hw, hok⟩ := sendTry_inv data os os' r h
      exact ⟨n, hn, hw, fun m hm => ⟨hok m hm, fun hT => by omega⟩⟩
    · obtain ⟨n, hn, hw, hok⟩ := sendSomeLoop_inv _ _ data 0 os.now os os' r h
      exact ⟨n, hn, hw, fun m hm => ⟨by have := hok m hm; omega, fun hT => by omega⟩⟩


end SockModel.SendLoop

/-! an unlimited wait stays unlimited after `ToMsec`, so it reports a timeout only if the kernel does
(in the namespace of the oracle proofs that use them) -/
namespace SockModel.Spec.C01
open SockModel.SendLoop SockModel.Deadline

theorem toMsec_neg {T : Int} (h : T < 0) : toMsec T < 0 := by
  unfold toMsec intMax
  split
  · omega
  · split <;> omega

theorem wait_neg_not_false {T : Int} (hT : T < 0) (os : Os) (hs : ∀ a ∈ os.polls, a ≠ .timedOut) :
    (wait T os).1 ≠ .ok false := by
  unfold wait
  rw [if_pos (by omega)]
  exact waitFixed_neg_false (toMsec_neg hT) _ os hs

end SockModel.Spec.C01
