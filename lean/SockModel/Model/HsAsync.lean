import SockModel.Model.HsSched
import SockModel.Model.TlsSim
/-!
A driver-operated (asynchronous) TLS socket on the healthy channel: its driver tasks are zero-timeout calls.

`DriverOnReadable` / `DriverOnWritable` enter the glue through `Receive(data, size)` / `SendSome(data, size)` /
`DriverPending()`, which mark the socket as "deemed readable / writable" (`isReadable`, `isWritable`): the first BIO
read / write then skips the zero wait.  On `chanWorld` (always writable; readable iff bytes are in flight) that
changes nothing but the flags, for ANY engine: `flagFrame` below - the glue functions commute with forgetting the flags
(`nf`), provided the budget is 0 and `isReadable` is only set while bytes are in flight (which is what the driver's
`poll` guarantees).  Hence (`receiveReadable_hs`; `sendSomeWritable_hs` in Model/HsAsyncQ.lean): a readable task is
`Receive(rx, 0)` and a writable task is `Send(front buffer, 0)`.

`SysAS` (asynchronous server, nothing queued, polling client) is defined here; it is the case `u = false` of Model/HsAsyncQ.lean.
-/
namespace SockModel.Hs
open SockModel.Net SockModel.Tls

variable {σ : Type}

/-- forget the "deemed readable / writable" flags -/
def nf (s : St σ Chan) : St σ Chan := { s with g := { s.g with isReadable := false, isWritable := false } }

/-- the budget is zero, and the socket is deemed readable only while bytes towards it are in flight -/
def Fl (r : Bool) (s : St σ Chan) : Prop := s.g.remainingTime = 0 ∧ (s.g.isReadable = true → 0 < s.w.inb r)

theorem waitUnder_fl (r : Bool) (s : St σ Chan) (d : Dir) (hb : Fl r s) :
    Sim nf (Fl r) (waitUnder (chanWorld r) s d) (waitUnder (chanWorld r) (nf s) d) := by
  obtain ⟨h0, h1⟩ := hb
  cases d with
  | wr => exact ⟨rfl, by simp [waitUnder, wait0_wr, h0, underDeadline], h1⟩
  | rd => exact ⟨rfl, by simp [waitUnder, wait0_rd, h0, underDeadline], h1⟩

theorem bioRead_fl (r : Bool) (s : St σ Chan) (n : Nat) (hb : Fl r s) :
    Sim nf (Fl r) (bioRead (chanWorld r) s n) (bioRead (chanWorld r) (nf s) n) := by
  rcases s with ⟨⟨le, ps, rt, ir, iw, dss, pe, wire, bw, ec⟩, e, w⟩
  obtain ⟨h0, h1⟩ := hb
  simp only at h0 h1
  subst h0
  cases ir with
  | true =>
    have hin : 0 < w.inb r := h1 rfl
    simp only [bioRead, nf, if_true, Bool.false_eq_true, if_false, receive_0, hin, recvNow_0, now_0]
    cases (recvOut r w n).1
    · exact ⟨rfl, rfl, by intro h; cases h⟩
    · exact ⟨by simp [nf, underDeadline], rfl, by intro h; cases h⟩
  | false =>
    simp only [bioRead, nf, Bool.false_eq_true, if_false, receive_0, now_0]
    by_cases hin : 0 < w.inb r
    · simp only [hin, if_true, recvNow_0]
      cases (recvOut r w n).1
      · exact ⟨rfl, rfl, by intro h; cases h⟩
      · exact ⟨rfl, by simp [underDeadline], by intro h; cases h⟩
    · simp only [hin, if_false]
      exact ⟨rfl, by simp [underDeadline], by intro h; cases h⟩

theorem bioWrite_fl (r : Bool) (s : St σ Chan) (bs : Bytes) (hb : Fl r s) :
    Sim nf (Fl r) (bioWrite (chanWorld r) s bs) (bioWrite (chanWorld r) (nf s) bs) := by
  rcases s with ⟨⟨le, ps, rt, ir, iw, dss, pe, wire, bw, ec⟩, e, w⟩
  obtain ⟨h0, h1⟩ := hb
  simp only at h0 h1
  subst h0
  cases iw with
  | true =>
    simp only [bioWrite, nf, if_true, Bool.false_eq_true, if_false, Int.lt_irrefl, sendNow_0, sendTry_0, noteWrite]
    exact ⟨rfl, rfl, by intro h; have := h1 h; simpa using this⟩
  | false =>
    simp only [bioWrite, nf, Bool.false_eq_true, if_false, Int.lt_irrefl, if_true, sendTry_0, noteWrite]
    exact ⟨rfl, rfl, by intro h; have := h1 h; simpa using this⟩

theorem Fl.setLastError {r : Bool} {s : St σ Chan} (h : Fl r s) (e : SslErr) : Fl r (setLastError s e) := h
theorem Fl.noteCall {r : Bool} {s : St σ Chan} (h : Fl r s) (E : Engine σ) (b : Bool) (arg : Bytes) (ans : SslAns) :
    Fl r (noteCall E s b arg ans) := h
theorem flagFrame (r : Bool) : SimFrame (σ := σ) (chanWorld r) (chanWorld r) nf (Fl r) where
  same := fun _ => ⟨rfl, rfl, rfl, rfl, rfl⟩
  upd := fun _ _ _ _ _ _ => ⟨rfl, id⟩
  wait := fun s d h => waitUnder_fl r s d h
  bioRead := fun s n h => bioRead_fl r s n h
  bioWrite := fun s bs h => bioWrite_fl r s bs h

/-! ### the driver's readable task -/

/-- a cached WANT_READ is forgotten ("we have been deemed readable") -/
def clr (s : St Hs Chan) : St Hs Chan :=
  { s with g := { s.g with lastError := if s.g.lastError = .wantRead then .none else s.g.lastError } }

theorem sideInv_clr (P : HsP) (r : Bool) (data : Bytes) (s : St Hs Chan) (hi : SideInv P r data (nf s)) :
    SideInv P r data (nf (clr s)) := by
  by_cases hl : s.g.lastError = .wantRead
  · have : nf (clr s) = setLastError (nf s) .none := by simp [nf, clr, setLastError, hl]
    rw [this]; exact sideInv_setNone P r data _ hi
  · have : nf (clr s) = nf s := by
      rcases s with ⟨⟨le, ps, rt, ir, iw, dss, pe, wire, bw, ec⟩, e, w⟩
      simp only at hl
      simp [nf, clr, hl]
    rw [this]; exact hi

/-- `DriverOnReadable` on a socket that `poll` reported readable does what `Read` with budget 0 does from the state without
flags (`tlsRead_hs`); afterwards a finished engine has no error cached and an unfinished one has WANT_READ cached. -/
theorem receiveReadable_hs (C : Cfg) (hC : 0 < C.stepsMax) (P : HsP) (r : Bool) (data : Bytes) (rx : Nat)
    (hrx : 1 ≤ rx) (s : St Hs Chan) (hi : SideInv P r data (nf s)) (hin : 0 < s.w.inb r) :
    ∃ bs s', receiveReadable C (chanWorld r) (engine P) s rx = (.ok bs, s') ∧ SideInv P r data (nf s') ∧
      Tr P r s.e s.w s'.e s'.w ∧ (CanProg r s.e s.w → work P s'.e < work P s.e) ∧ Tight (nf s') ∧
      (3 ≤ s'.e.stage → s'.g.lastError = .none) := by
  have hfl : Fl r (prepReadable s) := ⟨rfl, fun _ => hin⟩
  obtain ⟨a, s1, hL, hR, _⟩ := ((flagFrame r).tlsRead C (engine P) (prepReadable s) rx hfl).cases
  have hnf : nf (prepReadable s) = setTimeout (nf (clr s)) 0 := rfl
  rw [hnf] at hR
  obtain ⟨bs, s2, e2, side2, t2, g2, tight2, fin2⟩ := tlsRead_hs C hC P r data rx hrx (nf (clr s)) (sideInv_clr P r data s hi)
  rw [e2] at hR
  obtain ⟨rfl, hs2⟩ := Prod.mk.inj hR
  have t2' : Tr P r s.e s.w s1.e s1.w := by
    have : Tr P r s.e s.w (nf s1).e (nf s1).w := by rw [← hs2]; exact t2
    exact this
  have g2' : CanProg r s.e s.w → work P s1.e < work P s.e := by
    intro h
    have : work P (nf s1).e < work P s.e := by rw [← hs2]; exact g2 h
    exact this
  simp only [receiveReadable, hL]
  cases bs with
  | nil =>
    simp only
    by_cases hf : (engine P).initFinished s1.e = true
    · rw [if_pos hf]
      refine ⟨[], _, rfl, ?_, t2', g2', ?_, fun _ => rfl⟩
      · have : nf (setLastError s1 .none) = setLastError (nf s1) .none := rfl
        rw [this, ← hs2]; exact sideInv_setNone P r data _ side2
      · intro hlt
        have h3 : 3 ≤ s1.e.stage := by simpa [engine] using hf
        exact absurd (show s1.e.stage < 3 from hlt) (by omega)
    · rw [if_neg hf]
      refine ⟨[], _, rfl, by rw [← hs2]; exact side2, t2', g2', by rw [← hs2]; exact tight2, ?_⟩
      intro h3
      exact absurd (by simpa [engine] using h3) hf
  | cons b bs =>
    simp only
    obtain ⟨f1, f2⟩ := fin2 (by simp)
    refine ⟨b :: bs, _, rfl, by rw [← hs2]; exact side2, t2', g2', by rw [← hs2]; exact tight2, ?_⟩
    intro _
    have : (nf s1).g.lastError = .none := by rw [← hs2]; exact f2
    exact this

/-! ### an asynchronous (driver-operated) SERVER and a polling synchronous client -/

/-- the asynchronous server `x` (driver-side state `x.a`, TLS glue and engine `x.s.g`, `x.s.e`; `x.s.w` are the two
channels), and the polling client -/
structure SysAS where
  x : ASt Hs Chan
  gp : Glue := {}
  ep : Hs
  /-- client calls, or driver steps, that ended with an exception or a failed assert -/
  faults : Nat := 0

/-- `drive` = one `Driver::Step` on the server's driver (`DriverQuery`, `poll`, at most one task);
`peer k` = the client calls `Send(dc, 0)` / `Receive(n, 0)` -/
inductive ActA where
  | drive
  | peer (k : Kind)
  deriving DecidableEq, Repr

/-- what `poll` reports for the server's descriptor: readable iff bytes towards the server are in flight, always
writable, never HUP/ERR (the channel is healthy) -/
def SysAS.rev (y : SysAS) : REvents := { rd := decide (0 < y.x.s.w.inb false), wr := true, hupErr := false }

def SysAS.step (C : Cfg) (P : HsP) (dc : Bytes) (rx : Nat) (y : SysAS) : ActA → SysAS
  | .drive =>
    let r := aTask C (chanWorld false) (engine P) rx (aQuery (engine P) y.x) y.rev
    { y with x := r.2, faults := y.faults + (if isOk r.1 then 0 else 1) }
  | .peer k =>
    let r := callOn C P true ⟨y.gp, y.ep, y.x.s.w⟩ (k.call dc)
    { y with gp := r.2.g, ep := r.2.e, x := { y.x with s := { y.x.s with w := r.2.w } },
             faults := y.faults + (if r.1 then 0 else 1) }

/-- `drive` is `aApply … (.step rev)` of `Model/Tls.lean` with the revents the channel dictates -/
theorem drive_is_aApply (C : Cfg) (P : HsP) (dc : Bytes) (rx : Nat) (y : SysAS) :
    (y.step C P dc rx .drive).x = aApply C (chanWorld false) (engine P) rx y.x (.step y.rev) := rfl

def SysAS.init (P : HsP) (segs : List Nat) : SysAS :=
  { x := { a := {}, s := ⟨{}, Hs.init P false, { segs := segs }⟩ }, ep := Hs.init P true }

def SysAS.run (C : Cfg) (P : HsP) (dc : Bytes) (rx : Nat) (l : List ActA) (y : SysAS) : SysAS :=
  l.foldl (SysAS.step C P dc rx) y

def SysAS.bothFinished (y : SysAS) : Prop := 3 ≤ y.ep.stage ∧ 3 ≤ y.x.s.e.stage

def ActA.okA : ActA → Prop
  | .drive => True
  | .peer k => k.ok

instance (a : ActA) : Decidable a.okA := by
  cases a <;> unfold ActA.okA <;> exact inferInstance

end SockModel.Hs
