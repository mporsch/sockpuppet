import SockModel.Model.Tls
import SockModel.Basic.GenEffects
/-
The model of the TLS glue's surroundings (`Tls.St σ ω`: the glue's fields, an abstract engine `Engine σ`, the OS
`Net.World ω`) as a `Gen.TlsWorld`, so that the member functions of `SocketTlsImpl` as generated from the C++ source
(Generated/Tls.lean) can be run on the state the hand-written Model/Tls.lean is defined on.  Hand-written,
independent of /repo.

* fields: `lastError` is its `SSL_ERROR_*` number (`codeOf` / `errOf`), `pendingSend = (off, len)` is that slice of
  the caller's buffer `buf`;
* the socket layer is Model/Net.lean's `recvNow`, `receive`, `sendNow`, `sendAll`, `sendTry`, `sendSome` on `s.w`
  (the ghost bookkeeping of `Tls.noteWrite` - `wire`, `bioWrites` - happens here, where the bytes are known); an
  exception of the socket layer is thrown (`toThrown`); the clock is `W.now` (ms) in ns, so that the generated
  `DeadlineLimited` arithmetic (ns, truncating division) meets the model's `remainingMs` (ms);
* libssl: one `SSL_read` / `SSL_write_ex` is one run of the engine's program by the model's `interp` (the callback
  plumbing: it calls the MODEL's `bioRead` / `bioWrite`, which is why `interp` itself is not tied) followed by the ghost
  `noteCall`; the answer is remembered for `SSL_get_error` (`TWSt.ans`), the plaintext of a read in `TWSt.rx` (also
  overwritten by the socket layer's receives, which hand their bytes to the BIO the same way).  `SSL_shutdown` is a run
  of `interp` too, but without `noteCall` and leaving `ans`, `rx` alone; `SslError()` yields -1, the code `toThrown`
  gives the model's `.sslError`;
* `doPoll`, `interrupted`, `send`, `recv` of `Gen.World` halt: the glue never calls them, so a tie of code that did
  would fail instead of holding for an empty reason.
-/
namespace SockModel.GenWorld
open SockModel SockModel.Net SockModel.Tls

def codeOf : SslErr → Int
  | .none => 0 | .ssl => 1 | .wantRead => 2 | .wantWrite => 3 | .syscall => 5 | .zeroReturn => 6

def errOf (c : Int) : SslErr :=
  if c = 1 then .ssl else if c = 2 then .wantRead else if c = 3 then .wantWrite else if c = 5 then .syscall
  else if c = 6 then .zeroReturn else .none

theorem errOf_codeOf (e : SslErr) : errOf (codeOf e) = e := by cases e <;> rfl

/-- a test of the `SSL_ERROR_*` number of `lastError` is a test of the model's `lastError` -/
theorem codeOf_eq_wantRead (e : SslErr) : codeOf e = 2 ↔ e = .wantRead := by cases e <;> decide
theorem codeOf_eq_wantWrite (e : SslErr) : codeOf e = 3 ↔ e = .wantWrite := by cases e <;> decide

/-- how a model exception travels through generated code (the message of a `logic_error` is not kept) -/
def toThrown : Exn → Gen.Thrown
  | .system n => ⟨.system_error, n⟩
  | .sslError => ⟨.system_error, -1⟩
  | .closed => ⟨.runtime_error, 0⟩
  | .logic _ => ⟨.logic_error, 0⟩

structure TWSt (σ ω : Type) where
  s : Tls.St σ ω
  ans : SslAns
  rx : Bytes

variable {σ ω : Type}

/-- the ghost bookkeeping of `Tls.noteWrite` and the outcome of a socket send -/
def noteSend (w : TWSt σ ω) (bs : Bytes) (r : SendRes ω) : Gen.Res Int × TWSt σ ω :=
  let g := { w.s.g with wire := w.s.g.wire ++ bs.take r.sent, bioWrites := ⟨bs, r.sent⟩ :: w.s.g.bioWrites }
  match r.exn with
  | some e => (.thrown (toThrown e), { w with s := { w.s with g := g, w := r.w } })
  | none => (.ok (r.sent : Int), { w with s := { w.s with g := g, w := r.w } })

def slice (buf : Bytes) (off len : Int) : Bytes := (buf.drop off.toNat).take len.toNat

theorem slice_length (buf : Bytes) (off len : Nat) (h : off + len ≤ buf.length) :
    (slice buf off len).length = len := by
  simp [slice]; omega

/-- the unsent rest as `Write` spells it: `data + size - remaining` bytes from `remaining`, with `data = 0` -/
theorem slice_drop (buf : Bytes) (off : Nat) :
    slice buf (off : Int) ((0 + (buf.length : Int)) - (off : Int)) = buf.drop off := by
  simp only [slice, Int.toNat_natCast]
  apply List.take_of_length_le
  simp only [List.length_drop]
  omega

def readRes (ans : SslAns) (out : Bytes) : Int :=
  match ans with
  | .done _ => (out.length : Int)
  | .zeroReturn => 0
  | _ => -1

theorem readRes_not_done {ans : SslAns} (out : Bytes) (hd : ans.isDone = false) :
    readRes ans out ≤ 0 ∧ (ans ≠ .zeroReturn → readRes ans out < 0) := by
  cases ans <;> simp [readRes, SslAns.isDone] at hd ⊢

def tlsWorld (W : Net.World ω) (E : Engine σ) (buf : Bytes) : Gen.TlsWorld (TWSt σ ω) where
  doPoll _ := Gen.M.halt
  interrupted := Gen.M.halt
  clockNow w := (.ok (W.now w.s.w * 1000000), w)
  send _ _ := Gen.M.halt
  recv _ := Gen.M.halt
  socketError w := (.ok 0, w)
  get_lastError w := (.ok (codeOf w.s.g.lastError), w)
  set_lastError c w := (.ok (), { w with s := setLastError w.s (errOf c) })
  get_remainingTime w := (.ok w.s.g.remainingTime, w)
  set_remainingTime t w := (.ok (), { w with s := setTimeout w.s t })
  get_isReadable w := (.ok w.s.g.isReadable, w)
  set_isReadable b w := (.ok (), { w with s := { w.s with g := { w.s.g with isReadable := b } } })
  get_isWritable w := (.ok w.s.g.isWritable, w)
  set_isWritable b w := (.ok (), { w with s := { w.s with g := { w.s.g with isWritable := b } } })
  get_driverSendSuppressed w := (.ok w.s.g.driverSendSuppressed, w)
  set_driverSendSuppressed b w := (.ok (), { w with s := { w.s with g := { w.s.g with driverSendSuppressed := b } } })
  set_pendingSend off len w := (.ok (), { w with s := setPending w.s (slice buf off len) })
  pendingErrorSet w := (.ok w.s.g.pendingError.isSome, w)
  rethrowPending w :=
    match w.s.g.pendingError with
    | some e => (.thrown (toThrown e), { w with s := { w.s with g := { w.s.g with pendingError := none } } })
    | none => (.halted, w)
  sockWaitReadable t w := (.ok (W.wait w.s.w .rd t).1, { w with s := { w.s with w := (W.wait w.s.w .rd t).2 } })
  sockWaitWritable t w := (.ok (W.wait w.s.w .wr t).1, { w with s := { w.s with w := (W.wait w.s.w .wr t).2 } })
  sockReceiveNow n w :=
    match recvNow W w.s.w n.toNat with
    | .got bs w' => (.ok (bs.length : Int), { w with s := { w.s with w := w' }, rx := bs })
    | .nothing w' => (.ok 0, { w with s := { w.s with w := w' }, rx := [] })
    | .exn e w' => (.thrown (toThrown e), { w with s := { w.s with w := w' } })
  sockReceive n t w :=
    match receive W w.s.w n.toNat t with
    | .got bs w' => (.ok (some (bs.length : Int)), { w with s := { w.s with w := w' }, rx := bs })
    | .nothing w' => (.ok none, { w with s := { w.s with w := w' }, rx := [] })
    | .exn e w' => (.thrown (toThrown e), { w with s := { w.s with w := w' } })
  sockSendNow off len w := noteSend w (slice buf off len) (sendNow W w.s.w (slice buf off len))
  sockSendAll off len w := noteSend w (slice buf off len) (sendAll W w.s.w (slice buf off len))
  sockSendTry off len w := noteSend w (slice buf off len) (sendTry W w.s.w (slice buf off len))
  sockSendSome off len now dl w :=
    match noteSend w (slice buf off len) (sendSome W w.s.w (slice buf off len) (dl / 1000000) (now / 1000000)).1 with
    | (.ok n, w') => (.ok (n, (sendSome W w.s.w (slice buf off len) (dl / 1000000) (now / 1000000)).2 * 1000000), w')
    | (.thrown e, w') => (.thrown e, w')
    | (.halted, w') => (.halted, w')
  sslRead n w :=
    match interp W w.s (E.sslRead w.s.e n.toNat) with
    | (.ok (ans, out), s1) => (.ok (readRes ans out), { s := noteCall E s1 true [] ans, ans := ans, rx := out })
    | (.exn e, s1) => (.thrown (toThrown e), { w with s := s1 })
    | (.abort _, s1) => (.halted, { w with s := s1 })
  sslWriteEx off len w :=
    match interp W w.s (E.sslWrite w.s.e (slice buf off len)) with
    | (.ok (ans, _), s1) =>
      (.ok (match ans with | .done k => (1, (k : Int)) | .zeroReturn => (0, 0) | _ => (-1, 0)),
       { w with s := noteCall E s1 false (slice buf off len) ans, ans := ans })
    | (.exn e, s1) => (.thrown (toThrown e), { w with s := s1 })
    | (.abort _, s1) => (.halted, { w with s := s1 })
  sslGetError _ w := (.ok (codeOf w.ans.toErr), w)
  sslIsInitFinished w := (.ok (if E.initFinished w.s.e then 1 else 0), w)
  sslPending w := (.ok (if E.pending w.s.e then 1 else 0), w)
  sslShutdown w :=
    match interp W w.s (E.sslShutdown w.s.e) with
    | (.ok (ans, _), s1) => (.ok (shutRes ans), { w with s := s1 })
    | (.exn e, s1) => (.thrown (toThrown e), { w with s := s1 })
    | (.abort _, s1) => (.halted, { w with s := s1 })
  sslError _ w := (.ok (-1), w)

/-! the fields of `tlsWorld`, one equation each: the proofs never unfold `tlsWorld`.  They are `simp` lemmas; the ties
name them in their `simp only` sets, the closing `simp [..]` calls reach them through the attribute. -/
@[simp] theorem tw_clockNow (W : Net.World ω) (E : Engine σ) (buf : Bytes) (w : TWSt σ ω) :
    (tlsWorld W E buf).toWorld.clockNow w = (.ok (W.now w.s.w * 1000000), w) := rfl
@[simp] theorem tw_socketError (W : Net.World ω) (E : Engine σ) (buf : Bytes) (w : TWSt σ ω) :
    (tlsWorld W E buf).toWorld.socketError w = (.ok 0, w) := rfl
@[simp] theorem tw_get_lastError (W : Net.World ω) (E : Engine σ) (buf : Bytes) (w : TWSt σ ω) :
    (tlsWorld W E buf).get_lastError w = (.ok (codeOf w.s.g.lastError), w) := rfl
@[simp] theorem tw_set_lastError (W : Net.World ω) (E : Engine σ) (buf : Bytes) (c : Int) (w : TWSt σ ω) :
    (tlsWorld W E buf).set_lastError c w = (.ok (), { w with s := setLastError w.s (errOf c) }) := rfl
@[simp] theorem tw_get_remainingTime (W : Net.World ω) (E : Engine σ) (buf : Bytes) (w : TWSt σ ω) :
    (tlsWorld W E buf).get_remainingTime w = (.ok w.s.g.remainingTime, w) := rfl
@[simp] theorem tw_set_remainingTime (W : Net.World ω) (E : Engine σ) (buf : Bytes) (t : Int) (w : TWSt σ ω) :
    (tlsWorld W E buf).set_remainingTime t w = (.ok (), { w with s := setTimeout w.s t }) := rfl
@[simp] theorem tw_get_isReadable (W : Net.World ω) (E : Engine σ) (buf : Bytes) (w : TWSt σ ω) :
    (tlsWorld W E buf).get_isReadable w = (.ok w.s.g.isReadable, w) := rfl
@[simp] theorem tw_set_isReadable (W : Net.World ω) (E : Engine σ) (buf : Bytes) (b : Bool) (w : TWSt σ ω) :
    (tlsWorld W E buf).set_isReadable b w = (.ok (), { w with s := { w.s with g := { w.s.g with isReadable := b } } }) := rfl
@[simp] theorem tw_get_isWritable (W : Net.World ω) (E : Engine σ) (buf : Bytes) (w : TWSt σ ω) :
    (tlsWorld W E buf).get_isWritable w = (.ok w.s.g.isWritable, w) := rfl
@[simp] theorem tw_set_isWritable (W : Net.World ω) (E : Engine σ) (buf : Bytes) (b : Bool) (w : TWSt σ ω) :
    (tlsWorld W E buf).set_isWritable b w = (.ok (), { w with s := { w.s with g := { w.s.g with isWritable := b } } }) := rfl
@[simp] theorem tw_get_driverSendSuppressed (W : Net.World ω) (E : Engine σ) (buf : Bytes) (w : TWSt σ ω) :
    (tlsWorld W E buf).get_driverSendSuppressed w = (.ok w.s.g.driverSendSuppressed, w) := rfl
@[simp] theorem tw_set_driverSendSuppressed (W : Net.World ω) (E : Engine σ) (buf : Bytes) (b : Bool) (w : TWSt σ ω) :
    (tlsWorld W E buf).set_driverSendSuppressed b w = (.ok (), { w with s := { w.s with g := { w.s.g with driverSendSuppressed := b } } }) := rfl
@[simp] theorem tw_set_pendingSend (W : Net.World ω) (E : Engine σ) (buf : Bytes) (off : Int) (len : Int) (w : TWSt σ ω) :
    (tlsWorld W E buf).set_pendingSend off len w = (.ok (), { w with s := setPending w.s (slice buf off len) }) := rfl
@[simp] theorem tw_pendingErrorSet (W : Net.World ω) (E : Engine σ) (buf : Bytes) (w : TWSt σ ω) :
    (tlsWorld W E buf).pendingErrorSet w = (.ok w.s.g.pendingError.isSome, w) := rfl
@[simp] theorem tw_rethrowPending (W : Net.World ω) (E : Engine σ) (buf : Bytes) (w : TWSt σ ω) :
    (tlsWorld W E buf).rethrowPending w =
    match w.s.g.pendingError with
    | some e => (.thrown (toThrown e), { w with s := { w.s with g := { w.s.g with pendingError := none } } })
    | none => (.halted, w) := rfl
@[simp] theorem tw_sockWaitReadable (W : Net.World ω) (E : Engine σ) (buf : Bytes) (t : Int) (w : TWSt σ ω) :
    (tlsWorld W E buf).sockWaitReadable t w = (.ok (W.wait w.s.w .rd t).1, { w with s := { w.s with w := (W.wait w.s.w .rd t).2 } }) := rfl
@[simp] theorem tw_sockWaitWritable (W : Net.World ω) (E : Engine σ) (buf : Bytes) (t : Int) (w : TWSt σ ω) :
    (tlsWorld W E buf).sockWaitWritable t w = (.ok (W.wait w.s.w .wr t).1, { w with s := { w.s with w := (W.wait w.s.w .wr t).2 } }) := rfl
@[simp] theorem tw_sockReceiveNow (W : Net.World ω) (E : Engine σ) (buf : Bytes) (n : Int) (w : TWSt σ ω) :
    (tlsWorld W E buf).sockReceiveNow n w =
    match recvNow W w.s.w n.toNat with
    | .got bs w' => (.ok (bs.length : Int), { w with s := { w.s with w := w' }, rx := bs })
    | .nothing w' => (.ok 0, { w with s := { w.s with w := w' }, rx := [] })
    | .exn e w' => (.thrown (toThrown e), { w with s := { w.s with w := w' } }) := rfl
@[simp] theorem tw_sockReceive (W : Net.World ω) (E : Engine σ) (buf : Bytes) (n : Int) (t : Int) (w : TWSt σ ω) :
    (tlsWorld W E buf).sockReceive n t w =
    match receive W w.s.w n.toNat t with
    | .got bs w' => (.ok (some (bs.length : Int)), { w with s := { w.s with w := w' }, rx := bs })
    | .nothing w' => (.ok none, { w with s := { w.s with w := w' }, rx := [] })
    | .exn e w' => (.thrown (toThrown e), { w with s := { w.s with w := w' } }) := rfl
@[simp] theorem tw_sockSendNow (W : Net.World ω) (E : Engine σ) (buf : Bytes) (off : Int) (len : Int) (w : TWSt σ ω) :
    (tlsWorld W E buf).sockSendNow off len w = noteSend w (slice buf off len) (sendNow W w.s.w (slice buf off len)) := rfl
@[simp] theorem tw_sockSendAll (W : Net.World ω) (E : Engine σ) (buf : Bytes) (off : Int) (len : Int) (w : TWSt σ ω) :
    (tlsWorld W E buf).sockSendAll off len w = noteSend w (slice buf off len) (sendAll W w.s.w (slice buf off len)) := rfl
@[simp] theorem tw_sockSendTry (W : Net.World ω) (E : Engine σ) (buf : Bytes) (off : Int) (len : Int) (w : TWSt σ ω) :
    (tlsWorld W E buf).sockSendTry off len w = noteSend w (slice buf off len) (sendTry W w.s.w (slice buf off len)) := rfl
@[simp] theorem tw_sockSendSome (W : Net.World ω) (E : Engine σ) (buf : Bytes) (off : Int) (len : Int) (now : Int) (dl : Int) (w : TWSt σ ω) :
    (tlsWorld W E buf).sockSendSome off len now dl w =
    match noteSend w (slice buf off len) (sendSome W w.s.w (slice buf off len) (dl / 1000000) (now / 1000000)).1 with
    | (.ok n, w') => (.ok (n, (sendSome W w.s.w (slice buf off len) (dl / 1000000) (now / 1000000)).2 * 1000000), w')
    | (.thrown e, w') => (.thrown e, w')
    | (.halted, w') => (.halted, w') := rfl
@[simp] theorem tw_sslRead (W : Net.World ω) (E : Engine σ) (buf : Bytes) (n : Int) (w : TWSt σ ω) :
    (tlsWorld W E buf).sslRead n w =
    match interp W w.s (E.sslRead w.s.e n.toNat) with
    | (.ok (ans, out), s1) => (.ok (readRes ans out), { s := noteCall E s1 true [] ans, ans := ans, rx := out })
    | (.exn e, s1) => (.thrown (toThrown e), { w with s := s1 })
    | (.abort _, s1) => (.halted, { w with s := s1 }) := rfl
@[simp] theorem tw_sslWriteEx (W : Net.World ω) (E : Engine σ) (buf : Bytes) (off : Int) (len : Int) (w : TWSt σ ω) :
    (tlsWorld W E buf).sslWriteEx off len w =
    match interp W w.s (E.sslWrite w.s.e (slice buf off len)) with
    | (.ok (ans, _), s1) =>
      (.ok (match ans with | .done k => (1, (k : Int)) | .zeroReturn => (0, 0) | _ => (-1, 0)),
       { w with s := noteCall E s1 false (slice buf off len) ans, ans := ans })
    | (.exn e, s1) => (.thrown (toThrown e), { w with s := s1 })
    | (.abort _, s1) => (.halted, { w with s := s1 }) := rfl
@[simp] theorem tw_sslGetError (W : Net.World ω) (E : Engine σ) (buf : Bytes) (r : Int) (w : TWSt σ ω) :
    (tlsWorld W E buf).sslGetError r w = (.ok (codeOf w.ans.toErr), w) := rfl
@[simp] theorem tw_sslIsInitFinished (W : Net.World ω) (E : Engine σ) (buf : Bytes) (w : TWSt σ ω) :
    (tlsWorld W E buf).sslIsInitFinished w = (.ok (if E.initFinished w.s.e then 1 else 0), w) := rfl
@[simp] theorem tw_sslPending (W : Net.World ω) (E : Engine σ) (buf : Bytes) (w : TWSt σ ω) :
    (tlsWorld W E buf).sslPending w = (.ok (if E.pending w.s.e then 1 else 0), w) := rfl
@[simp] theorem tw_sslShutdown (W : Net.World ω) (E : Engine σ) (buf : Bytes) (w : TWSt σ ω) :
    (tlsWorld W E buf).sslShutdown w =
    match interp W w.s (E.sslShutdown w.s.e) with
    | (.ok (ans, _), s1) => (.ok (shutRes ans), { w with s := s1 })
    | (.exn e, s1) => (.thrown (toThrown e), { w with s := s1 })
    | (.abort _, s1) => (.halted, { w with s := s1 }) := rfl
@[simp] theorem tw_sslError (W : Net.World ω) (E : Engine σ) (buf : Bytes) (c : Int) (w : TWSt σ ω) :
    (tlsWorld W E buf).sslError c w = (.ok (-1), w) := rfl

/-- `sockSendSome` turns ns into ms with `/` (the deadline arithmetic of the generated code truncates with `tdiv`): on
whole milliseconds it is exact too -/
theorem ediv_ns (x : Int) : x * 1000000 / 1000000 = x := Int.mul_ediv_cancel x (by decide)

/-- `SSL_write_ex` fails (returns 0 or -1, see `tw_sslWriteEx`) on every answer that is not `.done` -/
theorem sslWriteEx_res_nonpos {ans : SslAns} (hd : ans.isDone = false) :
    (match ans with | .done k => ((1 : Int), (k : Int)) | .zeroReturn => (0, 0) | _ => (-1, 0)).1 ≤ 0 := by
  cases ans <;> first | decide | cases hd

end SockModel.GenWorld
