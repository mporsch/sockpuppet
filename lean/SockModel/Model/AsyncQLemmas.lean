import SockModel.Model.AsyncQ
import SockModel.Basic.ListLemmas
/-! Invariant `QInv` of the async send pipeline (`Model/AsyncQ.lean`) and its preservation by every action;
`Ledger`: what the state of a future says about its id (shared with the UDP queue, `UdpLemmas`);
`Effect` / `step_effect`: what one action does to queue and futures; `Piece(s)`: the shape of the byte stream. -/
namespace SockModel.AsyncQ

def qids (q : List Elem) : List Nat := q.map (·.id)

/-- The promise ledger both send queues keep (the TCP `SendQ` here, the UDP `SendToQ` in `UdpLemmas`):
the ids popped so far have a resolved future, the queued ones a pending one, no other id has a future.
So the state of a future tells where its id is. -/
structure Ledger (fut : Nat → Fut) (dn qs : List Nat) : Prop where
  queued : ∀ i ∈ qs, fut i = .pending
  popped : ∀ i ∈ dn, (fut i).resolved = true
  other : ∀ i, i ∉ dn ++ qs → fut i = .none

theorem Ledger.resolved_iff {fut : Nat → Fut} {dn qs : List Nat} (l : Ledger fut dn qs) (id : Nat) :
    (fut id).resolved = true ↔ id ∈ dn := by
  refine ⟨fun hr => ?_, l.popped id⟩
  by_cases hd : id ∈ dn
  · exact hd
  · by_cases hq : id ∈ qs
    · rw [l.queued id hq] at hr; cases hr
    · rw [l.other id (by simp [hd, hq])] at hr; cases hr

theorem Ledger.pending_iff {fut : Nat → Fut} {dn qs : List Nat} (l : Ledger fut dn qs) (id : Nat) :
    fut id = .pending ↔ id ∈ qs := by
  refine ⟨fun hp => ?_, l.queued id⟩
  by_cases hq : id ∈ qs
  · exact hq
  · by_cases hd : id ∈ dn
    · have := l.popped id hd; rw [hp] at this; cases this
    · rw [l.other id (by simp [hd, hq])] at hp; cases hp

theorem Ledger.fresh {fut : Nat → Fut} {dn qs : List Nat} (l : Ledger fut dn qs) {id : Nat} (hn : fut id = .none) :
    id ∉ dn ++ qs := by
  intro hm
  rcases List.mem_append.mp hm with hm | hm
  · have := l.popped id hm; rw [hn] at this; cases this
  · have := l.queued id hm; rw [hn] at this; cases this

structure QInv (s : St) : Prop where
  enqd : s.enqd = s.done.map (fun d => (d.id, d.full)) ++ s.q.map (fun e => (e.id, e.full))
  wire : s.wire = (s.done.map (·.sent)).flatten ++ (s.q.map (·.sent)).flatten
  tail : ∀ e ∈ s.q.tail, e.sent = []
  ret  : s.returned = s.done.map (·.id)
  nodup : (s.enqd.map (·.1)).Nodup
  futq : ∀ e ∈ s.q, s.fut e.id = .pending
  futd : ∀ d ∈ s.done, s.fut d.id = d.how ∧ d.how.resolved = true ∧ (d.how = .value → d.dropped = [])
  futn : ∀ id, id ∉ s.enqd.map (·.1) → s.fut id = .none
  /-- no lost wake-up: work is queued only while `POLLOUT` is set or the producer that saw the empty queue is still on
  its way to `AsyncWantSend` -/
  armedInv : s.registered = true → s.q ≠ [] → s.armed = true ∨ s.pendingArm ≠ []
  /-- why an `enq` between `DriverOnWritable() == true` and the clearing of `POLLOUT` is safe: whatever was enqueued
  since the queue ran empty still has its `arm` pending, and `arm` waits for `stepMtx` -/
  disarmInv : s.drvDisarm = true →
    (s.q ≠ [] → s.pendingArm ≠ []) ∧ s.registered = true ∧ s.destroyed = false ∧ s.armed = true
  destr : s.destroyed = true → s.q = [] ∧ s.registered = false

theorem inv_init : QInv {} := by
  refine ⟨rfl, rfl, ?_, rfl, by simp, ?_, ?_, ?_, ?_, ?_, ?_⟩ <;> simp

/-- ids of the enqueued buffers = ids of the popped ones followed by the queued ones -/
theorem QInv.ids {s : St} (h : QInv s) :
    s.enqd.map (·.1) = s.done.map (·.id) ++ s.q.map (·.id) := by
  rw [h.enqd]; simp [List.map_append, Function.comp_def]

theorem QInv.done_ne_q {s : St} (h : QInv s) {d : Done} {e : Elem} (hd : d ∈ s.done) (he : e ∈ s.q) :
    d.id ≠ e.id :=
  (List.nodup_append.mp (h.ids ▸ h.nodup)).2.2 d.id (List.mem_map_of_mem hd) e.id (List.mem_map_of_mem he)

theorem QInv.q_nodup {s : St} (h : QInv s) : (s.q.map (·.id)).Nodup :=
  (List.nodup_append.mp (h.ids ▸ h.nodup)).2.1


theorem mem_tail_append_singleton {α} {q : List α} {e x : α} (h : x ∈ (q ++ [e]).tail) : x ∈ q.tail ∨ x = e := by
  cases q with
  | nil => simp at h
  | cons a as => simpa using h

theorem QInv.ledger {s : St} (h : QInv s) : Ledger s.fut (s.done.map (·.id)) (s.q.map (·.id)) := by
  refine ⟨?_, ?_, fun i hi => h.futn i (by rw [h.ids]; exact hi)⟩
  · intro i hi
    obtain ⟨e, he, rfl⟩ := List.mem_map.mp hi
    exact h.futq e he
  · intro i hi
    obtain ⟨d, hd, rfl⟩ := List.mem_map.mp hi
    rw [(h.futd d hd).1]; exact (h.futd d hd).2.1

/-- `upd` at an id without a future leaves every existing future alone -/
theorem upd_fresh {f : Nat → Fut} {id x : Nat} (hf : f id = .none) (v : Fut) (hx : f x ≠ .none) : upd f id v x = f x :=
  upd_other _ _ _ _ (fun h => hx (h ▸ hf))

theorem QInv.fresh {s : St} (h : QInv s) {id : Nat} (hn : s.fut id = .none) : id ∉ s.enqd.map (·.1) := by
  rw [h.ids]; exact h.ledger.fresh hn

theorem inv_enq {s : St} (h : QInv s) (t id : Nat) (bytes : Bytes) : QInv (step s (.enq t id bytes)) := by
  simp only [step]
  split
  · exact h
  · rename_i hc
    simp only [not_or, Decidable.not_not] at hc
    obtain ⟨hd, hf, ht⟩ := hc
    have hfresh := h.fresh hf
    refine ⟨?_, ?_, ?_, ?_, ?_, ?_, ?_, ?_, ?_, ?_, ?_⟩ <;> dsimp only
    · simp [h.enqd, Elem.full]
    · simp [h.wire]
    · intro e he
      rcases mem_tail_append_singleton he with he | rfl
      · exact h.tail e he
      · rfl
    · exact h.ret
    · simp only [List.map_append, List.map_cons, List.map_nil]
      exact nodup_snoc h.nodup hfresh
    · intro e he
      rcases List.mem_append.mp he with he | he
      · rw [upd_fresh hf _ (by rw [h.futq e he]; nofun)]; exact h.futq e he
      · rw [List.mem_singleton.mp he]; exact upd_same _ _ _
    · intro d hd'
      have hr := h.ledger.popped d.id (List.mem_map_of_mem hd')
      rw [upd_fresh hf _ (fun hn => by rw [hn] at hr; cases hr)]; exact h.futd d hd'
    · intro id' hid'
      simp only [List.map_append, List.map_cons, List.map_nil, List.mem_append, List.mem_singleton, not_or] at hid'
      rw [upd_other _ _ _ _ hid'.2]; exact h.futn id' hid'.1
    · intro hr _
      by_cases hq : s.q = []
      · right; simp [hq]
      · rcases h.armedInv hr hq with ha | hp
        · left; exact ha
        · right; simp [hq, hp]
    · intro hdis
      have := h.disarmInv hdis
      refine ⟨?_, this.2⟩
      intro _
      by_cases hq : s.q = []
      · simp [hq]
      · simp [hq, this.1 hq]
    · intro hdes
      simp [hd] at hdes


theorem flatten_sent_nil {l : List Elem} (h : ∀ e ∈ l, e.sent = []) : (l.map (·.sent)).flatten = [] := by
  simp only [List.flatten_eq_nil_iff, List.mem_map]
  rintro _ ⟨e, he, rfl⟩
  exact h e he

theorem inv_arm {s : St} (h : QInv s) (t : Nat) : QInv (step s (.arm t)) := by
  simp only [step]
  split
  · exact h
  · rename_i hc
    simp only [not_or, Decidable.not_not] at hc
    obtain ⟨hd, hdis, ht⟩ := hc
    refine { h with armedInv := ?_, disarmInv := ?_ } <;> dsimp only
    · intro hr _; left; simp [hr]
    · intro hdis'; exact absurd hdis' hdis

theorem inv_disarm {s : St} (h : QInv s) : QInv (step s .disarm) := by
  simp only [step]
  split
  · rename_i hdis
    have hi := h.disarmInv hdis
    refine { h with armedInv := ?_, disarmInv := ?_ } <;> dsimp only
    · intro _ hq; right; exact hi.1 hq
    · intro hf; cases hf
  · exact h

theorem inv_unregister {s : St} (h : QInv s) : QInv (step s .unregister) := by
  simp only [step]
  split
  · exact h
  · rename_i hc
    simp only [not_or] at hc
    refine { h with armedInv := ?_, disarmInv := ?_, destr := ?_ } <;> dsimp only
    · intro hf; cases hf
    · intro hdis; exact absurd hdis hc.2
    · intro hdes; exact absurd hdes hc.1

theorem inv_destroy {s : St} (h : QInv s) : QInv (step s .destroy) := by
  simp only [step]
  split
  · exact h
  · rename_i hc
    simp only [not_or] at hc
    refine ⟨?_, ?_, ?_, ?_, h.nodup, ?_, ?_, ?_, ?_, ?_, ?_⟩ <;> dsimp only
    · rw [h.enqd]; simp [Done.full, Elem.full, Function.comp_def]
    · rw [h.wire]; simp [Function.comp_def]
    · intro e he; simp at he
    · rw [h.ret]; simp
    · intro e he; simp at he
    · intro d hd
      rcases List.mem_append.mp hd with hd | hd
      · have hr := h.ledger.popped d.id (List.mem_map_of_mem hd)
        rw [if_neg (fun hp => by rw [hp] at hr; cases hr)]; exact h.futd d hd
      · obtain ⟨e, he, rfl⟩ := List.mem_map.mp hd
        simp [h.futq e he, Fut.resolved]
    · intro id hid
      rw [h.futn id hid]; simp
    · intro hf; cases hf
    · intro hdis; exact absurd hdis hc.2
    · intro _; exact ⟨rfl, rfl⟩

theorem inv_writable {s : St} (h : QInv s) (a : Ans) : QInv (step s (.writable a)) := by
  simp only [step]
  split
  · exact h
  · rename_i hc
    simp only [not_or, Decidable.not_not] at hc
    obtain ⟨hdes, hreg, harm, hdis⟩ := hc
    split
    · rename_i hq
      refine { h with disarmInv := ?_ }
      intro _
      exact ⟨fun hne => absurd hq hne, hreg, by simpa using hdes, harm⟩
    · rename_i e rest hq
      have htl : ∀ x ∈ rest, x.sent = [] := by
        intro x hx; apply h.tail; rw [hq]; exact hx
      have hwire : s.wire = (s.done.map (·.sent)).flatten ++ e.sent := by
        rw [h.wire, hq]; simp [flatten_sent_nil htl]
      have hemem : e ∈ s.q := by rw [hq]; simp
      have hrest : ∀ x ∈ rest, x ∈ s.q := by intro x hx; rw [hq]; simp [hx]
      have hne : ∀ x ∈ rest, x.id ≠ e.id := by
        intro x hx
        have := h.q_nodup
        rw [hq] at this
        simp only [List.map_cons, List.nodup_cons, List.mem_map, not_exists, not_and] at this
        exact this.1 x hx
      have heid : e.id ∈ s.enqd.map (·.1) := by
        rw [h.ids]; exact List.mem_append_right _ (List.mem_map_of_mem hemem)
      -- the pop with resolution `how`
      have pop : ∀ (how : Fut) (snt drp : Bytes) (w : Bytes), how.resolved = true → (how = .value → drp = []) →
          snt ++ drp = e.full → w = (s.done.map (·.sent)).flatten ++ snt →
          QInv { s with q := rest, wire := w, fut := upd s.fut e.id how, returned := s.returned ++ [e.id],
                        done := s.done ++ [⟨e.id, snt, drp, how⟩], drvDisarm := rest.isEmpty } := by
        intro how snt drp w hres hval hfull hw
        refine ⟨?_, ?_, ?_, ?_, h.nodup, ?_, ?_, ?_, ?_, ?_, ?_⟩ <;> dsimp only
        · rw [h.enqd, hq]; simp [Done.full, hfull]
        · rw [hw]; simp [flatten_sent_nil htl]
        · intro x hx; exact htl x (List.mem_of_mem_tail hx)
        · rw [h.ret]; simp
        · intro x hx
          rw [upd_other _ _ _ _ (hne x hx)]; exact h.futq x (hrest x hx)
        · intro d hd
          rcases List.mem_append.mp hd with hd | hd
          · rw [upd_other _ _ _ _ (h.done_ne_q hd hemem)]; exact h.futd d hd
          · simp only [List.mem_singleton] at hd; subst hd
            exact ⟨by simp, hres, hval⟩
        · intro id hid
          have : id ≠ e.id := by intro heq; subst heq; exact hid heid
          rw [upd_other _ _ _ _ this]; exact h.futn id hid
        · intro _ _; left; exact harm
        · intro hemp
          refine ⟨?_, hreg, by simpa using hdes, harm⟩
          intro hne'; simp at hemp; exact absurd hemp hne'
        · intro hd'; exact absurd hd' hdes
      cases a with
      | accept k =>
        simp only [driverSend]
        split
        · exact pop .value (e.sent ++ e.rest) [] (s.wire ++ e.rest) rfl (fun _ => rfl) (by simp [Elem.full])
            (by rw [hwire]; simp)
        · split
          · exact h
          · refine { h with enqd := ?_, wire := ?_, tail := ?_, futq := ?_, armedInv := ?_, disarmInv := ?_,
                             destr := ?_ } <;> dsimp only
            · rw [h.enqd, hq]; simp [Elem.full]
            · rw [hwire]; simp [flatten_sent_nil htl]
            · intro x hx; exact htl x hx
            · intro x hx
              simp only [List.mem_cons] at hx
              rcases hx with rfl | hx
              · exact h.futq e hemem
              · exact h.futq x (hrest x hx)
            · intro _ _; left; exact harm
            · intro hd'; exact absurd hd' hdis
            · intro hd'; exact absurd hd' hdes
      | fail =>
        simp only [driverSend]
        exact pop .exn e.sent e.rest s.wire rfl (fun hv => by cases hv) rfl hwire

theorem inv_step {s : St} (h : QInv s) (a : Action) : QInv (step s a) := by
  cases a with
  | enq t id b => exact inv_enq h t id b
  | arm t => exact inv_arm h t
  | writable a => exact inv_writable h a
  | disarm => exact inv_disarm h
  | unregister => exact inv_unregister h
  | destroy => exact inv_destroy h


theorem inv_run {s : St} (h : QInv s) (acts : List Action) : QInv (run s acts) := by
  induction acts generalizing s with
  | nil => exact h
  | cons a as ih => exact ih (inv_step h a)

/-- the piece of the byte stream that belongs to one enqueued buffer `e = (id, bytes)`:
a prefix of the buffer, and the whole buffer unless its future carries an exception or is broken -/
def Piece (fut : Nat → Fut) (e : Nat × Bytes) (x : Bytes) : Prop :=
  x <+: e.2 ∧ (fut e.1 = .pending ∨ fut e.1 = .value → x = e.2)

inductive Pieces (fut : Nat → Fut) : List (Nat × Bytes) → List Bytes → Prop where
  | nil : Pieces fut [] []
  | cons {e x es xs} : Piece fut e x → Pieces fut es xs → Pieces fut (e :: es) (x :: xs)

theorem Pieces.append {fut} {l₁ l₂ : List (Nat × Bytes)} {m₁ m₂ : List Bytes}
    (h₁ : Pieces fut l₁ m₁) (h₂ : Pieces fut l₂ m₂) : Pieces fut (l₁ ++ l₂) (m₁ ++ m₂) := by
  induction h₁ with
  | nil => exact h₂
  | cons h _ ih => exact Pieces.cons h ih

theorem Pieces.map {α} {fut} (f : α → Nat × Bytes) (g : α → Bytes) (l : List α)
    (h : ∀ a ∈ l, Piece fut (f a) (g a)) : Pieces fut (l.map f) (l.map g) := by
  induction l with
  | nil => exact Pieces.nil
  | cons a as ih =>
    exact Pieces.cons (h a (by simp)) (ih (fun x hx => h x (by simp [hx])))

theorem pieces_done {s : St} (h : QInv s) (l : List Done) (hl : ∀ d ∈ l, d ∈ s.done) :
    Pieces s.fut (l.map (fun d => (d.id, d.full))) (l.map (·.sent)) := by
  apply Pieces.map
  intro d hd
  have hdd := h.futd d (hl d hd)
  refine ⟨⟨d.dropped, rfl⟩, ?_⟩
  intro hf
  dsimp only at hf ⊢
  rw [hdd.1] at hf
  rcases hf with hf | hf
  · have := hdd.2.1; rw [hf] at this; simp [Fut.resolved] at this
  · simp [Done.full, hdd.2.2 hf]

theorem q_stream {q : List Elem} (h : ∀ e ∈ q.tail, e.sent = []) :
    (q.map (·.sent)).flatten ++ (q.map (·.rest)).flatten = (q.map (·.full)).flatten := by
  cases q with
  | nil => rfl
  | cons e r =>
    have hr : ∀ x ∈ r, x.sent = [] := h
    have h1 : (r.map (·.sent)).flatten = [] := flatten_sent_nil hr
    have h2 : r.map (·.full) = r.map (·.rest) := by
      apply List.map_congr_left
      intro x hx; simp [Elem.full, hr x hx]
    simp only [List.map_cons, List.flatten_cons, h1, h2]
    simp [Elem.full]

theorem resolved_in_done {s : St} (h : QInv s) {id : Nat} (hr : (s.fut id).resolved = true) :
    ∃ d ∈ s.done, d.id = id :=
  List.mem_map.mp ((h.ledger.resolved_iff id).mp hr)

theorem QInv.returned_iff {s : St} (h : QInv s) (id : Nat) : id ∈ s.returned ↔ (s.fut id).resolved = true := by
  rw [h.ret]; exact (h.ledger.resolved_iff id).symm

theorem pending_in_q {s : St} (h : QInv s) {id : Nat} (hp : s.fut id = .pending) : ∃ e ∈ s.q, e.id = id :=
  List.mem_map.mp ((h.ledger.pending_iff id).mp hp)

theorem writable_enabled {m : St} (a : Ans) (hd : m.destroyed = false) (hr : m.registered = true)
    (ha : m.armed = true) (hdis : m.drvDisarm = false) :
    step m (.writable a) = match m.q with
      | [] => { m with drvDisarm := true }
      | e :: rest => driverSend m e rest a := by
  simp only [step]
  rw [if_neg (by simp [hd, hr, ha, hdis])]
  cases m.q <;> rfl

theorem destroy_eq {m : St} (hd : m.destroyed = false) (hdis : m.drvDisarm = false) :
    step m .destroy =
      { m with destroyed := true, registered := false, armed := false, q := [],
               fut := fun i => if m.fut i = .pending then .broken else m.fut i,
               returned := m.returned ++ m.q.map (·.id),
               done := m.done ++ m.q.map (fun e => ⟨e.id, e.sent, e.rest, .broken⟩), pendingArm := [] } := by
  simp [step, hd, hdis]

theorem unregister_eq {m : St} (hd : m.destroyed = false) (hdis : m.drvDisarm = false) :
    step m .unregister = { m with registered := false, armed := false } := by
  simp [step, hd, hdis]

theorem step_disarm_fields (s : St) :
    (step s .disarm).drvDisarm = false ∧ (step s .disarm).q = s.q ∧ (step s .disarm).wire = s.wire ∧
    (step s .disarm).fut = s.fut ∧ (step s .disarm).returned = s.returned ∧ (step s .disarm).enqd = s.enqd ∧
    (step s .disarm).registered = s.registered ∧ (step s .disarm).destroyed = s.destroyed ∧
    (step s .disarm).pendingArm = s.pendingArm := by
  simp only [step]
  split
  · simp
  · rename_i h
    simp at h
    simp [h]

theorem driverSend_frame (s : St) (e : Elem) (rest : List Elem) (a : Ans) :
    (driverSend s e rest a).pendingArm = s.pendingArm ∧ (driverSend s e rest a).registered = s.registered ∧
    (driverSend s e rest a).destroyed = s.destroyed ∧ (driverSend s e rest a).enqd = s.enqd := by
  cases a with
  | fail => exact ⟨rfl, rfl, rfl, rfl⟩
  | accept k =>
    simp only [driverSend]
    split
    · exact ⟨rfl, rfl, rfl, rfl⟩
    · split <;> exact ⟨rfl, rfl, rfl, rfl⟩

theorem upd_eq_cases {f : Nat → Fut} {j id : Nat} {v x : Fut} (h : upd f j v id = x) :
    f id = x ∨ (id = j ∧ v = x) := by
  by_cases hi : id = j
  · subst hi; rw [upd_same] at h; exact .inr ⟨rfl, h⟩
  · rw [upd_other _ _ _ _ hi] at h; exact .inl h

/-- what one action does to the queue and to the futures: nothing else moves a buffer or a future -/
inductive Effect (s : St) : Action → List Elem → (Nat → Fut) → Prop where
  | idle (a : Action) : Effect s a s.q s.fut
  | push (t id : Nat) (b : Bytes) : s.fut id = .none →
      Effect s (.enq t id b) (s.q ++ [⟨id, [], b⟩]) (upd s.fut id .pending)
  | sent {e : Elem} {rest : List Elem} (k : Nat) : s.q = e :: rest → e.rest.length ≤ k →
      Effect s (.writable (.accept k)) rest (upd s.fut e.id .value)
  | failed {e : Elem} {rest : List Elem} : s.q = e :: rest →
      Effect s (.writable .fail) rest (upd s.fut e.id .exn)
  | part {e : Elem} {rest : List Elem} (k : Nat) : s.q = e :: rest → k < e.rest.length →
      Effect s (.writable (.accept k))
        ({ e with sent := e.sent ++ e.rest.take k, rest := e.rest.drop k } :: rest) s.fut
  | destroy : Effect s .destroy [] (fun i => if s.fut i = .pending then .broken else s.fut i)

theorem step_effect (s : St) (a : Action) : Effect s a (step s a).q (step s a).fut := by
  cases a with
  | enq t id b =>
    simp only [step]
    split
    · exact .idle _
    · rename_i hc
      simp only [not_or, Decidable.not_not] at hc
      exact .push t id b hc.2.1
  | arm t => simp only [step]; split <;> exact .idle _
  | disarm => simp only [step]; split <;> exact .idle _
  | unregister => simp only [step]; split <;> exact .idle _
  | destroy => simp only [step]; split <;> first | exact .idle _ | exact .destroy
  | writable an =>
    simp only [step]
    split
    · exact .idle _
    · split
      · exact .idle _
      · rename_i e rest hq
        cases an with
        | fail => exact .failed hq
        | accept k =>
          simp only [driverSend]
          split
          · rename_i hk; exact .sent k hq hk
          · split
            · exact .idle _
            · rename_i hk _; exact .part k hq (Nat.lt_of_not_le hk)

/-- a resolved future is never touched again: `enq` needs a fresh id, the driver resolves the front
element, which is pending, and `destroy` breaks pending futures only -/
theorem fut_stable_step {s : St} (h : QInv s) (a : Action) (id : Nat) (hr : (s.fut id).resolved = true) :
    (step s a).fut id = s.fut id := by
  have front : ∀ {e rest}, s.q = e :: rest → id ≠ e.id := by
    intro e rest hq heq
    rw [heq, h.futq e (by rw [hq]; exact List.mem_cons_self)] at hr; cases hr
  have he := step_effect s a
  generalize (step s a).fut = f, (step s a).q = q at he
  cases he with
  | idle | part => rfl
  | push t i b hn => exact upd_other _ _ _ _ (fun heq => by rw [heq, hn] at hr; cases hr)
  | sent k hq => exact upd_other _ _ _ _ (front hq)
  | failed hq => exact upd_other _ _ _ _ (front hq)
  | destroy => exact if_neg (fun hp => by rw [hp] at hr; cases hr)

theorem fut_stable_run {s : St} (h : QInv s) (acts : List Action) (id : Nat) (hr : (s.fut id).resolved = true) :
    (run s acts).fut id = s.fut id := by
  induction acts generalizing s with
  | nil => rfl
  | cons a as ih =>
    have h1 := fut_stable_step h a id hr
    exact (ih (inv_step h a) (by rw [h1]; exact hr)).trans h1

theorem destroyed_stuck {s : St} (h : QInv s) (hd : s.destroyed = true) (a : Action) : step s a = s := by
  have hdis : s.drvDisarm = false := by
    cases hx : s.drvDisarm with
    | false => rfl
    | true => have := (h.disarmInv hx).2.2.1; rw [hd] at this; cases this
  cases a <;> simp [step, hd, hdis]

theorem run_destroyed {s : St} (h : QInv s) (hd : s.destroyed = true) (acts : List Action) : run s acts = s := by
  induction acts with
  | nil => rfl
  | cons a as ih => simp only [run, List.foldl_cons]; rw [destroyed_stuck h hd a]; exact ih

end SockModel.AsyncQ
