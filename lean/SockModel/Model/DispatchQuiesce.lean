import SockModel.Model.DispatchLemmas
/-!
Data-level quiescence of the dispatch model (used by C04): once a socket has been
unregistered (`~SocketAsyncImpl` → `AsyncUnregister`, or the library's own `DriverDisconnect`),
no later operation of ANY history appends a handler invocation of that socket to the log.

`Gone s i`: socket `i` was registered at some time and is not registered now.  Socket ids are
never reused (`DInv.idsLt`, `DInv.blFresh`), so `Gone` is stable, and every handler invocation is
appended for a socket that is registered at that moment.
-/
namespace SockModel.Dispatch

def Gone (s : St) (i : Nat) : Prop := i ∈ s.created.map (·.id) ∧ i ∉ s.socks.map (·.id)

/-- the handler invocations of socket `i` in a log -/
def evOf (i : Nat) (l : List Event) : List Event := l.filter (fun e => e.sock = i)

theorem evOf_append_ne {i : Nat} (l : List Event) {e : Event} (h : e.sock ≠ i) : evOf i (l ++ [e]) = evOf i l := by
  simp [evOf, List.filter_append, h]

theorem gone_of_sublist {s s' : St} {i : Nat} (hc : s'.created = s.created) (hs : s'.socks.Sublist s.socks)
    (h : Gone s i) : Gone s' i := by
  refine ⟨hc ▸ h.1, fun hm => h.2 ?_⟩
  exact (hs.map (·.id)).subset hm

theorem gone_destroyAll {s : St} {i : Nat} (ids : List Nat) (h : Gone s i) : Gone (destroyAll s ids) i :=
  gone_of_sublist (destroyAll_created s ids) (by rw [destroyAll_socks]; exact List.filter_sublist) h

theorem gone_append {s s' : St} {i : Nat} (hg : Gone s i) {new : Sock} (hne : new.id ≠ i)
    (hc : s'.created = s.created ++ [new]) (hs : s'.socks = s.socks ++ [new]) : Gone s' i := by
  refine ⟨?_, ?_⟩
  · rw [hc, List.map_append]; exact List.mem_append_left _ hg.1
  · rw [hs, List.map_append, List.mem_append, List.map_cons, List.map_nil, List.mem_singleton]
    rintro (hm | hm)
    · exact hg.2 hm
    · exact hne hm.symm

theorem id_ne_of_mem {s : St} {i : Nat} (h : Gone s i) {k : Sock} (hk : k ∈ s.socks) : k.id ≠ i := by
  intro he
  exact h.2 (List.mem_map.mpr ⟨k, hk, he⟩)

theorem doTask_gone {order : List Nat} {s : St} (h : DInv s) {i : Nat} (hg : Gone s i) {k : Sock} (hk : k ∈ s.socks)
    {t : Task} (hp : pick order (s.revents k) = some t) (chunk rx : Nat) (hdl : List Nat) :
    Gone (doTask s k t chunk rx hdl) i ∧ evOf i (doTask s k t chunk rx hdl).log = evOf i s.log := by
  have hne := id_ne_of_mem hg hk
  -- the handler runs in a state `s1` where `i` is gone and whose log has one more event, of `k`
  have handler : ∀ {s1 : St} (e : Event), Gone s1 i → s1.log = s.log ++ [e] → e.sock = k.id →
      Gone (destroyAll s1 hdl) i ∧ evOf i (destroyAll s1 hdl).log = evOf i s.log := by
    intro s1 e hg1 hlog he
    refine ⟨gone_destroyAll hdl hg1, ?_⟩
    rw [destroyAll_log, hlog]
    exact evOf_append_ne _ (he ▸ hne)
  have disc : ∀ r, Gone (disconnected s k r) i :=
    fun r => gone_of_sublist (s := s) rfl List.filter_sublist hg
  refine doTask_cases (motive := fun s' => Gone s' i ∧ evOf i s'.log = evOf i s.log) hp chunk rx hdl
    (fun _ _ _ => ⟨hg, rfl⟩) (fun _ _ _ _ r => handler _ (disc r) rfl rfl)
    (fun _ _ _ => handler _ (disc _) rfl rfl) (fun _ _ n _ _ _ => handler _ hg rfl rfl) ?_
  intro _ _ c addr rest hb
  have hfresh := (h.blFresh k.id (c, addr) (by rw [hb]; exact List.mem_cons_self)).2
  exact handler _ (gone_append hg (fun (he : c = i) => hfresh (he ▸ hg.1)) rfl rfl) rfl rfl

/-- one operation of any kind: `i` stays gone and its handler log does not grow -/
theorem apply_gone {order : List Nat} {s : St} (h : DInv s) {i : Nat} (hg : Gone s i) (op : Op) :
    Gone (apply order s op) i ∧ evOf i (apply order s op).log = evOf i s.log := by
  have newSock : ∀ new : Sock, new.id = s.nextId →
      Gone { s with socks := s.socks ++ [new], created := s.created ++ [new], nextId := s.nextId + 1 } i :=
    fun new hid => gone_append hg (hid ▸ Nat.ne_of_gt (lt_of_mem_created h hg.1)) rfl rfl
  cases op with
  | newClient | newAcceptor => exact ⟨newSock _ rfl, rfl⟩
  | peerConnect | peerSend | wantSend => simp only [apply]; split <;> exact ⟨hg, rfl⟩
  | peerClose | peerRst => exact ⟨hg, rfl⟩
  | destroy j => exact ⟨gone_of_sublist (s := s) rfl List.filter_sublist hg, rfl⟩
  | step pipe chunk rx hdl =>
    exact stepSockets_cases (motive := fun s' => Gone s' i ∧ evOf i s'.log = evOf i s.log) pipe chunk rx hdl
      ⟨hg, rfl⟩ fun _ _ hk hp => doTask_gone h hg hk hp chunk rx hdl

/-- any continuation: `i` stays gone and none of its handlers is ever invoked again -/
theorem run_gone {order : List Nat} {s : St} (h : DInv s) {i : Nat} (hg : Gone s i) (ops : List Op) :
    Gone (run order s ops) i ∧ evOf i (run order s ops).log = evOf i s.log := by
  induction ops generalizing s with
  | nil => exact ⟨hg, rfl⟩
  | cons op ops ih =>
    have h1 := apply_gone (order := order) h hg op
    have := ih (inv_apply h op) h1.1
    simp only [run, List.foldl_cons] at this ⊢
    exact ⟨this.1, this.2.trans h1.2⟩

/-- destroying a registered socket (outside a handler) makes it gone -/
theorem gone_after_destroy {order : List Nat} {s : St} (h : DInv s) {i : Nat} (hi : i ∈ s.socks.map (·.id)) :
    Gone (apply order s (.destroy i)) i := by
  obtain ⟨k, hk, rfl⟩ := List.mem_map.mp hi
  refine ⟨List.mem_map.mpr ⟨k, h.sub k hk, rfl⟩, ?_⟩
  simp only [apply, unregister_socks, List.mem_map, List.mem_filter]
  rintro ⟨x, ⟨_, hx⟩, hxe⟩
  simp [hxe] at hx

end SockModel.Dispatch
