import SockModel.Model.Fd
/-!
Ownership calculus for `Model/Fd.lean`.

`SpOn own m R` ("m keeps the ledger, given that it owns `own`"): from every well-formed ledger whose live list
ends in `own`, and under every fault oracle,
* if `m` returns `a`, the live list now ends in some `new` instead of `own`, and `R a new n` holds, where `n` is
  the number of calls made by `m` that the oracle failed;
* if `m` throws, `own` is gone as well: everything `m` owned or opened has been closed;
* in both cases nothing was closed twice and nothing foreign was closed.
`Sp m R` is the case `own = []`: what `m` opens is appended, a throwing `m` leaves the live list as it was.
(`Sp` = specification of a program, `SpOn` = the same for a program that owns descriptors.)
-/
namespace SockModel.Fd

structure WF (L : Ledger) : Prop where
  nodup : L.live.Nodup
  below : ∀ x ∈ L.live, x < L.next
  noTwice : L.closedTwice = false
  noForeign : L.closedForeign = false

theorem WF.init : WF {} := ⟨List.nodup_nil, fun _ h => (nomatch h), rfl, rfl⟩

variable {α β : Type}

def SpOn (own : List Fd) (m : M α) (R : α → List Fd → Nat → Prop) : Prop :=
  ∀ (o : Oracle) (L : Ledger) (base : List Fd), WF L → L.live = base ++ own → ∀ r L', m o L = (r, L') →
    WF L' ∧ L.next ≤ L'.next ∧ ∃ n, L'.nfault = L.nfault + n ∧
    match r with
    | .ok a => ∃ new, L'.live = base ++ new ∧ R a new n
    | .error _ => L'.live = base

abbrev Sp (m : M α) (R : α → List Fd → Nat → Prop) : Prop := SpOn [] m R

/-- opens nothing, and returning normally means that no call failed (unrelated to `Fd.quiet`, which runs a
program outside the trace) -/
abbrev Quiet (m : M α) : Prop := Sp m (fun _ new n => new = [] ∧ n = 0)

theorem Sp.run {m : M α} {R : α → List Fd → Nat → Prop} (h : Sp m R) {o : Oracle} {L L' : Ledger}
    {r : Except Exn α} (hL : WF L) (hrun : m o L = (r, L')) :
    WF L' ∧ L.next ≤ L'.next ∧ ∃ n, L'.nfault = L.nfault + n ∧
    match (generalizing := false) r with
    | .ok a => ∃ new, L'.live = L.live ++ new ∧ R a new n
    | .error _ => L'.live = L.live :=
  h o L L.live hL (List.append_nil _).symm r L' hrun

theorem bind_run (m : M α) (k : α → M β) (o : Oracle) (L : Ledger) :
    (m >>= k) o L = match m o L with
      | (.ok a, L') => k a o L'
      | (.error e, L') => (.error e, L') := rfl

theorem pure_run (a : α) (o : Oracle) (L : Ledger) : (pure a : M α) o L = (.ok a, L) := rfl

theorem SpOn.weaken {own : List Fd} {m : M α} {R R' : α → List Fd → Nat → Prop}
    (h : SpOn own m R) (hw : ∀ a new n, R a new n → R' a new n) : SpOn own m R' := by
  intro o L base hL hl r L' hrun
  obtain ⟨h1, h2, n, h3, h4⟩ := h o L base hL hl r L' hrun
  refine ⟨h1, h2, n, h3, ?_⟩
  cases r with
  | error e => exact h4
  | ok a =>
    obtain ⟨new, h5, h6⟩ := h4
    exact ⟨new, h5, hw _ _ _ h6⟩

theorem SpOn_pure {own : List Fd} {R : α → List Fd → Nat → Prop} (a : α) (h : R a own 0) :
    SpOn own (pure a : M α) R := by
  intro o L base hL hl r L' hrun
  cases hrun
  exact ⟨hL, Nat.le_refl _, 0, rfl, own, hl, h⟩

/-- only a program that owns nothing may throw -/
theorem Sp_raise (e : Exn) (R : α → List Fd → Nat → Prop) : Sp (raise e : M α) R := by
  intro o L base hL hl r L' hrun
  cases hrun
  exact ⟨hL, Nat.le_refl _, 0, rfl, hl.trans (List.append_nil _)⟩

theorem Sp_sys (c : Sys) (fd : Option Fd) :
    Sp (sys c fd) (fun r new n => new = [] ∧ n = if r.isSome then 1 else 0) := by
  intro o L base hL hl r L' hrun
  cases hrun
  exact ⟨⟨hL.nodup, hL.below, hL.noTwice, hL.noForeign⟩, Nat.le_refl _, _, rfl, [], hl, rfl, rfl⟩

/-- sequencing: what the first part leaves open is owned by the continuation -/
theorem SpOn_bind {own : List Fd} {m : M α} {k : α → M β} {R1 : α → List Fd → Nat → Prop}
    {R : β → List Fd → Nat → Prop} (hm : SpOn own m R1)
    (hk : ∀ a new1 n1, R1 a new1 n1 → SpOn new1 (k a) (fun b new n => R b new (n + n1))) :
    SpOn own (m >>= k) R := by
  intro o L base hL hl r L' hrun
  rw [bind_run] at hrun
  cases h1 : m o L with
  | mk r1 L1 =>
    rw [h1] at hrun
    obtain ⟨w1, x1, n1, f1, p1⟩ := hm o L base hL hl r1 L1 h1
    cases r1 with
    | error e =>
      cases hrun
      exact ⟨w1, x1, n1, f1, p1⟩
    | ok a =>
      obtain ⟨new1, l1, q1⟩ := p1
      obtain ⟨w2, x2, n2, f2, p2⟩ := hk a new1 n1 q1 o L1 base w1 l1 r L' hrun
      exact ⟨w2, Nat.le_trans x1 x2, n2 + n1, by rw [f2, f1, Nat.add_assoc, Nat.add_comm n1], p2⟩

theorem Sp_seq {m : M α} {k : α → M β} {R : β → List Fd → Nat → Prop}
    (hm : Quiet m) (hk : ∀ a, Sp (k a) R) : Sp (m >>= k) R :=
  SpOn_bind hm fun a _ _ h => by rw [h.1, h.2]; exact hk a

/-- a failed call counts, whatever follows -/
theorem Sp_sys_bind {c : Sys} {fd : Option Fd} {k : Option Errno → M β} {R : β → List Fd → Nat → Prop}
    (hf : ∀ e, Sp (k (some e)) (fun b new n => R b new (n + 1))) (hn : Sp (k none) R) : Sp (sys c fd >>= k) R :=
  SpOn_bind (Sp_sys c fd) fun f _ _ h => by
    rw [h.1, h.2]
    cases f with
    | some e => exact hf e
    | none => exact hn

theorem SpOn_tryM {own : List Fd} {m : M α} {R : α → List Fd → Nat → Prop} (h : SpOn own m R) :
    SpOn own (tryM m) (fun r new n => match r with | .ok a => R a new n | .error _ => new = []) := by
  intro o L base hL hl r L' hrun
  unfold tryM at hrun
  cases h2 : m o L with
  | mk r2 L2 =>
    rw [h2] at hrun
    cases hrun
    obtain ⟨w, x, n, f, p⟩ := h o L base hL hl r2 L' h2
    refine ⟨w, x, n, f, ?_⟩
    cases r2 with
    | ok a => exact p
    | error e => exact ⟨[], by rw [p, List.append_nil], rfl⟩

theorem mem_append_singleton {l : List Fd} {k x : Fd} (h : x ∈ l ++ [k]) : x ∈ l ∨ x = k :=
  (List.mem_append.mp h).imp_right List.mem_singleton.mp

theorem below_append {l : List Fd} {n : Nat} (hb : ∀ x ∈ l, x < n) : ∀ x ∈ l ++ [n], x < n + 1 := by
  intro x hx
  rcases mem_append_singleton hx with hx | hx
  · exact Nat.lt_succ_of_lt (hb x hx)
  · rw [hx]; exact Nat.lt_succ_self _

theorem nodup_append_fresh {l : List Fd} {n : Nat} (hnd : l.Nodup) (hb : ∀ x ∈ l, x < n) : (l ++ [n]).Nodup :=
  List.nodup_append.mpr ⟨hnd, List.pairwise_singleton _ n, fun a ha _ hb' =>
    List.mem_singleton.mp hb' ▸ Nat.ne_of_lt (hb a ha)⟩

theorem Sp_sysOpen (c : Sys) (fd : Option Fd) :
    Sp (sysOpen c fd) (fun r new n => match r with
      | .ok x => new = [x] ∧ n = 0
      | .error _ => new = [] ∧ n = 1) := by
  intro o L base hL hl r L' hrun
  unfold sysOpen at hrun
  split at hrun <;> cases hrun
  · exact ⟨⟨hL.nodup, hL.below, hL.noTwice, hL.noForeign⟩, Nat.le_refl _, 1, rfl, [], hl, rfl, rfl⟩
  · exact ⟨⟨nodup_append_fresh hL.nodup hL.below, below_append hL.below, hL.noTwice, hL.noForeign⟩, Nat.le_succ _, 0, rfl, [L.next],
      by rw [List.append_nil] at hl; rw [← hl], rfl, rfl⟩

theorem Sp_openImpl (c : Sys) (arg : Option Fd) : Sp (openImpl c arg) (fun fd new n => new = [fd] ∧ n = 0) := by
  unfold openImpl
  refine SpOn_bind (Sp_sysOpen c arg) fun x new1 n1 h => ?_
  cases x with
  | error e => rw [h.1]; exact Sp_raise _ _
  | ok fd => rw [h.1, h.2]; exact SpOn_pure fd ⟨rfl, rfl⟩

theorem WF.close_mem {L : Ledger} (h : WF L) {fd : Fd} (hm : fd ∈ L.live) :
    WF (L.close fd) ∧ (L.close fd).live = L.live.erase fd ∧ (L.close fd).nfault = L.nfault ∧
      (L.close fd).next = L.next := by
  unfold Ledger.close
  rw [if_pos hm]
  exact ⟨⟨h.nodup.erase _, fun x hx => h.below x (List.mem_of_mem_erase hx), h.noTwice, h.noForeign⟩, rfl, rfl, rfl⟩

theorem erase_append_fresh {l : List Fd} {fd : Fd} (h : (l ++ [fd]).Nodup) : (l ++ [fd]).erase fd = l := by
  have hfd : fd ∉ l := fun hin => (List.nodup_append.mp h).2.2 fd hin fd List.mem_cons_self rfl
  rw [List.erase_append_right _ hfd, List.erase_cons_head, List.append_nil]

/-- RAII, as a fact about one run: the object owning the open descriptor `fd` is alive while `body` runs, so a
throwing `body` closes it -/
theorem guard_run {fd : Fd} {body : M α} {R : α → List Fd → Nat → Prop} (hb : Sp body R)
    {o : Oracle} {L L' : Ledger} {r : Except Exn α} (hL : WF L) (hfd : fd ∈ L.live)
    (hrun : guardFd fd body o L = (r, L')) :
    WF L' ∧ L.next ≤ L'.next ∧ ∃ n, L'.nfault = L.nfault + n ∧
    match (generalizing := false) r with
    | .ok a => ∃ new, L'.live = L.live ++ new ∧ R a new n
    | .error _ => L'.live = L.live.erase fd := by
  unfold guardFd at hrun
  cases h2 : body o L with
  | mk r2 L2 =>
    rw [h2] at hrun
    obtain ⟨w, x, n, f, p⟩ := hb.run hL h2
    cases r2 with
    | ok a => cases hrun; exact ⟨w, x, n, f, p⟩
    | error e =>
      cases hrun
      obtain ⟨w3, l3, n3, x3⟩ := w.close_mem (fd := fd) (by rw [p]; exact hfd)
      exact ⟨w3, x3 ▸ x, n, n3.trans f, by rw [l3, p]⟩

theorem SpOn_guard {fd : Fd} {body : M α} {R : α → List Fd → Nat → Prop} (hb : Sp body R) :
    SpOn [fd] (guardFd fd body) (fun a new n => ∃ nb, new = fd :: nb ∧ R a nb n) := by
  intro o L base hL hl r L' hrun
  obtain ⟨w, x, n, f, p⟩ := guard_run hb hL (by rw [hl]; exact List.mem_append_right _ List.mem_cons_self) hrun
  refine ⟨w, x, n, f, ?_⟩
  cases r with
  | ok a =>
    obtain ⟨nb, l, q⟩ := p
    exact ⟨fd :: nb, by rw [l, hl, List.append_assoc]; rfl, nb, rfl, q⟩
  | error e => exact p.trans (by rw [hl]; exact erase_append_fresh (hl ▸ hL.nodup))

/-- a constructor that took over the descriptor of an rvalue argument before it can fail; the socket was opened
any time before, so `fd` is anywhere in `live` and on success stays where it is: hence not `SpOn [fd]` -/
def Consumes (fd : Fd) (m : M (List Fd)) : Prop :=
  ∀ (o : Oracle) (L : Ledger), WF L → fd ∈ L.live → ∀ r L', m o L = (r, L') →
    WF L' ∧ L.nfault ≤ L'.nfault ∧ L.next ≤ L'.next ∧
    match r with
    | .ok a => L'.live = L.live ∧ a = [fd] ∧ L'.nfault = L.nfault
    | .error _ => L'.live = L.live.erase fd

theorem Consumes_guard {fd : Fd} {body : M (List Fd)}
    (hb : Sp body (fun a new n => a = [fd] ∧ new = [] ∧ n = 0)) : Consumes fd (guardFd fd body) := by
  intro o L hL hmem r L' hrun
  obtain ⟨w, x, n, f, p⟩ := guard_run hb hL hmem hrun
  refine ⟨w, f ▸ Nat.le_add_right _ _, x, ?_⟩
  cases r with
  | ok a =>
    obtain ⟨new, l, ra, rn, rf⟩ := p
    exact ⟨by rw [l, rn, List.append_nil], ra, by rw [f, rf]; rfl⟩
  | error e => exact p

theorem destroy_run (o : Oracle) (fds : List Fd) (L : Ledger) :
    destroy fds o L = (.ok (), fds.foldr (fun fd L => L.close fd) L) := by
  induction fds with
  | nil => rfl
  | cons fd rest ih =>
    show (destroy rest >>= fun _ => closeFd fd) o L = _
    rw [bind_run, ih]
    rfl

theorem destroy_restores (o : Oracle) (fds : List Fd) : ∀ (base : List Fd) (L : Ledger), WF L → L.live = base ++ fds →
    (destroy fds o L).1 = .ok () ∧ WF (destroy fds o L).2 ∧ (destroy fds o L).2.live = base := by
  induction fds with
  | nil => intro base L hL hl; exact ⟨rfl, hL, hl.trans (List.append_nil _)⟩
  | cons fd rest ih =>
    intro base L hL hl
    obtain ⟨_, h2, h3⟩ := ih (base ++ [fd]) L hL (by rw [hl, List.append_assoc]; rfl)
    rw [destroy_run] at h2 h3 ⊢
    obtain ⟨w, l, _, _⟩ := h2.close_mem (fd := fd) (by rw [h3]; exact List.mem_append_right _ List.mem_cons_self)
    exact ⟨rfl, w, l.trans (by rw [h3]; exact erase_append_fresh (h3 ▸ h2.nodup))⟩

/-! ### the building blocks keep the ledger -/

theorem Quiet_sysE (c : Sys) (fd : Fd) : Quiet (sysE c fd) :=
  Sp_sys_bind (fun _ => Sp_raise _ _) (SpOn_pure () ⟨rfl, rfl⟩)

theorem Quiet_sysAddrMsg (c : Sys) (fd : Fd) : Quiet (sysAddrMsg c fd) :=
  Sp_sys_bind (fun _ => Sp_sys_bind (fun _ => Sp_raise _ _) (Sp_raise _ _)) (SpOn_pure () ⟨rfl, rfl⟩)

theorem Quiet_gai (c : Sys) : Quiet (gai c) :=
  Sp_sys_bind (fun _ => Sp_raise _ _) (SpOn_pure () ⟨rfl, rfl⟩)

theorem Quiet_setNonBlocking (fd : Fd) : Quiet (setNonBlocking fd) :=
  Sp_seq (Quiet_sysE _ _) (fun _ => Quiet_sysE _ _)

/-! ### every program of the scenario set keeps the ledger -/

/-- result of a program: the descriptors it returns are exactly the ones it added, no call failed -/
def Owned (a new : List Fd) (n : Nat) : Prop := a = new ∧ n = 0

/-- the constructor pattern: open a descriptor, run the body under its guard; the body returns the descriptors
`pre` of the enclosing scope, the new one and whatever it opened itself -/
theorem Sp_ctor {c : Sys} {arg : Option Fd} (pre : List Fd) {body : Fd → M (List Fd)}
    (hb : ∀ fd, Sp (body fd) (fun a new n => a = pre ++ fd :: new ∧ n = 0)) :
    Sp (openImpl c arg >>= fun fd => guardFd fd (body fd)) (fun a new n => a = pre ++ new ∧ n = 0) :=
  SpOn_bind (Sp_openImpl c arg) fun fd _ _ h => by
    rw [h.1, h.2]
    exact (SpOn_guard (hb fd)).weaken fun a new n ⟨nb, h1, h2, h3⟩ => ⟨by rw [h1, h2], h3⟩

theorem Sp_tcpSend (fd : Fd) (more : Nat) : Sp (tcpSend fd more) Owned := by
  induction more with
  | zero => exact Sp_seq (Quiet_sysE _ _) fun _ => Sp_seq (Quiet_sysE _ _) fun _ => SpOn_pure _ ⟨rfl, rfl⟩
  | succ n ih => exact Sp_seq (Quiet_sysE _ _) fun _ => Sp_seq (Quiet_sysE _ _) fun _ => ih

theorem Sp_acceptOn (fd : Fd) : Sp (acceptOn fd) Owned :=
  Sp_ctor [] fun _ => Sp_seq (Quiet_setNonBlocking _) fun _ => SpOn_pure _ ⟨rfl, rfl⟩

theorem Prog.keepsLedger (p : Prog) : Sp p.run Owned := by
  cases p with
  | addrCtor => exact Sp_seq (Quiet_gai _) fun _ => SpOn_pure _ ⟨rfl, rfl⟩
  | addrPrint => exact Sp_seq (Quiet_gai _) fun _ => SpOn_pure _ ⟨rfl, rfl⟩
  | udpCtor =>
    exact Sp_ctor [] fun _ => Sp_seq (Quiet_sysAddrMsg _ _) fun _ => Sp_seq (Quiet_sysE _ _) fun _ =>
      Sp_seq (Quiet_setNonBlocking _) fun _ => SpOn_pure _ ⟨rfl, rfl⟩
  | tcpCtor =>
    exact Sp_ctor [] fun _ => Sp_seq (Quiet_sysAddrMsg _ _) fun _ => Sp_seq (Quiet_setNonBlocking _) fun _ =>
      SpOn_pure _ ⟨rfl, rfl⟩
  | acceptorCtor =>
    exact Sp_ctor [] fun _ => Sp_seq (Quiet_sysE _ _) fun _ => Sp_seq (Quiet_sysAddrMsg _ _) fun _ =>
      Sp_seq (Quiet_setNonBlocking _) fun _ => SpOn_pure _ ⟨rfl, rfl⟩
  | driverCtor =>
    exact Sp_seq (Quiet_gai _) fun _ => Sp_ctor [] fun pfrom => Sp_ctor [pfrom] fun _ =>
      Sp_seq (Quiet_sysAddrMsg _ _) fun _ => Sp_seq (Quiet_sysE _ _) fun _ =>
      Sp_seq (Quiet_gai _) fun _ => Sp_seq (Quiet_sysAddrMsg _ _) fun _ => SpOn_pure _ ⟨rfl, rfl⟩
  | udpSendTo fd => exact Sp_seq (Quiet_sysE _ _) fun _ => Sp_seq (Quiet_sysAddrMsg _ _) fun _ => SpOn_pure _ ⟨rfl, rfl⟩
  | udpReceiveFrom fd => exact Sp_seq (Quiet_sysE _ _) fun _ => Sp_seq (Quiet_sysE _ _) fun _ => SpOn_pure _ ⟨rfl, rfl⟩
  | tcpSend fd more => exact Sp_tcpSend fd more
  | tcpReceive fd => exact Sp_seq (Quiet_sysE _ _) fun _ => Sp_seq (Quiet_sysE _ _) fun _ => SpOn_pure _ ⟨rfl, rfl⟩
  | query c fd => exact Sp_seq (Quiet_sysE _ _) fun _ => SpOn_pure _ ⟨rfl, rfl⟩
  | acceptorListen ready fd =>
    refine Sp_seq (Quiet_sysE _ _) fun _ => Sp_seq (Quiet_sysE _ _) fun _ => ?_
    cases ready
    · exact SpOn_pure _ ⟨rfl, rfl⟩
    · exact Sp_acceptOn fd
  | driverStop fd => exact Sp_seq (Quiet_sysE _ _) fun _ => Sp_seq (Quiet_sysAddrMsg _ _) fun _ => SpOn_pure _ ⟨rfl, rfl⟩

theorem Consumer.takesOver (c : Consumer) (fd : Fd) : Consumes fd (c.run fd) := by
  cases c with
  | buffered q =>
    refine Consumes_guard ?_
    cases q
    · exact Sp_seq (SpOn_pure () ⟨rfl, rfl⟩) fun _ => SpOn_pure _ ⟨rfl, rfl, rfl⟩
    · exact Sp_seq (Quiet_sysE _ _) fun _ => SpOn_pure _ ⟨rfl, rfl, rfl⟩
  | tcpAsync => exact Consumes_guard (Sp_seq (Quiet_sysE _ _) fun _ => SpOn_pure _ ⟨rfl, rfl, rfl⟩)
  | acceptorAsync => exact Consumes_guard (Sp_seq (Quiet_sysE _ _) fun _ => SpOn_pure _ ⟨rfl, rfl, rfl⟩)
  | udpAsync =>
    intro o L hL hmem r L' hrun
    cases hrun
    exact ⟨hL, Nat.le_refl _, Nat.le_refl _, rfl, rfl, rfl⟩

/-! ### the driver step -/

/-- what a `Step` that returns normally guarantees -/
def StepPost (d : DSt) (out : StepOut) (new : List Fd) (n : Nat) : Prop :=
  out.fds = new ∧
  (0 < n → ∃ ev ∈ out.evs, ev.reportsFailure = true) ∧
  (∀ fd, Ev.discarded fd ∈ out.evs → ∃ s ∈ d.socks, s.fd = fd ∧ s.kind ≠ .tcp)

theorem StepPost.none {d : DSt} {out : StepOut} {new : List Fd} (hf : out.fds = new) (hev : out.evs = []) :
    StepPost d out new 0 :=
  ⟨hf, fun h => absurd h (Nat.lt_irrefl 0), fun _ h => nomatch hev ▸ h⟩

/-- a step with one event: unless no call failed it reports the failure; if it is a discard, it is an allowed one -/
theorem StepPost.single {d : DSt} {out : StepOut} {new : List Fd} {n : Nat} {ev : Ev} (hf : out.fds = new)
    (hev : out.evs = [ev]) (hn : n = 0 ∨ ev.reportsFailure = true)
    (hd : ∀ fd, ev = .discarded fd → ∃ s ∈ d.socks, s.fd = fd ∧ s.kind ≠ .tcp := by intro _ h; cases h) :
    StepPost d out new n :=
  ⟨hf, fun h => ⟨ev, hev ▸ List.mem_cons_self, hn.resolve_left (Nat.ne_of_gt h)⟩,
    fun fd h => hd fd (List.mem_singleton.mp (hev ▸ h)).symm⟩

theorem Sp_socketTask (d : DSt) (s : ASock) (hs : s ∈ d.socks) : Sp (socketTask d s) (StepPost d) := by
  have hdisc : s.kind ≠ .tcp → ∀ fd, Ev.discarded s.fd = .discarded fd → ∃ s' ∈ d.socks, s'.fd = fd ∧ s'.kind ≠ .tcp :=
    fun hne fd h => ⟨s, hs, Ev.discarded.inj h, hne⟩
  unfold socketTask
  split
  · cases hk : s.kind with
    | tcp => exact Sp_sys_bind (fun _ => SpOn_pure _ (.single rfl rfl (.inr rfl))) (SpOn_pure _ (.single rfl rfl (.inl rfl)))
    | udp =>
      exact Sp_sys_bind (fun _ => SpOn_pure _ (.single rfl rfl (.inr rfl) (hdisc (by rw [hk]; decide))))
        (SpOn_pure _ (.single rfl rfl (.inl rfl)))
    | acc =>
      have hd := hdisc (by rw [hk]; decide)
      refine SpOn_bind (Sp_sysOpen .accept (some s.fd)) fun x _ _ h => ?_
      cases x with
      | error e => rw [h.1, h.2]; exact SpOn_pure _ (.single rfl rfl (.inr rfl) hd)
      | ok c =>
        rw [h.1, h.2]
        -- the accepted descriptor is owned by a local that dies if anything throws; the throw is caught
        refine SpOn_bind (SpOn_tryM (SpOn_guard (R := fun _ new n => new = [] ∧ n = 0) (Sp_seq (Quiet_setNonBlocking c)
          fun _ => Sp_seq (Quiet_sysE _ _) fun _ => SpOn_pure _ ⟨rfl, rfl⟩))) fun t _ _ h2 => ?_
        cases t with
        | error e => rw [show _ = [] from h2]; exact SpOn_pure _ (.single rfl rfl (.inr rfl) hd)
        | ok a =>
          obtain ⟨_, rfl, rfl, rfl⟩ := h2
          exact SpOn_pure _ (.single rfl rfl (.inl rfl))
  · cases hk : s.kind with
    | tcp => exact Sp_sys_bind (fun _ => SpOn_pure _ (.single rfl rfl (.inr rfl))) (SpOn_pure _ (.single rfl rfl (.inl rfl)))
    | udp =>
      refine SpOn_bind (SpOn_tryM (Quiet_sysAddrMsg .sendto s.fd)) fun t _ _ h2 => ?_
      cases t with
      | error e => rw [show _ = [] from h2]; exact SpOn_pure _ (.single rfl rfl (.inr rfl))
      | ok x =>
        obtain ⟨rfl, rfl⟩ := h2
        exact SpOn_pure _ (.single rfl rfl (.inl rfl))
    | acc => exact SpOn_pure _ (.none rfl rfl)

theorem Sp_driverStep (d : DSt) : Sp (driverStep d) (StepPost d) := by
  unfold driverStep
  refine Sp_seq (Quiet_sysE _ _) fun _ => ?_
  split
  · exact Sp_seq (Quiet_sysE _ _) fun _ => SpOn_pure _ (.none rfl rfl)
  · split
    · exact SpOn_pure _ (.none rfl rfl)
    · rename_i s hfind
      exact Sp_socketTask d s (List.mem_of_find?_eq_some hfind)

end SockModel.Fd
