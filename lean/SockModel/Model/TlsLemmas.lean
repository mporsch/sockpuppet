import SockModel.Model.Tls
import SockModel.Model.NetLemmas
/-!
`Frame P`: a predicate on glue states that is kept by the three primitive actions (wait,
BIO read, BIO write) and does not look at the control fields of the glue or at the engine
state.  `Frame` predicates are kept by every composite function of the model (`Frame.interp` ...
`Frame.run`).  The composite functions themselves are taken apart once: an engine call always
answers (`interp_ok`), `BioWrite` has four routes (`bioWrite_route`), a round of `Read` is
`readRound_done_eq` / `readRound_retry_eq`, a task of the driver is `aTask_route`.
-/
namespace SockModel.Tls
open SockModel.Net

variable {σ ω : Type} {W : World ω}

/-- states that agree on the world and on the glue fields a frame predicate may depend on (read `SameCore s s'` and
`CtlEq s s'` as: `s'` is `s` after a step; the equations are stated for `s'`) -/
def SameCore (s s' : St σ ω) : Prop :=
  s'.w = s.w ∧ s'.g.wire = s.g.wire ∧ s'.g.bioWrites = s.g.bioWrites ∧
  s'.g.driverSendSuppressed = s.g.driverSendSuppressed

theorem SameCore.refl (s : St σ ω) : SameCore s s := ⟨rfl, rfl, rfl, rfl⟩

theorem interp_inv {Q : St σ ω → Prop} (hret : ∀ s e', Q s → Q { s with e := e' }) (hstash : ∀ s e, Q s → Q (stash s e))
    (hr : ∀ s n, Q s → Q (bioRead W s n).2) (hw : ∀ s bs, Q s → Q (bioWrite W s bs).2) (prog : EngProg σ) :
    ∀ (s : St σ ω), Q s → Q (interp W s prog).2 := by
  induction prog with
  | ret ans out e' => intro s h; exact hret s e' h
  | bioRead n k ih =>
    intro s h
    have h1 := hr s n h
    unfold Tls.interp
    split
    · rename_i bs s' heq; rw [heq] at h1; exact ih _ s' h1
    · rename_i e s' heq; rw [heq] at h1; exact ih _ _ (hstash s' e h1)
    · rename_i m s' heq; rw [heq] at h1; exact h1
  | bioWrite bs k ih =>
    intro s h
    have h1 := hw s bs h
    unfold Tls.interp
    split
    · rename_i n s' heq; rw [heq] at h1; exact ih _ s' h1
    · rename_i e s' heq; rw [heq] at h1; exact ih _ _ (hstash s' e h1)
    · rename_i m s' heq; rw [heq] at h1; exact h1

structure Frame (W : World ω) (P : St σ ω → Prop) : Prop where
  core : ∀ {s s'}, P s → SameCore s s' → P s'
  wait : ∀ s d, P s → P (waitUnder W s d).2
  bioRead : ∀ s n, P s → P (bioRead W s n).2
  bioWrite : ∀ s bs, P s → P (bioWrite W s bs).2

namespace Frame
variable {P : St σ ω → Prop}

theorem handleError (F : Frame W P) (s : St σ ω) (err : SslErr) (h : P s) : P (handleError W s err).2 := by
  cases err <;> simp only [Tls.handleError] <;> first | exact h | exact F.wait _ _ h

theorem handleLastError (F : Frame W P) (s : St σ ω) (h : P s) : P (handleLastError W s).2 := by
  have h1 := F.handleError s s.g.lastError h
  unfold Tls.handleLastError
  split
  · rename_i s' heq
    rw [heq] at h1
    exact F.core h1 ⟨rfl, rfl, rfl, rfl⟩
  · exact h1

theorem handleResult (F : Frame W P) (s : St σ ω) (ans : SslAns) (h : P s) : P (handleResult W s ans).2 := by
  unfold Tls.handleResult
  split
  · exact F.core h ⟨rfl, rfl, rfl, rfl⟩
  · exact F.handleLastError _ (F.core h ⟨rfl, rfl, rfl, rfl⟩)

theorem interp (F : Frame W P) (prog : EngProg σ) : ∀ (s : St σ ω), P s → P (interp W s prog).2 :=
  interp_inv (fun _ _ h => F.core h ⟨rfl, rfl, rfl, rfl⟩) (fun _ _ h => F.core h ⟨rfl, rfl, rfl, rfl⟩) F.bioRead F.bioWrite
    prog

theorem noteCall (F : Frame W P) (E : Engine σ) (s : St σ ω) (r : Bool) (a : Bytes) (ans : SslAns) (h : P s) :
    P (noteCall E s r a ans) := F.core h ⟨rfl, rfl, rfl, rfl⟩

end Frame

/-! ### what reaches the wire -/

/-- the bytes the BIO write callbacks put on the wire, oldest first -/
def bioWire (g : Glue) : Bytes := (g.bioWrites.reverse.map fun c => c.buf.take c.accepted).flatten

theorem bioWire_cons (g : Glue) (c : BioW) (w : Bytes) :
    bioWire { g with bioWrites := c :: g.bioWrites, wire := w } = bioWire g ++ c.buf.take c.accepted := by
  simp [bioWire]

/-- the ghost `wire` is what the kernel saw; it is the concatenation of what the BIO write callbacks got accepted;
no callback got more accepted than it offered -/
def WireOk (wire : ω → Bytes) (s : St σ ω) : Prop :=
  wire s.w = s.g.wire ∧ s.g.wire = bioWire s.g ∧ ∀ c ∈ s.g.bioWrites, c.accepted ≤ c.buf.length

theorem noteWrite_wireOk {wire : ω → Bytes} (s : St σ ω) (bs : Bytes) (r : SendRes ω) (rem : Int)
    (h : WireOk wire s) (hw : wire r.w = wire s.w ++ bs.take r.sent) (hle : r.sent ≤ bs.length) :
    WireOk wire (noteWrite s bs r rem).2 := by
  obtain ⟨h1, h2, h3⟩ := h
  unfold noteWrite
  split <;>
  · refine ⟨?_, ?_, ?_⟩
    · simp only; rw [hw, h1]
    · simp only [bioWire, List.reverse_cons, List.map_append, List.map_cons, List.map_nil, List.flatten_append,
        List.flatten_cons, List.flatten_nil, List.append_nil]
      rw [h2]; rfl
    · intro c hc
      simp only [List.mem_cons] at hc
      rcases hc with rfl | hc
      · exact hle
      · exact h3 c hc

/-- the four routes of `BioWrite`: `SendNow` (deemed writable), `SendAll` (budget < 0), `SendTry` (= 0), `SendSome` (> 0) -/
theorem bioWrite_route {motive : Out Nat × St σ ω → Prop} (s : St σ ω) (bs : Bytes)
    (now : s.g.isWritable = true →
      motive (noteWrite { s with g := { s.g with isWritable := false } } bs (sendNow W s.w bs) s.g.remainingTime))
    (all : s.g.remainingTime < 0 → motive (noteWrite s bs (sendAll W s.w bs) s.g.remainingTime))
    (try_ : s.g.remainingTime = 0 → motive (noteWrite s bs (sendTry W s.w bs) s.g.remainingTime))
    (some_ : 0 < s.g.remainingTime → ∀ r tick, sendSome W s.w bs (W.now s.w + s.g.remainingTime) (W.now s.w) = (r, tick) →
      motive (noteWrite s bs r (if r.sent = bs.length then remainingMs (W.now s.w + s.g.remainingTime) tick else 0))) :
    motive (bioWrite W s bs) := by
  unfold Tls.bioWrite
  by_cases h1 : s.g.isWritable = true
  · rw [if_pos h1]; exact now h1
  · rw [if_neg h1]
    by_cases h2 : s.g.remainingTime < 0
    · rw [if_pos h2]; exact all h2
    · rw [if_neg h2]
      by_cases h3 : s.g.remainingTime = 0
      · rw [if_pos h3]; exact try_ h3
      · rw [if_neg h3]; exact some_ (by omega) _ _ rfl

/-- `BioRead` leaves the ghost fields alone and moves the world by one `recvNow` or one `receive` -/
theorem bioRead_core (s : St σ ω) (n : Nat) :
    (bioRead W s n).2.g.wire = s.g.wire ∧ (bioRead W s n).2.g.bioWrites = s.g.bioWrites ∧
    (bioRead W s n).2.g.driverSendSuppressed = s.g.driverSendSuppressed ∧
    (bioRead W s n).2.g.lastError = s.g.lastError ∧ (bioRead W s n).2.g.pendingSend = s.g.pendingSend ∧
    (bioRead W s n).2.g.engCalls = s.g.engCalls ∧ (bioRead W s n).2.e = s.e ∧
    ((bioRead W s n).2.w = (recvNow W s.w n).world ∨ (bioRead W s n).2.w = (receive W s.w n s.g.remainingTime).world) := by
  unfold Tls.bioRead
  split
  · simp only
    cases recvNow W s.w n <;> simp [RecvRes.world]
  · simp only
    cases receive W s.w n s.g.remainingTime <;> simp [RecvRes.world]

/-- `WireOk` is a frame predicate in every world that logs its wire -/
theorem wireOk_frame {wire : ω → Bytes} (L : WireLog W wire) : Frame W (WireOk (σ := σ) wire) where
  core := by
    intro s s' h ⟨hw, hwire, hbw, _⟩
    obtain ⟨h1, h2, h3⟩ := h
    refine ⟨by rw [hw, hwire]; exact h1, ?_, by rw [hbw]; exact h3⟩
    rw [hwire, h2]; simp [bioWire, hbw]
  wait := by
    intro s d h
    obtain ⟨h1, h2, h3⟩ := h
    exact ⟨by simp only [waitUnder]; rw [L.wait]; exact h1, h2, h3⟩
  bioRead := by
    intro s n h
    obtain ⟨h1, h2, h3⟩ := h
    obtain ⟨c1, c2, _, _, _, _, _, cw⟩ := bioRead_core (W := W) s n
    refine ⟨?_, ?_, by rw [c2]; exact h3⟩
    · rw [c1]
      rcases cw with cw | cw
      · rw [cw, L.recvNow]; exact h1
      · rw [cw, L.receive]; exact h1
    · rw [c1, h2]; simp [bioWire, c2]
  bioWrite := by
    intro s bs h
    refine bioWrite_route (motive := fun r => WireOk wire r.2) s bs ?_ ?_ ?_ ?_
    · exact fun _ => noteWrite_wireOk _ _ _ _ ⟨h.1, h.2.1, h.2.2⟩ (L.sendNow s.w bs) (sendNow_le W s.w bs)
    · refine fun _ => noteWrite_wireOk _ _ _ _ h ?_ ?_
      · simpa using (L.sendAll s.w bs 0).2
      · simpa using sendAll_le W s.w bs 0
    · exact fun _ => noteWrite_wireOk _ _ _ _ h (L.sendTry s.w bs) (sendTry_le W s.w bs)
    · intro _ r tick hs
      have hr : r = (sendSome W s.w bs (W.now s.w + s.g.remainingTime) (W.now s.w)).1 := by rw [hs]
      subst hr
      refine noteWrite_wireOk _ _ _ _ h ?_ ?_
      · simpa using (L.sendSome s.w bs (W.now s.w + s.g.remainingTime) (W.now s.w) 0).2
      · simpa using sendSome_le W s.w bs (W.now s.w + s.g.remainingTime) (W.now s.w) 0

theorem noteWrite_w (s : St σ ω) (bs : Bytes) (r : SendRes ω) (rem : Int) : (noteWrite s bs r rem).2.w = r.w := by
  unfold noteWrite; split <;> rfl

/-- a predicate on the world that every OS call keeps is a frame predicate of the glue -/
theorem Frame.ofWorldInv {I : ω → Prop} (V : WorldInv W I) : Frame W (fun s : St σ ω => I s.w) where
  core := by intro s s' h hc; rw [hc.1]; exact h
  wait := by intro s d h; exact V.wait s.w d _ h
  bioRead := by
    intro s n h
    obtain ⟨_, _, _, _, _, _, _, cw⟩ := bioRead_core (W := W) s n
    rcases cw with cw | cw
    · rw [cw]; exact V.recvNow s.w n h
    · rw [cw]; exact V.receive s.w n _ h
  bioWrite := by
    intro s bs h
    refine bioWrite_route (motive := fun r => I r.2.w) s bs ?_ ?_ ?_ ?_
    · exact fun _ => noteWrite_w _ bs _ _ ▸ V.sendNow _ bs h
    · exact fun _ => noteWrite_w _ bs _ _ ▸ V.sendAll _ bs 0 h
    · exact fun _ => noteWrite_w _ bs _ _ ▸ V.sendTry _ bs h
    · intro _ r tick hs
      have := V.sendSome s.w bs (W.now s.w + s.g.remainingTime) (W.now s.w) 0 h
      rw [hs] at this
      exact noteWrite_w _ bs _ _ ▸ this

/-! ### control fields: what the primitive actions leave alone -/

/-- `s'` agrees with `s` on the fields that steer the glue between two engine calls (`pendingError` and the engine
state `e` are not among them: the `_ctl` lemmas say `.e = s.e` separately) -/
def CtlEq (s s' : St σ ω) : Prop :=
  s'.g.lastError = s.g.lastError ∧ s'.g.pendingSend = s.g.pendingSend ∧ s'.g.engCalls = s.g.engCalls ∧
  s'.g.driverSendSuppressed = s.g.driverSendSuppressed

theorem CtlEq.refl (s : St σ ω) : CtlEq s s := ⟨rfl, rfl, rfl, rfl⟩
theorem CtlEq.trans {a b c : St σ ω} (h1 : CtlEq a b) (h2 : CtlEq b c) : CtlEq a c :=
  ⟨h2.1.trans h1.1, h2.2.1.trans h1.2.1, h2.2.2.1.trans h1.2.2.1, h2.2.2.2.trans h1.2.2.2⟩

theorem waitUnder_ctl {W : World ω} (s : St σ ω) (d : Dir) : CtlEq s (waitUnder W s d).2 ∧ (waitUnder W s d).2.e = s.e :=
  ⟨⟨rfl, rfl, rfl, rfl⟩, rfl⟩

theorem bioRead_ctl (s : St σ ω) (n : Nat) : CtlEq s (bioRead W s n).2 ∧ (bioRead W s n).2.e = s.e := by
  obtain ⟨_, _, c3, c4, c5, c6, c7, _⟩ := bioRead_core (W := W) s n
  exact ⟨⟨c4, c5, c6, c3⟩, c7⟩

theorem noteWrite_ctl (s : St σ ω) (bs : Bytes) (r : SendRes ω) (rem : Int) :
    CtlEq s (noteWrite s bs r rem).2 ∧ (noteWrite s bs r rem).2.e = s.e := by
  unfold noteWrite; split <;> exact ⟨⟨rfl, rfl, rfl, rfl⟩, rfl⟩

theorem bioWrite_ctl (s : St σ ω) (bs : Bytes) : CtlEq s (bioWrite W s bs).2 ∧ (bioWrite W s bs).2.e = s.e :=
  bioWrite_route (motive := fun r => CtlEq s r.2 ∧ r.2.e = s.e) s bs
    (fun _ => noteWrite_ctl _ _ _ _) (fun _ => noteWrite_ctl _ _ _ _) (fun _ => noteWrite_ctl _ _ _ _)
    (fun _ _ _ _ => noteWrite_ctl _ _ _ _)

theorem bioRead_no_abort (s : St σ ω) (n : Nat) (m : String) (s' : St σ ω) :
    bioRead W s n ≠ (.abort m, s') := by
  unfold Tls.bioRead
  split
  · simp only; cases recvNow W s.w n <;> simp
  · simp only; cases receive W s.w n s.g.remainingTime <;> simp

theorem noteWrite_no_abort (s : St σ ω) (bs : Bytes) (r : SendRes ω) (rem : Int) (m : String) (s' : St σ ω) :
    noteWrite s bs r rem ≠ (.abort m, s') := by
  unfold noteWrite; split <;> simp

theorem bioWrite_no_abort (s : St σ ω) (bs : Bytes) (m : String) (s' : St σ ω) :
    bioWrite W s bs ≠ (.abort m, s') :=
  bioWrite_route (motive := fun r => r ≠ (.abort m, s')) s bs
    (fun _ => noteWrite_no_abort _ _ _ _ _ _) (fun _ => noteWrite_no_abort _ _ _ _ _ _)
    (fun _ => noteWrite_no_abort _ _ _ _ _ _) (fun _ _ _ _ => noteWrite_no_abort _ _ _ _ _ _)

/-- an engine call always answers: no abort, and no exception crosses the engine (d6dcd55: a failing callback is stashed) -/
theorem interp_ok (Q : SslAns → Bytes → σ → Prop) (prog : EngProg σ) (hq : AllLeaves Q prog) :
    ∀ (s : St σ ω), ∃ a o s', interp W s prog = (.ok (a, o), s') ∧ CtlEq s s' ∧ Q a o s'.e := by
  induction hq with
  | ret hp => intro s; exact ⟨_, _, _, rfl, ⟨rfl, rfl, rfl, rfl⟩, hp⟩
  | @bioRead n k _ ih =>
    intro s
    have hc := (bioRead_ctl (W := W) s n).1
    rcases hb : bioRead W s n with ⟨r, s1⟩
    rw [hb] at hc
    cases r with
    | ok bs =>
      obtain ⟨a, o, s', h1, h2, h3⟩ := ih (some bs) s1
      exact ⟨a, o, s', by simp only [Tls.interp, hb, h1], hc.trans h2, h3⟩
    | exn e =>
      obtain ⟨a, o, s', h1, h2, h3⟩ := ih none (stash s1 e)
      exact ⟨a, o, s', by simp only [Tls.interp, hb, h1], (hc.trans ⟨rfl, rfl, rfl, rfl⟩).trans h2, h3⟩
    | abort m => exact absurd hb (bioRead_no_abort s n m s1)
  | @bioWrite bs k _ ih =>
    intro s
    have hc := (bioWrite_ctl (W := W) s bs).1
    rcases hb : bioWrite W s bs with ⟨r, s1⟩
    rw [hb] at hc
    cases r with
    | ok n =>
      obtain ⟨a, o, s', h1, h2, h3⟩ := ih (some n) s1
      exact ⟨a, o, s', by simp only [Tls.interp, hb, h1], hc.trans h2, h3⟩
    | exn e =>
      obtain ⟨a, o, s', h1, h2, h3⟩ := ih none (stash s1 e)
      exact ⟨a, o, s', by simp only [Tls.interp, hb, h1], (hc.trans ⟨rfl, rfl, rfl, rfl⟩).trans h2, h3⟩
    | abort m => exact absurd hb (bioWrite_no_abort s bs m s1)

theorem interp_spec (Q : SslAns → Bytes → σ → Prop) (prog : EngProg σ) (hq : AllLeaves Q prog) :
    ∀ (s : St σ ω), CtlEq s (interp W s prog).2 ∧
      (∀ m, (interp W s prog).1 ≠ .abort m) ∧
      (∀ a o, (interp W s prog).1 = .ok (a, o) → Q a o (interp W s prog).2.e) ∧
      (∀ e, (interp W s prog).1 ≠ .exn e) := by
  intro s
  obtain ⟨a, o, s', h, hc, hQ⟩ := interp_ok (W := W) Q prog hq s
  rw [h]
  refine ⟨hc, ?_, ?_, ?_⟩
  · intro m hm; cases hm
  · intro a' o' h'; cases h'; exact hQ
  · intro e he; cases he

theorem allLeaves_true (prog : EngProg σ) : AllLeaves (fun _ _ _ => True) prog := by
  induction prog with
  | ret a o s => exact .ret trivial
  | bioRead n k ih => exact .bioRead ih
  | bioWrite bs k ih => exact .bioWrite ih

theorem suppressed_frame (W : World ω) (b : Bool) : Frame W (fun s : St σ ω => s.g.driverSendSuppressed = b) where
  core := fun h hc => hc.2.2.2.trans h
  wait := fun _ _ h => h
  bioRead := by intro s n h; rw [(bioRead_core (W := W) s n).2.2.1]; exact h
  bioWrite := by intro s bs h; rw [(bioWrite_ctl (W := W) s bs).1.2.2.2]; exact h


theorem handleError_keeps (s : St σ ω) (err : SslErr) :
    CtlEq s (handleError W s err).2 ∧ (handleError W s err).2.e = s.e ∧ ∀ m, (handleError W s err).1 ≠ .abort m := by
  cases err <;> simp [Tls.handleError, CtlEq, waitUnder]

theorem handleLastError_keeps (s : St σ ω) :
    (handleLastError W s).2.g.pendingSend = s.g.pendingSend ∧ (handleLastError W s).2.g.engCalls = s.g.engCalls ∧
    (handleLastError W s).2.e = s.e ∧ ∀ m, (handleLastError W s).1 ≠ .abort m := by
  have h := handleError_keeps (W := W) s s.g.lastError
  unfold Tls.handleLastError
  rcases hh : Tls.handleError W s s.g.lastError with ⟨(_|_)|e|m, s'⟩ <;> rw [hh] at h <;> obtain ⟨⟨_, h2, h3, _⟩, h5, h6⟩ := h
  · exact ⟨h2, h3, h5, fun m hm => by cases hm⟩
  · exact ⟨h2, h3, h5, fun m hm => by cases hm⟩
  · exact ⟨h2, h3, h5, fun m hm => by cases hm⟩
  · exact absurd rfl (h6 m)

theorem handleResult_keeps (s : St σ ω) (ans : SslAns) :
    (handleResult W s ans).2.g.pendingSend = s.g.pendingSend ∧ (handleResult W s ans).2.g.engCalls = s.g.engCalls ∧
    (handleResult W s ans).2.e = s.e ∧ ∀ m, (handleResult W s ans).1 ≠ .abort m := by
  unfold Tls.handleResult
  split
  · exact ⟨rfl, rfl, rfl, fun m hm => by cases hm⟩
  · exact handleLastError_keeps (setLastError s ans.toErr)

theorem handleLastError_none (s : St σ ω) (h : s.g.lastError = .none) :
    handleLastError W s = (.ok true, setLastError s .none) := by
  unfold handleLastError; rw [h]; rfl

/-- the `res <= 0` branch of a round of `Read`, which `readRound` has inline (compare `writeRetry`) -/
def readRetry (C : Cfg) (W : World ω) (i : Nat) (s1 : St σ ω) (ans : SslAns) : Option (Out Bytes) × St σ ω :=
  match handleResult W s1 ans with
  | (.exn e, s2) => (some (.exn e), s2)
  | (.abort m, s2) => (some (.abort m), s2)
  | (.ok false, s2) => (some (.ok []), s2)
  | (.ok true, s2) =>
    if i = 0 ∧ C.asserts then (some (.abort "assert(i < handshakeStepsMax) in Read"), s2) else (none, s2)

theorem readRound_done_eq {C : Cfg} {E : Engine σ} {size i k : Nat} {s s1 : St σ ω} {out : Bytes}
    (h : interp W s (E.sslRead s.e size) = (.ok (.done k, out), s1)) :
    readRound C W E size i s = (some (.ok out), noteCall E s1 true [] (.done k)) := by
  unfold readRound; rw [h]

theorem readRound_retry_eq {C : Cfg} {E : Engine σ} {size i : Nat} {s s1 : St σ ω} {ans : SslAns}
    {out : Bytes} (h : interp W s (E.sslRead s.e size) = (.ok (ans, out), s1)) (hd : ans.isDone = false) :
    readRound C W E size i s = readRetry C W i (noteCall E s1 true [] ans) ans := by
  unfold readRound; rw [h]; cases ans <;> first | rfl | cases hd

theorem readRetry_snd (C : Cfg) (i : Nat) (s1 : St σ ω) (ans : SslAns) :
    (readRetry C W i s1 ans).2 = (handleResult W s1 ans).2 := by
  unfold readRetry
  rcases handleResult W s1 ans with ⟨(_|_)|_|_, s2⟩
  · rfl
  · dsimp only; split <;> rfl
  · rfl
  · rfl

theorem readRetry_ok {C : Cfg} {i : Nat} {s1 s' : St σ ω} {ans : SslAns} {bs : Bytes}
    (h : readRetry C W i s1 ans = (some (.ok bs), s')) : bs = [] := by
  unfold readRetry at h
  split at h
  · cases h
  · cases h
  · cases h; rfl
  · split at h <;> cases h

theorem writeRetry_snd (C : Cfg) (i' : Nat) (rest : Bytes) (s2 : St σ ω) (ans : SslAns) :
    (writeRetry C W i' rest s2 ans).2 = (handleResult W s2 ans).2 := by
  unfold writeRetry
  rcases handleResult W s2 ans with ⟨(_|_)|_|_, s3⟩
  · rfl
  · dsimp only; split <;> rfl
  · rfl
  · rfl

theorem receiveT_ok_ne {C : Cfg} {E : Engine σ} {s s' : St σ ω} {size : Nat} {t : Int} {bs : Bytes}
    (hbs : bs ≠ []) (h : receiveT C W E s size t = (.ok bs, s')) :
    tlsRead C W E (setTimeout s t) size = (.ok bs, s') := by
  unfold receiveT at h
  split at h
  · split at h
    · cases h
    · split at h <;> (cases h; exact absurd rfl hbs)
  · exact h

theorem receiveReadable_ok_ne {C : Cfg} {E : Engine σ} {s s' : St σ ω} {size : Nat} {bs : Bytes}
    (hbs : bs ≠ []) (h : receiveReadable C W E s size = (.ok bs, s')) :
    tlsRead C W E (prepReadable s) size = (.ok bs, s') := by
  unfold receiveReadable at h
  split at h
  · split at h <;> (cases h; exact absurd rfl hbs)
  · exact h

/-- a fatal answer of the engine always ends in an exception: the stashed socket failure if there is
one, else the TLS error -/
theorem handleResult_fatal (s : St σ ω) (ans : SslAns)
    (hf : ans = .zeroReturn ∨ ans = .syscallErr ∨ ans = .sslErr) : ∃ e s', handleResult W s ans = (.exn e, s') := by
  unfold Tls.handleResult
  split
  · exact ⟨_, _, rfl⟩
  · rcases hf with h | h | h <;> subst h <;> exact ⟨_, _, rfl⟩

theorem driverQuery_spec (E : Engine σ) (s : St σ ω) (po : Bool) :
    (∃ d, (driverQuery E s po).2 = { s with g := { s.g with driverSendSuppressed := d } }) ∧
    ((po = true ∨ s.g.driverSendSuppressed = true) →
      ((driverQuery E s po).1 = true ∨ (driverQuery E s po).2.g.driverSendSuppressed = true)) := by
  unfold driverQuery
  split
  · split
    · exact ⟨⟨_, rfl⟩, fun _ => Or.inl rfl⟩
    · split
      · exact ⟨⟨_, rfl⟩, fun h => Or.inr (by cases h with
          | inl h => simp [h]
          | inr h => simp [h])⟩
      · exact ⟨⟨_, rfl⟩, fun h => h⟩
  · split
    · exact ⟨⟨_, rfl⟩, fun _ => Or.inl rfl⟩
    · exact ⟨⟨_, rfl⟩, fun h => h⟩

theorem aQuery_spec (E : Engine σ) (x : ASt σ ω) :
    ∃ po d, aQuery E x = ⟨{ x.a with pollOut := po }, { x.s with g := { x.s.g with driverSendSuppressed := d } }⟩ := by
  unfold aQuery
  split
  · exact ⟨_, _, rfl⟩
  · obtain ⟨d, hd⟩ := (driverQuery_spec E x.s x.a.pollOut).1
    rcases hq : driverQuery E x.s x.a.pollOut with ⟨po, s'⟩
    rw [hq] at hd
    exact ⟨po, d, by rw [show s' = _ from hd]⟩

theorem aQuery_keeps (E : Engine σ) (x : ASt σ ω) :
    (aQuery E x).a.delivered = x.a.delivered ∧ (aQuery E x).a.disconnects = x.a.disconnects ∧
    (aQuery E x).a.registered = x.a.registered ∧ (aQuery E x).s.g.engCalls = x.s.g.engCalls ∧ (aQuery E x).s.w = x.s.w ∧
    (aQuery E x).s.e = x.s.e := by
  obtain ⟨po, d, h⟩ := aQuery_spec E x
  rw [h]; exact ⟨rfl, rfl, rfl, rfl, rfl, rfl⟩

theorem writeRetry_cases (C : Cfg) (i' : Nat) (rest : Bytes) (s2 : St σ ω) (ans : SslAns) :
    ∃ s3, s3.g.pendingSend = s2.g.pendingSend ∧ s3.g.engCalls = s2.g.engCalls ∧
      ((∃ e, writeRetry C W i' rest s2 ans = (.stop (.exn e), s3)) ∨
       writeRetry C W i' rest s2 ans = (.stop (.ok rest), s3) ∨
       writeRetry C W i' rest s2 ans = (.stop (.abort "assert(i < handshakeStepsMax) in Write"), s3) ∨
       writeRetry C W i' rest s2 ans = (.again i' rest, s3)) := by
  have hk := handleResult_keeps (W := W) s2 ans
  unfold writeRetry
  rcases hh : handleResult W s2 ans with ⟨(_|_)|e|m, s3⟩ <;> rw [hh] at hk
  · exact ⟨s3, hk.1, hk.2.1, Or.inr (Or.inl rfl)⟩
  · refine ⟨s3, hk.1, hk.2.1, Or.inr (Or.inr ?_)⟩
    dsimp only
    split
    · exact Or.inl rfl
    · exact Or.inr rfl
  · exact ⟨s3, hk.1, hk.2.1, Or.inl ⟨e, rfl⟩⟩
  · exact absurd rfl (hk.2.2.2 m)

/-- the `res > 0` branch of a round of `Write`, which `writeRound` has inline -/
def writeDone (C : Cfg) (i' : Nat) (rest : Bytes) (k : Nat) (s2 : St σ ω) : Next × St σ ω :=
  if 0 < k ∧ C.fixRoundReset then (.again C.stepsMax (rest.drop k), s2)
  else if i' = 0 ∧ C.asserts then (.stop (.abort "assert(i < handshakeStepsMax) in Write"), s2)
  else (.again i' (rest.drop k), s2)

theorem writeDone_cases (C : Cfg) (i' : Nat) (rest : Bytes) (k : Nat) (s2 : St σ ω) :
    (0 < k ∧ writeDone C i' rest k s2 = (.again C.stepsMax (rest.drop k), s2)) ∨
    writeDone C i' rest k s2 = (.again i' (rest.drop k), s2) ∨
    writeDone C i' rest k s2 = (.stop (.abort "assert(i < handshakeStepsMax) in Write"), s2) := by
  unfold writeDone
  split
  · rename_i h; exact Or.inl ⟨h.1, rfl⟩
  · split
    · exact Or.inr (Or.inr rfl)
    · exact Or.inr (Or.inl rfl)

theorem writeDone_snd (C : Cfg) (i' : Nat) (rest : Bytes) (k : Nat) (s2 : St σ ω) : (writeDone C i' rest k s2).2 = s2 := by
  rcases writeDone_cases C i' rest k s2 with ⟨_, h⟩ | h | h <;> rw [h]

theorem writeRound_assert_eq {C : Cfg} {E : Engine σ} {i' : Nat} {rest : Bytes} {s : St σ ω}
    (hp : C.asserts ∧ ¬ (s.g.pendingSend = [] ∨ s.g.pendingSend.length = rest.length)) :
    writeRound C W E i' rest s =
      (.stop (.abort "assert(pendingSend.empty() || pendingSend.size() == remaining.size())"), s) := by
  unfold writeRound; rw [if_pos hp]

theorem writeRound_done_eq {C : Cfg} {E : Engine σ} {i' k : Nat} {rest out : Bytes} {s s1 : St σ ω}
    (hp : ¬ (C.asserts ∧ ¬ (s.g.pendingSend = [] ∨ s.g.pendingSend.length = rest.length)))
    (h : interp W s (E.sslWrite s.e rest) = (.ok (.done k, out), s1)) :
    writeRound C W E i' rest s = writeDone C i' rest k (setPending (noteCall E s1 false rest (.done k)) []) := by
  unfold writeRound writeDone; rw [if_neg hp, h]

theorem writeRound_retry_eq {C : Cfg} {E : Engine σ} {i' : Nat} {rest out : Bytes} {s s1 : St σ ω}
    {ans : SslAns} (hp : ¬ (C.asserts ∧ ¬ (s.g.pendingSend = [] ∨ s.g.pendingSend.length = rest.length)))
    (h : interp W s (E.sslWrite s.e rest) = (.ok (ans, out), s1)) (hd : ans.isDone = false) :
    writeRound C W E i' rest s = writeRetry C W i' rest (setPending (noteCall E s1 false rest ans) rest) ans := by
  unfold writeRound; rw [if_neg hp, h]; cases ans <;> first | rfl | cases hd

/-- a round that goes on either consumed bytes or consumed a round -/
theorem writeRound_decreases (C : Cfg) (W : World ω) (E : Engine σ) (i' : Nat) (rest : Bytes) (s : St σ ω)
    (hne : rest ≠ []) (j : Nat) (rest' : Bytes) (s' : St σ ω)
    (h : writeRound C W E i' rest s = (.again j rest', s')) : roundDecreases rest i' rest' j := by
  have hl : 0 < rest.length := List.length_pos_iff.mpr hne
  obtain ⟨ans, out, s1, hi, _⟩ := interp_ok (W := W) _ _ (allLeaves_true (E.sslWrite s.e rest)) s
  by_cases hp : C.asserts ∧ ¬ (s.g.pendingSend = [] ∨ s.g.pendingSend.length = rest.length)
  · rw [writeRound_assert_eq hp] at h; cases h
  · cases hd : ans.isDone with
    | true =>
      cases ans with
      | done k =>
        rw [writeRound_done_eq hp hi] at h
        rcases writeDone_cases C i' rest k (setPending (noteCall E s1 false rest (.done k)) []) with ⟨hk, hc⟩ | hc | hc <;>
          rw [hc] at h <;> cases h
        · left; simp only [List.length_drop]; omega
        · unfold roundDecreases; simp only [List.length_drop]; omega
      | _ => cases hd
    | false =>
      rw [writeRound_retry_eq hp hi hd] at h
      obtain ⟨s3, _, _, ⟨e, hc⟩ | hc | hc | hc⟩ := writeRetry_cases (W := W) C i' rest (setPending (noteCall E s1 false rest ans) rest) ans <;>
        rw [hc] at h <;> cases h
      exact Or.inr ⟨rfl, Nat.le_refl _⟩

/-- loop rule for `writeLoop`: an invariant at the loop head that every round keeps, and a
postcondition that every way of leaving the loop establishes -/
theorem writeLoop_rule (C : Cfg) (W : World ω) (E : Engine σ)
    (Inv : Nat → Bytes → St σ ω → Prop) (Post : Out Bytes → St σ ω → Prop)
    (hexit : ∀ i rest s, Inv i rest s → (i = 0 ∨ rest = []) → Post (.ok rest) s)
    (hstop : ∀ i' rest s o s', Inv (i' + 1) rest s → rest ≠ [] →
      writeRound C W E i' rest s = (.stop o, s') → Post o s')
    (hagain : ∀ i' rest s j rest' s', Inv (i' + 1) rest s → rest ≠ [] →
      writeRound C W E i' rest s = (.again j rest', s') → Inv j rest' s')
    (i : Nat) (rest : Bytes) (s : St σ ω) (h : Inv i rest s) :
    Post (writeLoop C W E i rest s).1 (writeLoop C W E i rest s).2 := by
  fun_induction Tls.writeLoop C W E i rest s with
  | case1 rest s => exact hexit 0 rest s h (Or.inl rfl)
  | case2 s i' => exact hexit _ _ s h (Or.inr rfl)
  | case3 rest s i' hne o s' heq => exact hstop i' rest s o s' h hne heq
  | case4 rest s i' hne j rest' s' heq hdec ih => exact ih (hagain i' rest s j rest' s' h hne heq)
  | case5 rest s i' hne j rest' s' heq hdec =>
    exact absurd (writeRound_decreases C W E i' rest s hne j rest' s' heq) hdec

namespace Frame
variable {P : St σ ω → Prop}

theorem readRound (F : Frame W P) (C : Cfg) (E : Engine σ) (size i : Nat) (s : St σ ω) (h : P s) :
    P (readRound C W E size i s).2 := by
  obtain ⟨ans, out, s1, hi, _⟩ := interp_ok (W := W) _ _ (allLeaves_true (E.sslRead s.e size)) s
  have h1 := F.interp (E.sslRead s.e size) s h
  rw [hi] at h1
  have h2 := F.noteCall E s1 true [] ans h1
  have h3 := F.handleResult _ ans h2
  cases ans with
  | done k => rw [readRound_done_eq hi]; exact h2
  | _ => rw [readRound_retry_eq hi rfl, readRetry_snd]; exact h3

theorem readLoop (F : Frame W P) (C : Cfg) (E : Engine σ) (size : Nat) :
    ∀ (i : Nat) (s : St σ ω), P s → P (readLoop C W E size i s).2 := by
  intro i
  induction i with
  | zero => intro s h; exact h
  | succ i ih =>
    intro s h
    have h1 := F.readRound C E size i s h
    unfold Tls.readLoop
    split
    · rename_i o s' heq; rw [heq] at h1; exact h1
    · rename_i s' heq; rw [heq] at h1; exact ih s' h1

theorem tlsRead (F : Frame W P) (C : Cfg) (E : Engine σ) (s : St σ ω) (size : Nat) (h : P s) :
    P (tlsRead C W E s size).2 := by
  have h1 := F.handleLastError s h
  unfold Tls.tlsRead
  split
  · rename_i s' heq; rw [heq] at h1; exact F.readLoop C E size _ s' h1
  · rename_i s' heq; rw [heq] at h1; exact h1
  · rename_i e s' heq; rw [heq] at h1; exact h1
  · rename_i m s' heq; rw [heq] at h1; exact h1

theorem writeRound (F : Frame W P) (C : Cfg) (E : Engine σ) (i' : Nat) (rest : Bytes) (s : St σ ω) (h : P s) :
    P (writeRound C W E i' rest s).2 := by
  obtain ⟨ans, out, s1, hi, _⟩ := interp_ok (W := W) _ _ (allLeaves_true (E.sslWrite s.e rest)) s
  have h1 := F.interp (E.sslWrite s.e rest) s h
  rw [hi] at h1
  by_cases hp : C.asserts ∧ ¬ (s.g.pendingSend = [] ∨ s.g.pendingSend.length = rest.length)
  · rw [writeRound_assert_eq hp]; exact h
  · have h2 : P (setPending (Tls.noteCall E s1 false rest ans) []) := F.core h1 ⟨rfl, rfl, rfl, rfl⟩
    have h3 := F.handleResult (setPending (Tls.noteCall E s1 false rest ans) rest) ans (F.core h1 ⟨rfl, rfl, rfl, rfl⟩)
    cases ans with
    | done k => rw [writeRound_done_eq hp hi, writeDone_snd]; exact h2
    | _ => rw [writeRound_retry_eq hp hi rfl, writeRetry_snd]; exact h3

theorem writeLoop (F : Frame W P) (C : Cfg) (E : Engine σ) (i : Nat) (rest : Bytes) (s : St σ ω) (h : P s) :
    P (writeLoop C W E i rest s).2 :=
  writeLoop_rule C W E (fun _ _ s => P s) (fun _ s => P s)
    (fun _ _ _ h _ => h)
    (fun i' rest s o s' h _ heq => by have := F.writeRound C E i' rest s h; rw [heq] at this; exact this)
    (fun i' rest s j rest' s' h _ heq => by have := F.writeRound C E i' rest s h; rw [heq] at this; exact this)
    i rest s h

theorem tlsWrite (F : Frame W P) (C : Cfg) (E : Engine σ) (s : St σ ω) (data : Bytes) (h : P s) :
    P (tlsWrite C W E s data).2 := by
  have h1 := F.handleLastError s h
  unfold Tls.tlsWrite
  split
  · rename_i s' heq
    rw [heq] at h1
    have h2 := F.writeLoop C E C.stepsMax data s' h1
    split
    · rename_i r s'' heq2; rw [heq2] at h2; exact h2
    · rename_i r s'' heq2; rw [heq2] at h2; exact h2
    · rename_i r s'' heq2; rw [heq2] at h2; exact h2
  · rename_i s' heq; rw [heq] at h1; exact h1
  · rename_i e s' heq; rw [heq] at h1; exact h1
  · rename_i m s' heq; rw [heq] at h1; exact h1

theorem receiveT (F : Frame W P) (C : Cfg) (E : Engine σ) (s : St σ ω) (size : Nat) (t : Int) (h : P s) :
    P (receiveT C W E s size t).2 := by
  have h1 := F.tlsRead C E (setTimeout s t) size (F.core h ⟨rfl, rfl, rfl, rfl⟩)
  unfold Tls.receiveT
  split
  · rename_i s' heq
    rw [heq] at h1
    split
    · exact h1
    · split
      · exact F.core h1 ⟨rfl, rfl, rfl, rfl⟩
      · exact h1
  · exact h1

theorem receiveReadable (F : Frame W P) (C : Cfg) (E : Engine σ) (s : St σ ω) (size : Nat) (h : P s) :
    P (receiveReadable C W E s size).2 := by
  have h1 := F.tlsRead C E (prepReadable s) size (F.core h ⟨rfl, rfl, rfl, rfl⟩)
  unfold Tls.receiveReadable
  split
  · rename_i s' heq
    rw [heq] at h1
    split
    · exact F.core h1 ⟨rfl, rfl, rfl, rfl⟩
    · exact h1
  · exact h1

theorem sendT (F : Frame W P) (C : Cfg) (E : Engine σ) (s : St σ ω) (data : Bytes) (t : Int) (h : P s) :
    P (sendT C W E s data t).2 := by
  have h1 := F.tlsWrite C E (setTimeout s t) data (F.core h ⟨rfl, rfl, rfl, rfl⟩)
  unfold Tls.sendT
  split
  · rename_i n s' heq
    rw [heq] at h1
    split
    · exact F.core h1 ⟨rfl, rfl, rfl, rfl⟩
    · exact h1
  · exact h1

theorem sendSomeWritable (F : Frame W P) (C : Cfg) (E : Engine σ) (s : St σ ω) (data : Bytes) (h : P s) :
    P (sendSomeWritable C W E s data).2 := by
  unfold Tls.sendSomeWritable
  exact F.tlsWrite C E _ data (F.core h ⟨rfl, rfl, rfl, rfl⟩)

theorem driverPending (F : Frame W P) (C : Cfg) (E : Engine σ) (s : St σ ω) (h : P s) :
    P (driverPending C W E s).2 := by
  unfold Tls.driverPending
  split
  · exact h
  · have h1 := F.tlsRead C E (prepWritable s) 64 (F.core h ⟨rfl, rfl, rfl, rfl⟩)
    split
    · rename_i s' heq; rw [heq] at h1; exact h1
    · rename_i bs s' _ heq; rw [heq] at h1; exact h1
    · rename_i e s' heq; rw [heq] at h1; exact h1
    · rename_i m s' heq; rw [heq] at h1; exact h1

theorem driverQuery (F : Frame W P) (E : Engine σ) (s : St σ ω) (po : Bool)
    (hsup : ∀ s b, P s → P { s with g := { s.g with driverSendSuppressed := b } }) (h : P s) :
    P (driverQuery E s po).2 := by
  obtain ⟨d, hd⟩ := (driverQuery_spec E s po).1
  rw [hd]; exact hsup s d h

/-- a frame predicate that also ignores `driverSendSuppressed` survives every history of calls -/
theorem run (F : Frame W P) (C : Cfg) (E : Engine σ)
    (hsup : ∀ s b, P s → P { s with g := { s.g with driverSendSuppressed := b } })
    (ops : List Op) : ∀ (s : St σ ω), P s → P (run C W E s ops) := by
  induction ops with
  | nil => intro s h; exact h
  | cons op ops ih =>
    intro s h
    apply ih
    cases op with
    | recvT n t => exact F.receiveT C E s n t h
    | recvReadable n => exact F.receiveReadable C E s n h
    | sendT d t => exact F.sendT C E s d t h
    | sendWritable d => exact F.sendSomeWritable C E s d h
    | query po => exact F.driverQuery E s po hsup h
    | pending => exact F.driverPending C E s h

end Frame

/-- a round that took bytes does not count against `handshakeStepsMax` (e3dfab5, `fixRoundReset`) -/
theorem writeLoop_complete (C : Cfg) (hfix : C.fixRoundReset = true) (hpos : 0 < C.stepsMax) (E : Engine σ)
    (hE : ∀ s d, AllLeaves (fun a _ _ => ∃ k, a = .done k ∧ 0 < k) (E.sslWrite s d)) (s : St σ ω) (data : Bytes)
    (hp : s.g.pendingSend = [] ∨ s.g.pendingSend = data) : (writeLoop C W E C.stepsMax data s).1 = .ok [] := by
  have round : ∀ i' rest (s0 : St σ ω), (s0.g.pendingSend = [] ∨ s0.g.pendingSend = rest) →
      ∃ k s', writeRound C W E i' rest s0 = (.again C.stepsMax (rest.drop k), s') ∧ s'.g.pendingSend = [] := by
    intro i' rest s0 hp0
    obtain ⟨ans, out, s1, hi, _, k, hk, hk0⟩ := interp_ok (W := W) _ _ (hE s0.e rest) s0
    subst hk
    refine ⟨k, setPending (noteCall E s1 false rest (.done k)) [], ?_, rfl⟩
    rw [writeRound_done_eq (fun hc => hc.2 (hp0.imp id (congrArg List.length))) hi, writeDone, if_pos ⟨hk0, hfix⟩]
  refine writeLoop_rule C W E (fun i rest s0 => 0 < i ∧ (s0.g.pendingSend = [] ∨ s0.g.pendingSend = rest))
    (fun o _ => o = .ok []) ?_ ?_ ?_ C.stepsMax data s ⟨hpos, hp⟩
  · intro i rest s0 h hex
    rcases hex with h0 | h0
    · omega
    · rw [h0]
  · intro i' rest s0 o s' h _ heq
    obtain ⟨k, s'', hr, _⟩ := round i' rest s0 h.2
    rw [hr] at heq; cases heq
  · intro i' rest s0 j rest' s' h _ heq
    obtain ⟨k, s'', hr, hpd⟩ := round i' rest s0 h.2
    rw [hr] at heq
    cases heq
    exact ⟨hpos, Or.inl hpd⟩

theorem aTask_route {motive : Out Unit × ASt σ ω → Prop} (C : Cfg) (E : Engine σ) (rx : Nat)
    (x : ASt σ ω) (rev : REvents)
    (idle : motive (.ok (), x))
    (rd : x.a.registered = true → motive (aReadable C W E rx x))
    (wr : x.a.registered = true → x.a.pollOut = true → motive (aWritable C W E x))
    (hup : x.a.registered = true → motive (.ok (), aDisconnect x)) :
    motive (aTask C W E rx x rev) := by
  unfold aTask
  by_cases hreg : x.a.registered = true
  · rw [if_neg (by simp [hreg])]
    split
    · exact rd hreg
    · split
      · rename_i h; exact wr hreg h.2
      · split
        · exact hup hreg
        · exact idle
  · rw [if_pos (by simp [hreg])]; exact idle

theorem aReadable_route {motive : Out Unit × ASt σ ω → Prop} (C : Cfg) (E : Engine σ) (rx : Nat)
    (x : ASt σ ω)
    (quiet : ∀ o, motive (o, { x with s := (receiveReadable C W E x.s rx).2 }))
    (deliver : ∀ bs s', bs ≠ [] → receiveReadable C W E x.s rx = (.ok bs, s') →
      motive (.ok (), { a := { x.a with delivered := bs :: x.a.delivered }, s := s' }))
    (disc : motive (.ok (), aDisconnect { x with s := (receiveReadable C W E x.s rx).2 })) :
    motive (aReadable C W E rx x) := by
  unfold aReadable
  split
  · rename_i s' heq; have := quiet (.ok ()); rwa [heq] at this
  · rename_i bs s' hne heq; exact deliver bs s' hne heq
  · rename_i e s' heq
    split
    · have := disc; rwa [heq] at this
    · have := quiet (.exn e); rwa [heq] at this
  · rename_i m s' heq; have := quiet (.abort m); rwa [heq] at this

theorem aWritable_keeps (C : Cfg) (E : Engine σ) (x : ASt σ ω) :
    (aWritable C W E x).2.a.delivered = x.a.delivered ∧ (aWritable C W E x).2.a.disconnects = x.a.disconnects ∧
    (aWritable C W E x).2.a.registered = x.a.registered := by
  unfold aWritable
  split
  · split <;> exact ⟨rfl, rfl, rfl⟩
  · split
    · split <;> exact ⟨rfl, rfl, rfl⟩
    · split <;> exact ⟨rfl, rfl, rfl⟩
    · exact ⟨rfl, rfl, rfl⟩

theorem aWritable_pollOut (C : Cfg) (E : Engine σ) (x : ASt σ ω) (hpo : x.a.pollOut = true) :
    (aWritable C W E x).2.a.sendQ ≠ [] → (aWritable C W E x).2.a.pollOut = true := by
  have keep : ∀ rest : List Bytes, rest ≠ [] → (if rest.isEmpty then false else x.a.pollOut) = true := by
    intro rest hr; cases rest with
    | nil => exact absurd rfl hr
    | cons b r => exact hpo
  unfold aWritable
  split
  · rename_i hq0
    split <;> exact fun hq => absurd hq0 hq
  · rename_i buf rest hq0
    split
    · split
      · exact keep rest
      · exact fun _ => hpo
    · split
      · exact keep rest
      · exact fun _ => hpo
    · exact fun _ => hpo

/-! ### the engine-call log of `Write` -/

/-- what the next `ssl_write` is given after an answer -/
def afterAns (ans : SslAns) (rest : Bytes) : Bytes :=
  match ans with
  | .done k => rest.drop k
  | _ => rest

/-- the `ssl_write` calls of one `Write(data)`, oldest first, and the unsent suffix they leave:
every call is handed exactly the current unsent suffix - after `want*` the same bytes again -/
inductive WriteChain (data : Bytes) : List EngCall → Bytes → Prop where
  | nil : WriteChain data [] data
  | snoc {cs : List EngCall} {rest : Bytes} (c : EngCall) : WriteChain data cs rest → c.isRead = false → c.arg = rest →
      WriteChain data (cs ++ [c]) (afterAns c.ans rest)

/-- plaintext bytes the engine reported as taken -/
def consumed : List EngCall → Nat
  | [] => 0
  | c :: cs => (match c.ans with | .done k => k | _ => 0) + consumed cs

theorem consumed_append (a b : List EngCall) : consumed (a ++ b) = consumed a + consumed b := by
  induction a with
  | nil => simp [consumed]
  | cons c cs ih => simp [consumed, ih]; omega

theorem WriteChain.rest_eq {data : Bytes} {cs : List EngCall} {rest : Bytes} (h : WriteChain data cs rest) :
    rest = data.drop (consumed cs) := by
  induction h with
  | nil => simp [consumed]
  | snoc c hc hr ha ih =>
    rw [consumed_append]
    cases hans : c.ans <;> simp [afterAns, consumed, hans, ih, List.drop_drop]

end SockModel.Tls
