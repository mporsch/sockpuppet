import SockModel.Model.TlsLog
import SockModel.Model.TlsSim
/-!
The logging world is transparent: running `Read`, `Write`, the four entry points, `DriverQuery`, `DriverPending` or a history
of them (`run`) on `logWorld W` and then forgetting the log (`unlog`) is the same as running it on `W` from the unlogged
state.  (`Shutdown()` and the asynchronous layer are not covered; nothing uses the log there.)
-/
namespace SockModel.Tls
open SockModel.Net
variable {σ ω : Type}

/-! ### socket layer -/

def RecvRes.unlog : RecvRes (ω × List WaitRec) → RecvRes ω
  | .got bs w => .got bs w.1
  | .nothing w => .nothing w.1
  | .exn e w => .exn e w.1

def SendRes.unlog (r : SendRes (ω × List WaitRec)) : SendRes ω := ⟨r.sent, r.exn, r.w.1⟩

@[simp] theorem SendRes.unlog_sent (r : SendRes (ω × List WaitRec)) : (SendRes.unlog r).sent = r.sent := rfl
@[simp] theorem SendRes.unlog_exn (r : SendRes (ω × List WaitRec)) : (SendRes.unlog r).exn = r.exn := rfl
@[simp] theorem SendRes.unlog_w (r : SendRes (ω × List WaitRec)) : (SendRes.unlog r).w = r.w.1 := rfl

theorem logWorld_send_eq (W : World ω) (x : ω × List WaitRec) (bs : Bytes) :
    (logWorld W).send x bs = ((W.send x.1 bs).1, ((W.send x.1 bs).2, x.2)) := rfl
theorem logWorld_recv_eq (W : World ω) (x : ω × List WaitRec) (n : Nat) :
    (logWorld W).recv x n = ((W.recv x.1 n).1, ((W.recv x.1 n).2, x.2)) := rfl
theorem logWorld_wait_eq (W : World ω) (x : ω × List WaitRec) (d : Dir) (t : Int) :
    (logWorld W).wait x d t = ((W.wait x.1 d t).1, ((W.wait x.1 d t).2, ⟨d, t, W.now x.1⟩ :: x.2)) := rfl

theorem sendNow_unlog (W : World ω) (x : ω × List WaitRec) (bs : Bytes) :
    SendRes.unlog (sendNow (logWorld W) x bs) = sendNow W x.1 bs := by
  unfold sendNow
  rw [logWorld_send_eq]
  rcases h : W.send x.1 bs with ⟨a, w'⟩
  cases a with
  | fail e => rfl
  | accept k =>
    simp only
    split <;> rfl

theorem recvNow_unlog (W : World ω) (x : ω × List WaitRec) (n : Nat) :
    RecvRes.unlog (recvNow (logWorld W) x n) = recvNow W x.1 n := by
  unfold recvNow
  rw [logWorld_recv_eq]
  rcases h : W.recv x.1 n with ⟨a, w'⟩
  cases a with
  | fail e => rfl
  | data bs =>
    simp only
    split <;> rfl

theorem receive_unlog (W : World ω) (x : ω × List WaitRec) (n : Nat) (t : Int) :
    RecvRes.unlog (receive (logWorld W) x n t) = receive W x.1 n t := by
  unfold receive
  rw [logWorld_wait_eq]
  rcases h : W.wait x.1 .rd t with ⟨a, w'⟩
  cases a with
  | false => rfl
  | true => exact recvNow_unlog W _ n

theorem sendAll_unlog (W : World ω) (x : ω × List WaitRec) (bs : Bytes) (acc : Nat) :
    SendRes.unlog (sendAll (logWorld W) x bs acc) = sendAll W x.1 bs acc := by
  fun_induction Net.sendAll (logWorld W) x bs acc with
  | case1 x bs acc r hx | case2 x bs acc r hx hrest | case4 x bs acc r hx hrest hpos =>
    have hr : sendNow W (W.wait x.1 .wr (-1)).2 bs = SendRes.unlog r :=
      (sendNow_unlog W ((logWorld W).wait x .wr (-1)).2 bs).symm
    rw [Net.sendAll]
    simp only [SendRes.unlog_exn, SendRes.unlog_sent, SendRes.unlog_w, *, dite_true, dite_false, if_true]
    rfl
  | case3 x bs acc r hx hrest hpos ih =>
    have hr : sendNow W (W.wait x.1 .wr (-1)).2 bs = SendRes.unlog r :=
      (sendNow_unlog W ((logWorld W).wait x .wr (-1)).2 bs).symm
    rw [ih]; conv => rhs; rw [Net.sendAll]
    simp only [SendRes.unlog_exn, SendRes.unlog_sent, SendRes.unlog_w, *, dite_true, dite_false]
    rfl

theorem sendTry_unlog (W : World ω) (x : ω × List WaitRec) (bs : Bytes) :
    SendRes.unlog (sendTry (logWorld W) x bs) = sendTry W x.1 bs := by
  unfold sendTry
  rw [logWorld_wait_eq]
  rcases h : W.wait x.1 .wr 0 with ⟨a, w'⟩
  cases a with
  | false => rfl
  | true => exact sendNow_unlog W _ bs

def unlogS (p : SendRes (ω × List WaitRec) × Int) : SendRes ω × Int := (SendRes.unlog p.1, p.2)

theorem sendSome_unlog (W : World ω) (x : ω × List WaitRec) (bs : Bytes) (dl tick : Int) (acc : Nat) :
    unlogS (sendSome (logWorld W) x bs dl tick acc) = sendSome W x.1 bs dl tick acc := by
  fun_induction Net.sendSome (logWorld W) x bs dl tick acc with
  | case1 x bs tick acc wt hw =>
    rw [Net.sendSome]
    simp only [show (W.wait x.1 .wr (remainingMs dl tick)).1 = false from hw, if_true]
    rfl
  | case2 x bs tick acc wt hw tick' r hx | case3 x bs tick acc wt hw tick' r hx hrest =>
    have hw' : ¬ (W.wait x.1 .wr (remainingMs dl tick)).1 = false := hw
    have hr : sendNow W (W.wait x.1 .wr (remainingMs dl tick)).2 bs = SendRes.unlog r :=
      (sendNow_unlog W ((logWorld W).wait x .wr (remainingMs dl tick)).2 bs).symm
    rw [Net.sendSome]
    simp only [SendRes.unlog_exn, SendRes.unlog_sent, SendRes.unlog_w, *, dite_true, if_true]
    rfl
  | case5 x bs tick acc wt hw tick' r hx hrest hlt hpos | case6 x bs tick acc wt hw tick' r hx hrest hlt =>
    have hw' : ¬ (W.wait x.1 .wr (remainingMs dl tick)).1 = false := hw
    have hr : sendNow W (W.wait x.1 .wr (remainingMs dl tick)).2 bs = SendRes.unlog r :=
      (sendNow_unlog W ((logWorld W).wait x .wr (remainingMs dl tick)).2 bs).symm
    have hlt' : (W.now (W.wait x.1 .wr (remainingMs dl tick)).2 < dl) = (tick' < dl) := rfl
    rw [Net.sendSome]
    simp only [SendRes.unlog_exn, SendRes.unlog_sent, SendRes.unlog_w, *, dite_false, if_true, if_false]
    rfl
  | case4 x bs tick acc wt hw tick' r hx hrest hlt hpos ih =>
    have hw' : ¬ (W.wait x.1 .wr (remainingMs dl tick)).1 = false := hw
    have hr : sendNow W (W.wait x.1 .wr (remainingMs dl tick)).2 bs = SendRes.unlog r :=
      (sendNow_unlog W ((logWorld W).wait x .wr (remainingMs dl tick)).2 bs).symm
    have hlt' : W.now (W.wait x.1 .wr (remainingMs dl tick)).2 < dl := hlt
    rw [ih]; conv => rhs; rw [Net.sendSome]
    simp only [SendRes.unlog_exn, SendRes.unlog_sent, SendRes.unlog_w, *, dite_true, dite_false, if_true]
    rfl

/-! ### glue layer -/

def unlogP {α : Type} (p : α × St σ (ω × List WaitRec)) : α × St σ ω := (p.1, unlog p.2)

theorem unlogP_cases {α : Type} {X : α × St σ (ω × List WaitRec)} {Y : α × St σ ω} (h : unlogP X = Y) :
    ∃ a s', X = (a, s') ∧ Y = (a, unlog s') := ⟨X.1, X.2, rfl, h.symm⟩

theorem snd_of_unlogP {α : Type} {X : α × St σ (ω × List WaitRec)} {Y : α × St σ ω} (h : unlogP X = Y) :
    unlog X.2 = Y.2 := congrArg Prod.snd h

theorem waitUnder_unlog (W : World ω) (s : St σ (ω × List WaitRec)) (d : Dir) :
    unlogP (waitUnder (logWorld W) s d) = waitUnder W (unlog s) d := rfl

theorem bioRead_unlog (W : World ω) (s : St σ (ω × List WaitRec)) (n : Nat) :
    unlogP (bioRead (logWorld W) s n) = bioRead W (unlog s) n := by
  rcases s with ⟨⟨le, ps, rt, ir, iw, dss, pe, wire, bw, ec⟩, e, w⟩
  cases ir with
  | true =>
    have h := recvNow_unlog W w n
    simp only [bioRead, unlog, if_true]
    cases hL : recvNow (logWorld W) w n with
    | got bs w' => rw [hL] at h; rw [← h]; rfl
    | nothing w' => rw [hL] at h; rw [← h]; rfl
    | exn e w' => rw [hL] at h; rw [← h]; rfl
  | false =>
    have h := receive_unlog W w n rt
    simp only [bioRead, unlog, Bool.false_eq_true, if_false]
    cases hL : receive (logWorld W) w n rt with
    | got bs w' => rw [hL] at h; rw [← h]; rfl
    | nothing w' => rw [hL] at h; rw [← h]; rfl
    | exn e w' => rw [hL] at h; rw [← h]; rfl

theorem noteWrite_unlog (s : St σ (ω × List WaitRec)) (bs : Bytes) (r : SendRes (ω × List WaitRec)) (rem : Int) :
    unlogP (noteWrite s bs r rem) = noteWrite (unlog s) bs (SendRes.unlog r) rem := by
  rcases r with ⟨k, x, w⟩
  cases x <;> rfl

theorem bioWrite_unlog (W : World ω) (s : St σ (ω × List WaitRec)) (bs : Bytes) :
    unlogP (bioWrite (logWorld W) s bs) = bioWrite W (unlog s) bs := by
  rcases s with ⟨⟨le, ps, rt, ir, iw, dss, pe, wire, bw, ec⟩, e, w⟩
  cases iw with
  | true =>
    show unlogP (bioWrite (logWorld W) ⟨⟨le, ps, rt, ir, true, dss, pe, wire, bw, ec⟩, e, w⟩ bs) =
      bioWrite W ⟨⟨le, ps, rt, ir, true, dss, pe, wire, bw, ec⟩, e, w.1⟩ bs
    simp only [bioWrite, if_true]
    rw [noteWrite_unlog, sendNow_unlog]
    rfl
  | false =>
    show unlogP (bioWrite (logWorld W) ⟨⟨le, ps, rt, ir, false, dss, pe, wire, bw, ec⟩, e, w⟩ bs) =
      bioWrite W ⟨⟨le, ps, rt, ir, false, dss, pe, wire, bw, ec⟩, e, w.1⟩ bs
    simp only [bioWrite, Bool.false_eq_true, if_false]
    by_cases h1 : rt < 0
    · rw [if_pos h1, if_pos h1, noteWrite_unlog, sendAll_unlog]; rfl
    · rw [if_neg h1, if_neg h1]
      by_cases h2 : rt = 0
      · rw [if_pos h2, if_pos h2, noteWrite_unlog, sendTry_unlog]; rfl
      · rw [if_neg h2, if_neg h2]
        have h := sendSome_unlog W w bs (W.now w.1 + rt) (W.now w.1) 0
        rw [noteWrite_unlog]
        rw [← h]
        rfl

/-- forgetting the log commutes with the three primitive actions, hence (`SimFrame`) with `Read` and `Write` -/
theorem unlogFrame (W : World ω) : SimFrame (σ := σ) (logWorld W) W unlog (fun _ => True) where
  same := fun _ => ⟨rfl, rfl, rfl, rfl, rfl⟩
  upd := fun _ _ _ _ _ _ => ⟨rfl, id⟩
  wait := fun _ _ _ => ⟨rfl, trivial⟩
  bioRead := fun s n _ => ⟨(bioRead_unlog W s n).symm, trivial⟩
  bioWrite := fun s bs _ => ⟨(bioWrite_unlog W s bs).symm, trivial⟩

theorem unlogP_ite {α : Type} (c : Prop) [Decidable c] (x y : α × St σ (ω × List WaitRec)) :
    unlogP (if c then x else y) = if c then unlogP x else unlogP y := by
  split <;> rfl

theorem tlsRead_unlog (C : Cfg) (W : World ω) (E : Engine σ) (s : St σ (ω × List WaitRec)) (size : Nat) :
    unlogP (tlsRead C (logWorld W) E s size) = tlsRead C W E (unlog s) size :=
  ((unlogFrame W).tlsRead C E s size trivial).1.symm

theorem tlsWrite_unlog (C : Cfg) (W : World ω) (E : Engine σ) (s : St σ (ω × List WaitRec)) (data : Bytes) :
    unlogP (tlsWrite C (logWorld W) E s data) = tlsWrite C W E (unlog s) data :=
  ((unlogFrame W).tlsWrite C E s data trivial).1.symm

/-! ### entry points -/

theorem receiveT_unlogP (C : Cfg) (W : World ω) (E : Engine σ) (s : St σ (ω × List WaitRec)) (n : Nat) (t : Int) :
    unlogP (receiveT C (logWorld W) E s n t) = receiveT C W E (unlog s) n t := by
  obtain ⟨a, s', hL, hR⟩ : ∃ a s', tlsRead C (logWorld W) E (setTimeout s t) n = (a, s') ∧
      tlsRead C W E (setTimeout (unlog s) t) n = (a, unlog s') :=
    unlogP_cases (tlsRead_unlog C W E (setTimeout s t) n)
  unfold receiveT
  rw [hL, hR]
  rcases a with (_|⟨b, bs⟩)|_|_
  · simp only [unlogP_ite]; rfl
  · rfl
  · rfl
  · rfl

theorem receiveReadable_unlogP (C : Cfg) (W : World ω) (E : Engine σ) (s : St σ (ω × List WaitRec)) (n : Nat) :
    unlogP (receiveReadable C (logWorld W) E s n) = receiveReadable C W E (unlog s) n := by
  obtain ⟨a, s', hL, hR⟩ : ∃ a s', tlsRead C (logWorld W) E (prepReadable s) n = (a, s') ∧
      tlsRead C W E (prepReadable (unlog s)) n = (a, unlog s') :=
    unlogP_cases (tlsRead_unlog C W E (prepReadable s) n)
  unfold receiveReadable
  rw [hL, hR]
  rcases a with (_|⟨b, bs⟩)|_|_
  · simp only [unlogP_ite]; rfl
  · rfl
  · rfl
  · rfl

theorem sendT_unlogP (C : Cfg) (W : World ω) (E : Engine σ) (s : St σ (ω × List WaitRec)) (data : Bytes) (t : Int) :
    unlogP (sendT C (logWorld W) E s data t) = sendT C W E (unlog s) data t := by
  obtain ⟨a, s', hL, hR⟩ : ∃ a s', tlsWrite C (logWorld W) E (setTimeout s t) data = (a, s') ∧
      tlsWrite C W E (setTimeout (unlog s) t) data = (a, unlog s') :=
    unlogP_cases (tlsWrite_unlog C W E (setTimeout s t) data)
  unfold sendT
  rw [hL, hR]
  rcases a with _|_|_
  · simp only [unlogP_ite]; rfl
  · rfl
  · rfl

theorem sendSomeWritable_unlogP (C : Cfg) (W : World ω) (E : Engine σ) (s : St σ (ω × List WaitRec)) (data : Bytes) :
    unlogP (sendSomeWritable C (logWorld W) E s data) = sendSomeWritable C W E (unlog s) data :=
  tlsWrite_unlog C W E (prepWritable s) data

theorem driverQuery_unlogP (E : Engine σ) (s : St σ (ω × List WaitRec)) (po : Bool) :
    unlogP (driverQuery E s po) = driverQuery E (unlog s) po := by
  simp only [driverQuery, unlogP_ite]
  rfl

theorem driverPending_unlogP (C : Cfg) (W : World ω) (E : Engine σ) (s : St σ (ω × List WaitRec)) :
    unlogP (driverPending C (logWorld W) E s) = driverPending C W E (unlog s) := by
  obtain ⟨a, s', hL, hR⟩ : ∃ a s', tlsRead C (logWorld W) E (prepWritable s) 64 = (a, s') ∧
      tlsRead C W E (prepWritable (unlog s)) 64 = (a, unlog s') :=
    unlogP_cases (tlsRead_unlog C W E (prepWritable s) 64)
  unfold driverPending
  rw [hL, hR, unlogP_ite]
  rcases a with (_|⟨b, bs⟩)|_|_ <;> rfl

theorem receiveT_unlog (C : Cfg) (W : World ω) (E : Engine σ) (s : St σ (ω × List WaitRec)) (n : Nat) (t : Int) :
    (receiveT C (logWorld W) E s n t).1 = (receiveT C W E (unlog s) n t).1 ∧
    unlog (receiveT C (logWorld W) E s n t).2 = (receiveT C W E (unlog s) n t).2 :=
  ⟨congrArg Prod.fst (receiveT_unlogP C W E s n t), congrArg Prod.snd (receiveT_unlogP C W E s n t)⟩

theorem sendT_unlog (C : Cfg) (W : World ω) (E : Engine σ) (s : St σ (ω × List WaitRec)) (data : Bytes) (t : Int) :
    (sendT C (logWorld W) E s data t).1 = (sendT C W E (unlog s) data t).1 ∧
    unlog (sendT C (logWorld W) E s data t).2 = (sendT C W E (unlog s) data t).2 :=
  ⟨congrArg Prod.fst (sendT_unlogP C W E s data t), congrArg Prod.snd (sendT_unlogP C W E s data t)⟩

theorem apply_unlog (C : Cfg) (W : World ω) (E : Engine σ) (s : St σ (ω × List WaitRec)) (op : Op) :
    unlog (apply C (logWorld W) E s op) = apply C W E (unlog s) op := by
  cases op with
  | recvT n t => exact snd_of_unlogP (receiveT_unlogP C W E s n t)
  | recvReadable n => exact snd_of_unlogP (receiveReadable_unlogP C W E s n)
  | sendT d t => exact snd_of_unlogP (sendT_unlogP C W E s d t)
  | sendWritable d => exact snd_of_unlogP (sendSomeWritable_unlogP C W E s d)
  | query po => exact snd_of_unlogP (driverQuery_unlogP E s po)
  | pending => exact snd_of_unlogP (driverPending_unlogP C W E s)

theorem run_unlog (C : Cfg) (W : World ω) (E : Engine σ) (s : St σ (ω × List WaitRec)) (ops : List Op) :
    unlog (run C (logWorld W) E s ops) = run C W E (unlog s) ops := by
  induction ops generalizing s with
  | nil => rfl
  | cons op ops ih =>
    show unlog (run C (logWorld W) E (apply C (logWorld W) E s op) ops) = run C W E (apply C W E (unlog s) op) ops
    rw [ih, apply_unlog]

/-- the log is write-only: nothing the wrapped world answers depends on it -/
theorem logWorld_transparent (W : World ω) (x : ω × List WaitRec) :
    (∀ d t, ((logWorld W).wait x d t).1 = (W.wait x.1 d t).1 ∧ ((logWorld W).wait x d t).2.1 = (W.wait x.1 d t).2) ∧
    (∀ bs, ((logWorld W).send x bs).1 = (W.send x.1 bs).1 ∧ ((logWorld W).send x bs).2.1 = (W.send x.1 bs).2) ∧
    (∀ n, ((logWorld W).recv x n).1 = (W.recv x.1 n).1 ∧ ((logWorld W).recv x n).2.1 = (W.recv x.1 n).2) ∧
    (logWorld W).now x = W.now x.1 :=
  ⟨fun _ _ => ⟨rfl, rfl⟩, fun _ => ⟨rfl, rfl⟩, fun _ => ⟨rfl, rfl⟩, rfl⟩

end SockModel.Tls
