import SockModel.Model.HsSched
import SockModel.Model.TlsSim
/-!
Limited timeouts `T ≥ 0` on the two-endpoint composition, under virtual time.

`chanWorldT` is `chanWorld` with a clock: a wait with argument `t` that finds the descriptor not ready *times out
after `t`* (the clock advances by `t`; the peer cannot act meanwhile, because the composition is sequential: one call
of one endpoint runs to its end before the next call starts); a wait that finds it ready, `send` and `recv` take no
time.  (An unlimited wait, `t < 0`, that finds nothing ready has no meaning in a sequential composition - it would
never return; `chanWorldT` answers "not ready" without advancing the clock, and nothing below uses it.)

Main result (`callOnT_sim`): for ANY engine (any interaction tree), a `Send`/`Receive` with a timeout `T ≥ 0` on
`chanWorldT` does to engine, channels and glue exactly what the same call with timeout 0 does on `chanWorld`; only
`remainingTime` and the clock differ, and `clock + remainingTime` is constant during the call, so the call returns no
later than `T` after it began.
-/
namespace SockModel.Hs
open SockModel.Net SockModel.Tls

structure ChanT where
  ch : Chan := {}
  clock : Int := 0

/-- `chanWorld` under virtual time -/
def chanWorldT (client : Bool) : World ChanT where
  wait w d t :=
    let r := (chanWorld client).wait w.ch d t
    (r.1, { ch := r.2, clock := if r.1 then w.clock else w.clock + (if 0 < t then t else 0) })
  send w bs := (((chanWorld client).send w.ch bs).1, { w with ch := ((chanWorld client).send w.ch bs).2 })
  recv w n := (((chanWorld client).recv w.ch n).1, { w with ch := ((chanWorld client).recv w.ch n).2 })
  now w := w.clock

variable {σ : Type}

/-- forget the clock and the budget -/
def proj (s : St σ ChanT) : St σ Chan := { g := { s.g with remainingTime := 0 }, e := s.e, w := s.w.ch }

/-- the budget invariant of a call with a timeout `T ≥ 0` that began at `c - T`: the budget is not negative, and what
is left of it ends exactly at `c` -/
def Bud (c : Int) (s : St σ ChanT) : Prop := 0 ≤ s.g.remainingTime ∧ s.w.clock + s.g.remainingTime = c

theorem wait_wr (r : Bool) (w : ChanT) (t : Int) : (chanWorldT r).wait w .wr t = (true, w) := rfl
theorem wait_rd (r : Bool) (w : ChanT) (t : Int) :
    (chanWorldT r).wait w .rd t =
      (decide (0 < w.ch.inb r), { w with clock := if decide (0 < w.ch.inb r) then w.clock else w.clock + (if 0 < t then t else 0) }) := rfl
theorem now_T (r : Bool) (w : ChanT) : (chanWorldT r).now w = w.clock := rfl
theorem send_T (r : Bool) (w : ChanT) (bs : Bytes) :
    (chanWorldT r).send w bs = (.accept bs.length, { w with ch := w.ch.addOut r bs.length }) := rfl
theorem recv_T (r : Bool) (w : ChanT) (n : Nat) :
    (chanWorldT r).recv w n = (.data (zeros (pick w.ch.segs.head? (min n (w.ch.inb r)))),
      { w with ch := w.ch.takeIn r (pick w.ch.segs.head? (min n (w.ch.inb r))) }) := rfl
/-! ### the primitives of `chanWorldT` -/

theorem sendNow_T (r : Bool) (w : ChanT) (bs : Bytes) :
    sendNow (chanWorldT r) w bs = ⟨bs.length, none, { w with ch := w.ch.addOut r bs.length }⟩ :=
  sendNow_full _ _ _ _ rfl

theorem sendTry_T (r : Bool) (w : ChanT) (bs : Bytes) :
    sendTry (chanWorldT r) w bs = ⟨bs.length, none, { w with ch := w.ch.addOut r bs.length }⟩ := by
  unfold sendTry; rw [wait_wr]; exact sendNow_T r w bs

/-- `SendSome` under a limited budget on the healthy channel: one wait (ready at once), one `send` that takes
everything; the `Tick` reads the clock of the entry -/
theorem sendSome_T (r : Bool) (w : ChanT) (bs : Bytes) (dl : Int) :
    sendSome (chanWorldT r) w bs dl w.clock = (⟨bs.length, none, { w with ch := w.ch.addOut r bs.length }⟩, w.clock) := by
  rw [sendSome]
  simp only [wait_wr, sendNow_T, now_T]
  simp

theorem recvNow_T (r : Bool) (w : ChanT) (n : Nat) :
    recvNow (chanWorldT r) w n =
      match (recvOut r w.ch n).1 with
      | none => .exn .closed { w with ch := (recvOut r w.ch n).2 }
      | some bs => .got bs { w with ch := (recvOut r w.ch n).2 } := by
  unfold recvNow recvOut
  rw [recv_T]
  simp only
  split <;> simp_all

theorem receive_T (r : Bool) (w : ChanT) (n : Nat) (t : Int) :
    receive (chanWorldT r) w n t =
      if 0 < w.ch.inb r then recvNow (chanWorldT r) w n
      else .nothing { w with clock := w.clock + (if 0 < t then t else 0) } := by
  unfold receive
  rw [wait_rd]
  by_cases h : 0 < w.ch.inb r <;> simp [h]

/-! ### wait, BIO read and BIO write commute with forgetting clock and budget -/

theorem underDeadline_same (t c : Int) : underDeadline t c c = t := by
  simp only [underDeadline, remainingMs]; (repeat' split) <;> omega

theorem underDeadline_spent (t c : Int) (h : 0 ≤ t) : underDeadline t c (c + if 0 < t then t else 0) = 0 := by
  simp only [underDeadline, remainingMs]; (repeat' split) <;> omega

theorem waitUnder_sim (r : Bool) (s : St σ ChanT) (d : Dir) (c : Int) (hb : Bud c s) :
    Sim proj (Bud c) (waitUnder (chanWorldT r) s d) (waitUnder (chanWorld r) (proj s) d) := by
  obtain ⟨h0, hc⟩ := hb
  have hsame : Bud c { s with g := { s.g with remainingTime := underDeadline s.g.remainingTime s.w.clock s.w.clock } } := by
    show 0 ≤ underDeadline _ _ _ ∧ s.w.clock + underDeadline _ _ _ = c
    rw [underDeadline_same]; exact ⟨h0, hc⟩
  cases d with
  | wr => exact ⟨by simp [waitUnder, wait_wr, wait0_wr, proj, now_T, underDeadline], hsame⟩
  | rd =>
    by_cases hin : 0 < s.w.ch.inb r
    · refine ⟨by simp [waitUnder, wait_rd, wait0_rd, proj, now_T, underDeadline, hin], ?_⟩
      simp only [waitUnder, wait_rd, now_T, hin, decide_true, if_true]
      exact hsame
    · refine ⟨by simp [waitUnder, wait_rd, wait0_rd, proj, now_T, underDeadline, hin], ?_⟩
      simp only [waitUnder, wait_rd, now_T, hin, decide_false, Bool.false_eq_true, if_false]
      show 0 ≤ underDeadline _ _ _ ∧ s.w.clock + _ + underDeadline _ _ _ = c
      rw [underDeadline_spent _ _ h0]
      refine ⟨Int.le_refl _, ?_⟩
      split <;> omega

theorem Bud.setLastError {c : Int} {s : St σ ChanT} (h : Bud c s) (e : SslErr) : Bud c (setLastError s e) := h
theorem Bud.noteCall {c : Int} {s : St σ ChanT} (h : Bud c s) (E : Engine σ) (b : Bool) (arg : Bytes) (ans : SslAns) :
    Bud c (noteCall E s b arg ans) := h
theorem bioRead_sim (r : Bool) (s : St σ ChanT) (n : Nat) (c : Int) (hb : Bud c s) :
    Sim proj (Bud c) (bioRead (chanWorldT r) s n) (bioRead (chanWorld r) (proj s) n) := by
  rcases s with ⟨⟨le, ps, rt, ir, iw, dss, pe, wire, bw, ec⟩, e, w⟩
  obtain ⟨h0, hc⟩ := hb
  simp only at h0 hc
  cases ir with
  | true =>
    simp only [bioRead, proj, if_true, recvNow_T, recvNow_0]
    cases (recvOut r w.ch n).1 <;> exact ⟨rfl, h0, hc⟩
  | false =>
    simp only [bioRead, proj, Bool.false_eq_true, if_false, receive_T, receive_0, now_T, now_0]
    by_cases hin : 0 < w.ch.inb r
    · simp only [hin, if_true, recvNow_T, recvNow_0]
      cases (recvOut r w.ch n).1
      · exact ⟨rfl, h0, hc⟩
      · refine ⟨by simp [proj, underDeadline], ?_⟩
        show 0 ≤ underDeadline _ _ _ ∧ w.clock + underDeadline _ _ _ = c
        rw [underDeadline_same]; exact ⟨h0, hc⟩
    · simp only [hin, if_false]
      refine ⟨by simp [proj, underDeadline], ?_⟩
      show 0 ≤ underDeadline _ _ _ ∧ w.clock + _ + underDeadline _ _ _ = c
      rw [underDeadline_spent _ _ h0]
      exact ⟨Int.le_refl _, by split <;> omega⟩

theorem bioWrite_sim (r : Bool) (s : St σ ChanT) (bs : Bytes) (c : Int) (hb : Bud c s) :
    Sim proj (Bud c) (bioWrite (chanWorldT r) s bs) (bioWrite (chanWorld r) (proj s) bs) := by
  rcases s with ⟨⟨le, ps, rt, ir, iw, dss, pe, wire, bw, ec⟩, e, w⟩
  obtain ⟨h0, hc⟩ := hb
  simp only at h0 hc
  cases iw with
  | true =>
    simp only [bioWrite, proj, if_true, sendNow_T, sendNow_0, noteWrite]
    exact ⟨rfl, h0, hc⟩
  | false =>
    have hn : ¬ rt < 0 := by omega
    by_cases hz : rt = 0
    · subst hz
      simp only [bioWrite, proj, Bool.false_eq_true, if_false, Int.lt_irrefl, if_true, sendTry_T, sendTry_0, noteWrite]
      exact ⟨rfl, h0, hc⟩
    · simp only [bioWrite, proj, Bool.false_eq_true, if_false, Int.lt_irrefl, if_true, hn, hz, sendTry_0, noteWrite,
        now_T, sendSome_T]
      refine ⟨rfl, ?_, ?_⟩ <;> (simp only [remainingMs]; (repeat' split) <;> omega)

/-- forgetting clock and budget simulates the timed world by the zero-timeout world, for a call whose budget ends at `c` -/
theorem timedFrame (r : Bool) (c : Int) : SimFrame (σ := σ) (chanWorldT r) (chanWorld r) proj (Bud c) where
  same := fun _ => ⟨rfl, rfl, rfl, rfl, rfl⟩
  upd := fun _ _ _ _ _ _ => ⟨rfl, id⟩
  wait := fun s d h => waitUnder_sim r s d c h
  bioRead := fun s n h => bioRead_sim r s n c h
  bioWrite := fun s bs h => bioWrite_sim r s bs c h

/-! ### entry points -/

theorem bud_setTimeout (s : St σ ChanT) (T : Int) (hT : 0 ≤ T) : Bud (s.w.clock + T) (setTimeout s T) := ⟨hT, rfl⟩

/-- **`Receive(size, T)`, `T ≥ 0`, on the healthy channel under virtual time = `Receive(size, 0)`** as far as result,
engine, channels and glue are concerned; it returns no later than `T` after it began, with a budget `≥ 0`. -/
theorem receiveT_sim (C : Cfg) (r : Bool) (E : Engine σ) (s : St σ ChanT) (n : Nat) (T : Int) (hT : 0 ≤ T) :
    Sim proj (Bud (s.w.clock + T)) (receiveT C (chanWorldT r) E s n T) (receiveT C (chanWorld r) E (proj s) n 0) := by
  obtain ⟨a, s', hL, hR, hb'⟩ : ∃ a s', tlsRead C (chanWorldT r) E (setTimeout s T) n = (a, s') ∧
      tlsRead C (chanWorld r) E (setTimeout (proj s) 0) n = (a, proj s') ∧ Bud (s.w.clock + T) s' :=
    ((timedFrame r _).tlsRead C E (setTimeout s T) n (bud_setTimeout s T hT)).cases
  unfold receiveT
  rw [hL, hR]
  have hT' : ¬ T < 0 := by omega
  rcases a with (_|⟨b, bs⟩)|_|_
  · simp only [hT', Int.lt_irrefl, false_and, if_false]
    have h1 : (proj s').g.lastError = s'.g.lastError := rfl
    have h2 : (proj s').e = s'.e := rfl
    rw [h1, h2]
    split <;> exact ⟨rfl, hb'⟩
  · exact ⟨rfl, hb'⟩
  · exact ⟨rfl, hb'⟩
  · exact ⟨rfl, hb'⟩

/-- **`Send(data, T)`, `T ≥ 0`, likewise** -/
theorem sendT_sim (C : Cfg) (r : Bool) (E : Engine σ) (s : St σ ChanT) (data : Bytes) (T : Int) (hT : 0 ≤ T) :
    Sim proj (Bud (s.w.clock + T)) (sendT C (chanWorldT r) E s data T) (sendT C (chanWorld r) E (proj s) data 0) := by
  obtain ⟨a, s', hL, hR, hb'⟩ : ∃ a s', tlsWrite C (chanWorldT r) E (setTimeout s T) data = (a, s') ∧
      tlsWrite C (chanWorld r) E (setTimeout (proj s) 0) data = (a, proj s') ∧ Bud (s.w.clock + T) s' :=
    ((timedFrame r _).tlsWrite C E (setTimeout s T) data (bud_setTimeout s T hT)).cases
  unfold sendT
  rw [hL, hR]
  rcases a with _|_|_
  · dsimp only
    have h1 : (proj s').g.lastError = s'.g.lastError := rfl
    have h2 : (proj s').e = s'.e := rfl
    rw [h1, h2]
    split <;> exact ⟨rfl, hb'⟩
  · exact ⟨rfl, hb'⟩
  · exact ⟨rfl, hb'⟩

/-! ### the two endpoints under virtual time -/

def callOnT (C : Cfg) (P : HsP) (client : Bool) (s : St Hs ChanT) (c : Call) (T : Int) : Bool × St Hs ChanT :=
  match c with
  | .send d => let r := sendT C (chanWorldT client) (engine P) s d T; (isOk r.1, r.2)
  | .recv n => let r := receiveT C (chanWorldT client) (engine P) s n T; (isOk r.1, r.2)

theorem callOnT_sim (C : Cfg) (P : HsP) (client : Bool) (s : St Hs ChanT) (c : Call) (T : Int) (hT : 0 ≤ T) :
    Sim proj (Bud (s.w.clock + T)) (callOnT C P client s c T) (callOn C P client (proj s) c) := by
  cases c with
  | send d =>
    obtain ⟨a, s', hL, hR, hb⟩ := (sendT_sim C client (engine P) s d T hT).cases
    simp only [callOnT, callOn, hL, hR]
    exact ⟨rfl, hb⟩
  | recv n =>
    obtain ⟨a, s', hL, hR, hb⟩ := (receiveT_sim C client (engine P) s n T hT).cases
    simp only [callOnT, callOn, hL, hR]
    exact ⟨rfl, hb⟩

/-- `Sys` with one virtual clock for both endpoints -/
structure SysT where
  gc : Glue := {}
  ec : Hs
  gs : Glue := {}
  es : Hs
  ch : Chan := {}
  clock : Int := 0
  faults : Nat := 0

def SysT.init (P : HsP) (segs : List Nat) : SysT :=
  { ec := Hs.init P true, es := Hs.init P false, ch := { segs := segs } }

def SysT.step (C : Cfg) (P : HsP) (y : SysT) (client : Bool) (c : Call) (T : Int) : SysT :=
  if client then
    let r := callOnT C P true ⟨y.gc, y.ec, ⟨y.ch, y.clock⟩⟩ c T
    { y with gc := r.2.g, ec := r.2.e, ch := r.2.w.ch, clock := r.2.w.clock, faults := y.faults + (if r.1 then 0 else 1) }
  else
    let r := callOnT C P false ⟨y.gs, y.es, ⟨y.ch, y.clock⟩⟩ c T
    { y with gs := r.2.g, es := r.2.e, ch := r.2.w.ch, clock := r.2.w.clock, faults := y.faults + (if r.1 then 0 else 1) }

/-- one call of a timed schedule: the call and its timeout in ms -/
structure ActT where
  act : Act
  timeout : Int
  deriving DecidableEq, Repr

def SysT.act (C : Cfg) (P : HsP) (dc ds : Bytes) (y : SysT) (a : ActT) : SysT :=
  y.step C P a.act.client (a.act.call dc ds) a.timeout

def SysT.run (C : Cfg) (P : HsP) (dc ds : Bytes) (l : List ActT) (y : SysT) : SysT := l.foldl (SysT.act C P dc ds) y

/-- forget the clock and what is left of the budgets -/
def SysT.untimed (y : SysT) : Sys :=
  { gc := { y.gc with remainingTime := 0 }, ec := y.ec, gs := { y.gs with remainingTime := 0 }, es := y.es, ch := y.ch,
    faults := y.faults }

def SysT.bothFinished (y : SysT) : Prop := 3 ≤ y.ec.stage ∧ 3 ≤ y.es.stage

/-- the time the calls of a timed schedule may take at most: the sum of their timeouts -/
def budgetSum : List ActT → Int
  | [] => 0
  | a :: l => a.timeout + budgetSum l

theorem untimed_init (P : HsP) (segs : List Nat) : (SysT.init P segs).untimed = Sys.init P segs := rfl

/-- the zero-timeout calls ignore the budget a previous call left behind -/
theorem callOn_budget (C : Cfg) (P : HsP) (client : Bool) (g : Glue) (e : Hs) (w : Chan) (c : Call) (t : Int) :
    callOn C P client ⟨{ g with remainingTime := t }, e, w⟩ c = callOn C P client ⟨g, e, w⟩ c := by
  cases c <;> rfl

/-- a step with timeout `T ≥ 0` is the zero-timeout step once clock and budgets are forgotten, and takes at most `T` -/
theorem step_untimed (C : Cfg) (P : HsP) (y : SysT) (client : Bool) (c : Call) (T : Int) (hT : 0 ≤ T) :
    (y.step C P client c T).untimed = y.untimed.step C P client c ∧
    (y.step C P client c T).clock ≤ y.clock + T := by
  cases client with
  | true =>
    obtain ⟨a, s', hL, hR, hb⟩ := (callOnT_sim C P true ⟨y.gc, y.ec, ⟨y.ch, y.clock⟩⟩ c T hT).cases
    have hR' : callOn C P true ⟨{ y.gc with remainingTime := 0 }, y.ec, y.ch⟩ c = (a, proj s') := hR
    obtain ⟨h0, hc⟩ := hb
    simp only at hc
    refine ⟨?_, ?_⟩
    · simp only [SysT.step, Sys.step, SysT.untimed, if_true, hL, hR']
      rfl
    · simp only [SysT.step, if_true, hL]
      omega
  | false =>
    obtain ⟨a, s', hL, hR, hb⟩ := (callOnT_sim C P false ⟨y.gs, y.es, ⟨y.ch, y.clock⟩⟩ c T hT).cases
    have hR' : callOn C P false ⟨{ y.gs with remainingTime := 0 }, y.es, y.ch⟩ c = (a, proj s') := hR
    obtain ⟨h0, hc⟩ := hb
    simp only at hc
    refine ⟨?_, ?_⟩
    · simp only [SysT.step, Sys.step, SysT.untimed, Bool.false_eq_true, if_false, hL, hR']
      rfl
    · simp only [SysT.step, Bool.false_eq_true, if_false, hL]
      omega

/-- **a timed schedule does what the same schedule with all timeouts 0 does**, and takes no longer than the sum of
its timeouts -/
theorem run_untimed (C : Cfg) (P : HsP) (dc ds : Bytes) :
    ∀ (l : List ActT) (y : SysT), (∀ a ∈ l, 0 ≤ a.timeout) →
      (SysT.run C P dc ds l y).untimed = Sys.run C P dc ds (l.map ActT.act) y.untimed ∧
      (SysT.run C P dc ds l y).clock ≤ y.clock + budgetSum l := by
  intro l
  induction l with
  | nil => intro y _; exact ⟨rfl, by simp [SysT.run, budgetSum]⟩
  | cons a l ih =>
    intro y h
    obtain ⟨h1, h2⟩ := step_untimed C P y a.act.client (a.act.call dc ds) a.timeout (h a (List.mem_cons_self ..))
    obtain ⟨j1, j2⟩ := ih (y.act C P dc ds a) (fun b hb => h b (List.mem_cons_of_mem _ hb))
    refine ⟨?_, ?_⟩
    · show (SysT.run C P dc ds l (y.act C P dc ds a)).untimed = _
      rw [j1, List.map_cons, run_cons]
      congr 1
    · show (SysT.run C P dc ds l (y.act C P dc ds a)).clock ≤ _
      have : (y.act C P dc ds a).clock ≤ y.clock + a.timeout := h2
      simp only [budgetSum]
      omega

end SockModel.Hs
