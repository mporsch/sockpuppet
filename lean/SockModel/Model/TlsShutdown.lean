import SockModel.Model.TlsLemmas
/-! What `Shutdown()` (Model/Tls.lean `tlsShutdown`) leaves in the ghost log of engine calls; `shutdown_reads_before_close` in
Props/C18.lean is read off `drainLoop_drains`. -/
namespace SockModel.Tls
open SockModel.Net
variable {σ ω : Type}

theorem shutCall_keeps {W : World ω} (E : Engine σ) (s : St σ ω) : (shutCall W E s).2.g.engCalls = s.g.engCalls := by
  obtain ⟨a, o, s1, hI, ⟨_, _, hk, _⟩, _⟩ := interp_ok (W := W) _ _ (allLeaves_true (E.sslShutdown s.e)) s
  unfold shutCall
  rw [hI]; exact hk

theorem shutFinish_keeps {W : World ω} (E : Engine σ) (s : St σ ω) : (shutFinish W E s).2.g.engCalls = s.g.engCalls := by
  have h := shutCall_keeps (W := W) E s
  unfold shutFinish
  rcases hI : shutCall W E s with ⟨o, s1⟩
  rw [hI] at h
  rcases o with a | x | m <;> exact h

/-- what a run of the drain loop that ends without an exception has noted; the log is newest first, so in
`reads = c :: rest` the call `c` is the LAST `SSL_read` of the drain -/
def Drained (i : Nat) (before after : List EngCall) : Prop :=
  ∃ reads : List EngCall, after = reads ++ before ∧ reads.length ≤ i ∧ (∀ c ∈ reads, c.isRead = true ∧ c.arg = []) ∧
    (0 < i → reads ≠ []) ∧
    (reads.length < i → ∃ c rest, reads = c :: rest ∧ c.ans.isDone = false)

theorem drained_step {i : Nat} {c : EngCall} {before after : List EngCall} (hc : c.isRead = true ∧ c.arg = [])
    (h : Drained i (c :: before) after) : Drained (i + 1) before after := by
  obtain ⟨reads, h1, h2, h3, h4, h5⟩ := h
  refine ⟨reads ++ [c], by simp [h1], by simp; omega, ?_, by simp, ?_⟩
  · intro x hx
    rcases List.mem_append.mp hx with hx | hx
    · exact h3 x hx
    · simp at hx; subst hx; exact hc
  · intro hl
    simp at hl
    obtain ⟨c', rest, hr, hd⟩ := h5 (by omega)
    exact ⟨c', rest ++ [c], by simp [hr], hd⟩

theorem drained_last {i : Nat} {c : EngCall} {before : List EngCall} (hc : c.isRead = true ∧ c.arg = [])
    (hd : c.ans.isDone = false) : Drained (i + 1) before (c :: before) :=
  ⟨[c], rfl, by simp, by simpa using hc, by simp, fun _ => ⟨c, [], rfl, hd⟩⟩

theorem drainLoop_drains {W : World ω} (E : Engine σ) : ∀ (i : Nat) (s : St σ ω),
    (drainLoop W E i s).1 = .ok () → Drained i s.g.engCalls (drainLoop W E i s).2.g.engCalls := by
  intro i
  induction i with
  | zero =>
    intro s _
    exact ⟨[], by simp [drainLoop, shutFinish_keeps], by simp, by simp, by simp, by simp⟩
  | succ i ih =>
    intro s hok
    obtain ⟨ans, out, s1, hI, ⟨_, _, hk, _⟩, _⟩ := interp_ok (W := W) _ _ (allLeaves_true (E.sslRead s.e shutdownBuf)) s
    have hn : (noteCall E s1 true [] ans).g.engCalls = ⟨true, [], ans, E.initFinished s1.e⟩ :: s.g.engCalls :=
      congrArg (List.cons _) hk
    -- the branch `HandleResult` decides: stop reading (nothing delivered) or go round again
    have retry : ∀ r : Out Unit × St σ ω,
        (r = match handleResult W (noteCall E s1 true [] ans) ans with
          | (.exn e, s2) => (.exn e, s2)
          | (.abort m, s2) => (.abort m, s2)
          | (.ok false, s2) => shutFinish W E s2
          | (.ok true, s2) => drainLoop W E i s2) →
        ans.isDone = false → r.1 = .ok () → Drained (i + 1) s.g.engCalls r.2.g.engCalls := by
      intro r hr hd hok
      have hr2 := (handleResult_keeps (W := W) (noteCall E s1 true [] ans) ans).2.1
      rcases hH : handleResult W (noteCall E s1 true [] ans) ans with ⟨(_|_)|x|m, s2⟩ <;> rw [hH] at hr hr2 <;> subst hr
      · rw [shutFinish_keeps, hr2, hn]; exact drained_last ⟨rfl, rfl⟩ hd
      · have := ih _ hok
        rw [hr2, hn] at this
        exact drained_step ⟨rfl, rfl⟩ this
      · cases hok
      · cases hok
    unfold drainLoop at hok ⊢
    simp only [hI] at hok ⊢
    cases ans with
    | done k =>
      have := ih _ hok
      rw [hn] at this
      exact drained_step ⟨rfl, rfl⟩ this
    | zeroReturn => rw [shutFinish_keeps, hn]; exact drained_last ⟨rfl, rfl⟩ rfl
    | _ => exact retry _ rfl rfl hok

end SockModel.Tls
