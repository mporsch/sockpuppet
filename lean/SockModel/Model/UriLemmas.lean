import SockModel.Model.Uri
/-! Helper lemmas for `Model/Uri.lean`: list scans, the character classes by byte value, the range guard
(`checkRange`, `isServiceNumeric`, `strtoulReads`) in terms of the one reading `numericReads`, the split functions on
composed texts and what their results say about the input, the dissection as splitting followed by the guard. -/
namespace SockModel.Uri
open SockModel.Decimal

theorem takeWhile_eq_self {α : Type} {p : α → Bool} {l : List α} (h : ∀ a ∈ l, p a = true) : l.takeWhile p = l := by
  simpa using List.takeWhile_append_of_pos (l₂ := []) h

theorem mem_takeWhile {α : Type} {p : α → Bool} {a : α} : ∀ {l : List α}, a ∈ l.takeWhile p → p a = true ∧ a ∈ l
  | [], h => by simp at h
  | x :: xs, h => by
    by_cases hx : p x = true
    · simp only [List.takeWhile_cons, hx, if_true, List.mem_cons] at h
      rcases h with rfl | h
      · exact ⟨hx, List.mem_cons_self ..⟩
      · exact ⟨(mem_takeWhile h).1, List.mem_cons_of_mem _ (mem_takeWhile h).2⟩
    · simp [hx] at h

theorem takeWhile_stop {α : Type} {p : α → Bool} {l r : List α} {c : α}
    (h : ∀ a ∈ l, p a = true) (hc : p c = false) : (l ++ c :: r).takeWhile p = l := by
  simp [List.takeWhile_append_of_pos h, hc]

theorem drop_takeWhile_length {α : Type} (p : α → Bool) (l : List α) :
    l.drop (l.takeWhile p).length = l.dropWhile p := by
  conv => lhs; arg 2; rw [← List.takeWhile_append_dropWhile (p := p) (l := l)]
  exact List.drop_left

theorem dropWhile_append_stop {α : Type} {p : α → Bool} {r : List α} {c : α} (hc : p c = false) :
    ∀ (h : List α), (h ++ c :: r).dropWhile p = h.dropWhile p ++ c :: r
  | [] => by simp [hc]
  | x :: xs => by
    by_cases hx : p x = true
    · simpa [hx] using dropWhile_append_stop hc xs
    · simp [hx]

theorem dropWhile_head_false {α : Type} {p : α → Bool} {x : α} {rest l : List α}
    (h : l.dropWhile p = x :: rest) : p x = false := by
  simpa [h] using List.head?_dropWhile_not p l

theorem bne_of_not_mem {c : UInt8} {l : Bytes} (h : c ∉ l) : ∀ x ∈ l, (x != c) = true :=
  fun _ hx => bne_iff_ne.mpr fun e => h (e ▸ hx)

theorem not_mem_takeWhile_bne (c : UInt8) (l : Bytes) : c ∉ l.takeWhile (· != c) :=
  fun h => by simpa using (mem_takeWhile h).1

theorem beq_byte (c k : UInt8) : (c == k) = true ↔ c.toNat = k.toNat := by
  rw [beq_iff_eq, UInt8.toNat_inj]

theorem isDigit_iff (c : UInt8) : isDigit c = true ↔ 48 ≤ c.toNat ∧ c.toNat ≤ 57 := by
  simp only [isDigit, Bool.and_eq_true, decide_eq_true_eq, UInt8.le_iff_toNat_le]
  exact Iff.rfl

theorem isSpace_iff (c : UInt8) : isSpace c = true ↔ c.toNat = 32 ∨ (9 ≤ c.toNat ∧ c.toNat ≤ 13) := by
  simp only [isSpace, Bool.or_eq_true, Bool.and_eq_true, decide_eq_true_eq, UInt8.le_iff_toNat_le, beq_byte]
  exact Iff.rfl

theorem isWord_iff (c : UInt8) : isWord c = true ↔
    (48 ≤ c.toNat ∧ c.toNat ≤ 57) ∨ (97 ≤ c.toNat ∧ c.toNat ≤ 122) ∨ (65 ≤ c.toNat ∧ c.toNat ≤ 90) ∨ c.toNat = 95 := by
  simp only [isWord, Bool.or_eq_true, Bool.and_eq_true, decide_eq_true_eq, UInt8.le_iff_toNat_le, beq_byte, isDigit_iff,
    or_assoc]
  exact Iff.rfl

theorem isLineBreak_iff (c : UInt8) : isLineBreak c = true ↔ c.toNat = 10 ∨ c.toNat = 13 := by
  simp only [isLineBreak, Bool.or_eq_true, beq_byte]
  exact Iff.rfl

theorem word_no_nul {name : Bytes} (hw : ∀ c ∈ name, isWord c = true) : (0 : UInt8) ∉ name :=
  fun h => absurd (hw 0 h) (by decide)

theorem digit_ne {c k : UInt8} (h : isDigit c = true) (hk : isDigit k = false) : (c == k) = false :=
  Bool.eq_false_iff.mpr fun e => by rw [eq_of_beq e, hk] at h; cases h

theorem digit_not_space {c : UInt8} (h : isDigit c = true) : isSpace c = false := by
  have := (isDigit_iff c).mp h
  cases hs : isSpace c
  · rfl
  · have := (isSpace_iff c).mp hs; omega

theorem isDigits_iff (s : Bytes) : isDigits s = true ↔ s ≠ [] ∧ ∀ c ∈ s, isDigit c = true := by
  cases s <;> simp [isDigits]

theorem digits_no_byte {d : Bytes} (hd : isDigits d = true) {k : UInt8} (hk : isDigit k = false) : k ∉ d :=
  fun hm => by rw [((isDigits_iff d).mp hd).2 k hm] at hk; cases hk

theorem digits_no_colon {d : Bytes} (hd : isDigits d = true) : (0x3a : UInt8) ∉ d :=
  digits_no_byte hd (by decide)

theorem digits_head_not_slash {d tail : Bytes} (hd : isDigits d = true) : (d ++ tail).head? ≠ some 0x2f := by
  cases d with
  | nil => cases hd
  | cons x xs =>
    have hx := ((isDigits_iff _).mp hd).2 x (List.mem_cons_self ..)
    simpa using fun e => by simpa [e] using digit_ne hx (k := 0x2f) (by decide)

theorem isEmpty_of_digits {d : Bytes} (hd : isDigits d = true) : d.isEmpty = false := by
  cases d with
  | nil => cases hd
  | cons _ _ => rfl

theorem takeWhile_isDigit_of_digits {d : Bytes} (hd : isDigits d = true) : d.takeWhile isDigit = d :=
  takeWhile_eq_self ((isDigits_iff d).mp hd).2

theorem cstr_eq_self {h : Bytes} (h0 : (0 : UInt8) ∉ h) : cstr h = h :=
  takeWhile_eq_self (bne_of_not_mem h0)

theorem cstr_of_digits {d : Bytes} (hd : isDigits d = true) : cstr d = d :=
  cstr_eq_self (digits_no_byte hd (by decide))

theorem signSplit_dropWhile_of_digits {d : Bytes} (hd : isDigits d = true) :
    signSplit (d.dropWhile isSpace) = (false, d) := by
  cases d with
  | nil => cases hd
  | cons x xs =>
    have hx := ((isDigits_iff _).mp hd).2 x (List.mem_cons_self ..)
    simp [signSplit, digit_not_space hx, digit_ne hx (k := 0x2d) (by decide), digit_ne hx (k := 0x2b) (by decide)]

/-! `numericReads (cstr s)` is the reading of a service `s` that everything else is stated in: `IsServiceNumeric` says
that it exists, `std::stoll` + the range test evaluate `rangeOf` on it, `strtoul` wraps it. -/

theorem strtoulReads_eq_map (s : Bytes) : strtoulReads s =
    (numericReads s).map fun r => if r.2 ≥ cap64 then cap64 - 1 else if r.1 then (cap64 - r.2) % cap64 else r.2 := by
  simp only [strtoulReads, numericReads]
  split <;> rfl

theorem strtoul_of_numericReads {s : Bytes} {neg : Bool} {m : Nat} (h : numericReads s = some (neg, m)) :
    strtoulReads s = some (if m ≥ cap64 then cap64 - 1 else if neg then (cap64 - m) % cap64 else m) := by
  rw [strtoulReads_eq_map, h]; rfl

theorem isServiceNumeric_eq (s : Bytes) : isServiceNumeric s = (numericReads (cstr s)).isSome := by
  simp only [isServiceNumeric, numericReads]
  split <;> simp [*]

theorem checkRange_of_reads {s : Bytes} {neg : Bool} {m : Nat} (h : numericReads (cstr s) = some (neg, m)) :
    checkRange s = rangeOf neg m := by
  simp only [numericReads] at h
  split at h
  · rename_i hd
    cases h
    simp only [checkRange, checkRangeCore, stollParts, takeWhile_isDigit_of_digits hd, isEmpty_of_digits hd,
      Bool.false_eq_true, if_false]
  · cases h

theorem numericReads_digits {d : Bytes} (hd : isDigits d = true) : numericReads d = some (false, satVal cap64 d) := by
  simp [numericReads, signSplit_dropWhile_of_digits hd, hd]

theorem rangeOf_ok_iff {neg : Bool} {m : Nat} : rangeOf neg m = .ok () ↔ m ≤ 65535 ∧ (neg = true → m = 0) := by
  cases neg <;> simp only [rangeOf, if_true, Bool.false_eq_true, if_false] <;> repeat' split
  all_goals simp; omega

theorem rangeOf_cases (neg : Bool) (m : Nat) :
    rangeOf neg m = .ok () ∨ rangeOf neg m = .error .outOfRange ∨ rangeOf neg m = .error .runtimeError := by
  unfold rangeOf
  repeat' split
  all_goals simp

/-- the number written in the C string `t`, if `strtoul` reads one, is a port: magnitude ≤ 65535, a minus sign only
in front of zero -/
def PortText (t : Bytes) : Prop := ∀ neg m, numericReads t = some (neg, m) → m ≤ 65535 ∧ (neg = true → m = 0)

theorem PortText.strtoul_le {t : Bytes} (h : PortText t) {v : Nat} (hv : strtoulReads t = some v) : v ≤ 65535 := by
  rw [strtoulReads_eq_map] at hv
  cases hr : numericReads t with
  | none => rw [hr] at hv; cases hv
  | some r =>
    obtain ⟨hm, hz⟩ := h r.1 r.2 hr
    rw [hr, Option.map_some, Option.some.injEq] at hv
    have hcap : cap64 = 18446744073709551616 := by decide
    subst hv
    cases hn : r.1
    · simp only [Bool.false_eq_true, if_false]; split <;> omega
    · rw [hz hn, hcap]; decide

theorem NoSilentWrapStrict.weaken {pUri : Bytes → Except Exn GaiCall} {pPair : Bytes → Bytes → Except Exn GaiCall}
    (h : NoSilentWrapStrict pUri pPair) : NoSilentWrap pUri pPair :=
  ⟨fun uri c _ hok hv => PortText.strtoul_le (h.1 uri c · · hok) hv,
   fun host serv c _ hok hv => PortText.strtoul_le (h.2 host serv c · · hok) hv⟩

theorem portText_digits {d : Bytes} (hd : isDigits d = true) (hv : decVal d ≤ 65535) : PortText d := by
  intro neg m h
  rw [numericReads_digits hd, Option.some.injEq, Prod.mk.injEq] at h
  obtain ⟨rfl, rfl⟩ := h
  rw [satVal_eq]
  exact ⟨by omega, by simp⟩

/-- what `UriDissect` and `ParseHostServ` both do with a service before the lookup: the range test if
`IsServiceNumeric` recognises it -/
def guarded {α : Type} (s : Bytes) (x : α) : Except Exn α :=
  if isServiceNumeric s then (checkRange s).map fun _ => x else .ok x

theorem guarded_eq {α : Type} (s : Bytes) (x : α) : guarded s x =
    match numericReads (cstr s) with
    | some (neg, m) => (rangeOf neg m).map fun _ => x
    | none => .ok x := by
  unfold guarded
  rw [isServiceNumeric_eq]
  cases h : numericReads (cstr s) with
  | none => rfl
  | some r => rw [checkRange_of_reads (neg := r.1) (m := r.2) h]; rfl

theorem guarded_ok_iff {α : Type} {s : Bytes} {x y : α} : guarded s x = .ok y ↔ x = y ∧ PortText (cstr s) := by
  rw [guarded_eq, PortText]
  cases numericReads (cstr s) with
  | none => simp
  | some r =>
    obtain ⟨neg, m⟩ := r
    have key : (∀ neg' m', some (neg, m) = some (neg', m') → m' ≤ 65535 ∧ (neg' = true → m' = 0)) ↔
        rangeOf neg m = .ok () :=
      ⟨fun h => rangeOf_ok_iff.mpr (h _ _ rfl), fun h _ _ e => by cases e; exact rangeOf_ok_iff.mp h⟩
    rw [key]
    show ((rangeOf neg m).map fun _ => x) = .ok y ↔ _
    cases rangeOf neg m <;> simp [Except.map]

theorem guarded_of_not_numeric {α : Type} {s : Bytes} (h : isServiceNumeric s = false) (x : α) :
    guarded s x = .ok x := by
  simp [guarded, h]

theorem guarded_cases {α : Type} (s : Bytes) (x : α) :
    guarded s x = .ok x ∨ guarded s x = .error .outOfRange ∨ guarded s x = .error .runtimeError := by
  rw [guarded_eq]
  cases numericReads (cstr s) with
  | none => exact Or.inl rfl
  | some r => rcases rangeOf_cases r.1 r.2 with h | h | h <;> simp [h, Except.map]

theorem splitLast_append {c : UInt8} {a b : Bytes} (hb : c ∉ b) : splitLast c (a ++ c :: b) = some (a, b) := by
  have hr : (a ++ c :: b).reverse = b.reverse ++ c :: a.reverse := by simp
  have ht : (b.reverse ++ c :: a.reverse).takeWhile (· != c) = b.reverse :=
    takeWhile_stop (bne_of_not_mem (by simpa using hb)) (by simp)
  simp only [splitLast, hr, ht]
  rw [if_neg (by simp), List.drop_length_add_append]
  simp

theorem splitLast_none {c : UInt8} {s : Bytes} (h : c ∉ s) : splitLast c s = none := by
  simp [splitLast, takeWhile_eq_self (bne_of_not_mem (l := s.reverse) (by simpa using h))]

theorem splitLast_sound {c : UInt8} {s a b : Bytes} (h : splitLast c s = some (a, b)) : s = a ++ c :: b ∧ c ∉ b := by
  by_cases hc : c ∈ s
  · obtain ⟨b', a', hs, hb'⟩ := List.eq_append_cons_of_mem (List.mem_reverse.mpr hc)
    have hs' : s = a'.reverse ++ c :: b'.reverse := by simpa using congrArg List.reverse hs
    have hb'' : c ∉ b'.reverse := by simpa using hb'
    rw [hs', splitLast_append hb'', Option.some.injEq, Prod.mk.injEq] at h
    rw [← h.1, ← h.2]
    exact ⟨hs', hb''⟩
  · rw [splitLast_none hc] at h; cases h

/-- nothing, or a path on one line, behind the host part (the `/?.*$` of `Regex.HostPath`; written out in the
statement of `Lem.name_spelling`) -/
def PathTail (tail : Bytes) : Prop := tail = [] ∨ ∃ p, tail = 0x2f :: p ∧ hasLineBreak p = false

theorem PathTail.nil : PathTail [] := Or.inl rfl
theorem PathTail.path {p : Bytes} (h : hasLineBreak p = false) : PathTail (0x2f :: p) := Or.inr ⟨p, rfl, h⟩

theorem trimPath_some {uri h : Bytes} (e : trimPath uri = some h) :
    h = uri.takeWhile (· != 0x2f) ∧ h ≠ [] ∧ hasLineBreak ((uri.drop h.length).drop 1) = false := by
  simp only [trimPath] at e
  split at e
  · cases e
  · split at e
    · cases e
    · rename_i h1 h2
      cases e
      exact ⟨rfl, by simpa using h1, by simpa using h2⟩

theorem trimPath_eval {a tail : Bytes} (ha : 0x2f ∉ a) (hne : a ≠ []) (ht : PathTail tail) :
    trimPath (a ++ tail) = some a := by
  rcases ht with rfl | ⟨p, rfl, hp⟩
  · simp [trimPath, takeWhile_eq_self (bne_of_not_mem ha), hne, hasLineBreak]
  · have htw : (a ++ 0x2f :: p).takeWhile (· != 0x2f) = a := takeWhile_stop (bne_of_not_mem ha) (by simp)
    simp [trimPath, htw, hne, hp]

theorem trimPath_self {a : Bytes} (ha : 0x2f ∉ a) (hne : a ≠ []) : trimPath a = some a := by
  simpa using trimPath_eval ha hne .nil

theorem trimServAndPath_scheme {scheme rest a : Bytes} (hs : ∀ c ∈ scheme, isWord c = true)
    (hr : trimPath rest = some a) :
    trimServAndPath (scheme ++ 0x3a :: 0x2f :: 0x2f :: rest) = some (a, scheme) := by
  have htw : (scheme ++ 0x3a :: 0x2f :: 0x2f :: rest).takeWhile isWord = scheme :=
    takeWhile_stop hs (by decide)
  simp [trimServAndPath, htw, hr]

theorem trimServAndPath_of_not_scheme {uri : Bytes} (h : (uri.dropWhile isWord).take 3 ≠ [0x3a, 0x2f, 0x2f]) :
    trimServAndPath uri = (trimPath uri).map (·, []) := by
  simp only [trimServAndPath, drop_takeWhile_length]
  rw [if_neg (by simpa using h)]

/-- no scheme is recognised in `h ++ c :: rest` when `h` has no colon and `c` is not a word character: a '/', a '[',
or a colon that something else than '/' follows (a port) -/
theorem trimServAndPath_no_scheme {h rest : Bytes} {c : UInt8} (hw : isWord c = false) (hc : 0x3a ∉ h)
    (hr : c = 0x3a → rest.head? ≠ some 0x2f) :
    trimServAndPath (h ++ c :: rest) = (trimPath (h ++ c :: rest)).map (·, []) := by
  apply trimServAndPath_of_not_scheme
  rw [dropWhile_append_stop hw]
  cases hd : h.dropWhile isWord with
  | nil =>
    intro e
    cases rest with
    | nil => simp at e
    | cons y ys =>
      simp only [List.nil_append, List.take_succ_cons, List.cons.injEq] at e
      exact hr e.1 (by simp [e.2.1])
  | cons x xs =>
    have hx : x ∈ h := List.IsSuffix.mem (hd ▸ List.mem_cons_self ..) (List.dropWhile_suffix _)
    intro e
    simp only [List.cons_append, List.take_succ_cons, List.cons.injEq] at e
    exact hc (e.1 ▸ hx)

theorem trimServAndPath_nocolon {uri : Bytes} (hc : 0x3a ∉ uri) :
    trimServAndPath uri = (trimPath uri).map (·, []) :=
  trimServAndPath_of_not_scheme fun e =>
    hc (List.IsSuffix.mem (List.mem_of_mem_take (e ▸ List.mem_cons_self ..)) (List.dropWhile_suffix _))

theorem trimServAndPath_some {uri rest scheme : Bytes} (e : trimServAndPath uri = some (rest, scheme)) :
    (∃ tail, trimPath tail = some rest ∧ tail <:+ uri) ∧ scheme <+: uri ∧ (∀ c ∈ scheme, isWord c = true) := by
  have fallback : (trimPath uri).map (·, ([] : Bytes)) = some (rest, scheme) → trimPath uri = some rest ∧ scheme = [] := by
    cases trimPath uri <;> simp [eq_comm]
  simp only [trimServAndPath] at e
  split at e
  · split at e
    · rename_i h ht
      rw [Option.some.injEq, Prod.mk.injEq] at e
      obtain ⟨rfl, rfl⟩ := e
      exact ⟨⟨_, ht, (List.drop_suffix _ _).trans (List.drop_suffix _ _)⟩, List.takeWhile_prefix _,
        fun c hc => (mem_takeWhile hc).1⟩
    · obtain ⟨ht, rfl⟩ := fallback e
      exact ⟨⟨uri, ht, List.suffix_refl _⟩, List.nil_prefix, by simp⟩
  · obtain ⟨ht, rfl⟩ := fallback e
    exact ⟨⟨uri, ht, List.suffix_refl _⟩, List.nil_prefix, by simp⟩

theorem splitPort_append {before port : Bytes} (hd : isDigits port = true) :
    splitPort (before ++ 0x3a :: port) =
      if 2 ≤ before.length && before.head? == some 0x5b && before.getLast? == some 0x5d &&
          !hasLineBreak ((before.drop 1).take (before.length - 2)) then
        some ((before.drop 1).take (before.length - 2), port)
      else if 1 ≤ before.length && !before.contains 0x3a then some (before, port)
      else none := by
  simp only [splitPort, splitLast_append (digits_no_colon hd), hd, Bool.not_true, Bool.false_eq_true, if_false]

theorem bracket_parts (h : Bytes) :
    ((0x5b :: (h ++ [0x5d])).drop 1).take ((0x5b :: (h ++ [0x5d])).length - 2) = h ∧
    (0x5b :: (h ++ [0x5d])).getLast? = some 0x5d := by
  constructor
  · simp
  · rw [← List.cons_append, List.getLast?_concat]

theorem bracket_test (h : Bytes) :
    (2 ≤ (0x5b :: (h ++ [0x5d])).length && (0x5b :: (h ++ [0x5d])).head? == some 0x5b &&
      (0x5b :: (h ++ [0x5d])).getLast? == some 0x5d &&
      !hasLineBreak (((0x5b :: (h ++ [0x5d])).drop 1).take ((0x5b :: (h ++ [0x5d])).length - 2))) = !hasLineBreak h := by
  rw [(bracket_parts h).1, (bracket_parts h).2]
  simp

theorem bracket_shape {before : Bytes} (hlen : 2 ≤ before.length) (hh : before.head? = some 0x5b)
    (hl : before.getLast? = some 0x5d) : ∃ h, before = 0x5b :: (h ++ [0x5d]) := by
  obtain ⟨t, rfl⟩ := List.head?_eq_some_iff.mp hh
  rcases List.eq_nil_or_concat t with rfl | ⟨h, y, rfl⟩
  · simp at hlen
  · rw [List.concat_eq_append, ← List.cons_append, List.getLast?_concat, Option.some.injEq] at hl
    exact ⟨h, by rw [hl, List.concat_eq_append]⟩

/-- `SplitPort` on any text: `[h]:d` with `h` on one line, or else `h:d` with a non-empty `h` without colon; `d` a
digit string (`rePortBracket || rePort` of the pre-fix code, `Legacy/UriRegex.lean`) -/
theorem splitPort_eq_some_iff {u h d : Bytes} : splitPort u = some (h, d) ↔
    (u = 0x5b :: (h ++ 0x5d :: 0x3a :: d) ∧ hasLineBreak h = false ∧ isDigits d = true) ∨
    ((¬ ∃ h' d', u = 0x5b :: (h' ++ 0x5d :: 0x3a :: d') ∧ hasLineBreak h' = false ∧ isDigits d' = true) ∧
      u = h ++ 0x3a :: d ∧ h ≠ [] ∧ 0x3a ∉ h ∧ isDigits d = true) := by
  constructor
  · intro e
    cases hs : splitLast 0x3a u with
    | none => rw [splitPort, hs] at e; cases e
    | some bp =>
      obtain ⟨before, port⟩ := bp
      obtain ⟨rfl, hnc⟩ := splitLast_sound hs
      by_cases hd : isDigits port = true
      · rw [splitPort_append hd] at e
        split at e
        · rename_i hbr
          rw [Option.some.injEq, Prod.mk.injEq] at e
          obtain ⟨rfl, rfl⟩ := e
          simp only [Bool.and_eq_true, decide_eq_true_eq, beq_iff_eq, Bool.not_eq_true'] at hbr
          obtain ⟨⟨⟨hlen, hh⟩, hl⟩, hlb⟩ := hbr
          obtain ⟨h', rfl⟩ := bracket_shape hlen hh hl
          rw [(bracket_parts h').1] at hlb ⊢
          exact Or.inl ⟨by simp, hlb, hd⟩
        · rename_i hbr
          split at e
          · rename_i hpl
            rw [Option.some.injEq, Prod.mk.injEq] at e
            obtain ⟨rfl, rfl⟩ := e
            simp only [Bool.and_eq_true, decide_eq_true_eq, Bool.not_eq_true', List.contains_eq_mem,
              decide_eq_false_iff_not] at hpl
            refine Or.inr ⟨?_, rfl, List.length_pos_iff.mp hpl.1, hpl.2, hd⟩
            -- a bracket form of the same text would have been found first: the last colon is the same
            rintro ⟨h', d', hb', hlb', hd'⟩
            have hu' : before ++ 0x3a :: port = (0x5b :: (h' ++ [0x5d])) ++ 0x3a :: d' := by rw [hb']; simp
            have hs' := congrArg (splitLast 0x3a) hu'
            rw [splitLast_append hnc, splitLast_append (digits_no_colon hd'), Option.some.injEq, Prod.mk.injEq] at hs'
            rw [hs'.1, bracket_test, hlb'] at hbr
            exact hbr rfl
          · cases e
      · simp [splitPort, hs, hd] at e
  · rintro (⟨rfl, hlb, hd⟩ | ⟨hno, rfl, hne, hc, hd⟩)
    · have hshape : 0x5b :: (h ++ 0x5d :: 0x3a :: d) = (0x5b :: (h ++ [0x5d])) ++ 0x3a :: d := by simp
      rw [hshape, splitPort_append hd, bracket_test, hlb, (bracket_parts h).1]
      rfl
    · have hlen : 1 ≤ h.length := List.length_pos_iff.mpr hne
      rw [splitPort_append hd, if_neg, if_pos (by simp [hlen, hc])]
      intro hbr
      simp only [Bool.and_eq_true, decide_eq_true_eq, beq_iff_eq, Bool.not_eq_true'] at hbr
      obtain ⟨⟨⟨hlen, hh⟩, hl⟩, hlb⟩ := hbr
      obtain ⟨h', rfl⟩ := bracket_shape hlen hh hl
      rw [(bracket_parts h').1] at hlb
      exact hno ⟨h', d, by simp, hlb, hd⟩

theorem splitPort_some {uri h p : Bytes} (e : splitPort uri = some (h, p)) :
    isDigits p = true ∧ p <:+ uri ∧ h <:+: uri ∧ (∃ pre, uri = pre ++ 0x3a :: p ∧ h <:+: pre) := by
  rcases splitPort_eq_some_iff.mp e with ⟨rfl, -, hd⟩ | ⟨-, rfl, -, -, hd⟩
  · exact ⟨hd, ⟨0x5b :: (h ++ [0x5d, 0x3a]), by simp⟩, ⟨[0x5b], 0x5d :: 0x3a :: p, by simp⟩,
      0x5b :: (h ++ [0x5d]), by simp, ⟨[0x5b], [0x5d], by simp⟩⟩
  · exact ⟨hd, ⟨h ++ [0x3a], by simp⟩, ⟨[], 0x3a :: p, by simp⟩, h, rfl, List.infix_refl _⟩

/-- everything `dissectRaw` returns is cut out of its input -/
theorem dissectRaw_some {s : Bytes} {d : Dissect} (e : dissectRaw s = some d) :
    d.host <:+: s ∧ d.serv <:+: s ∧ (0x2f : UInt8) ∉ d.host ∧
    (d.numeric = true → isDigits d.serv = true ∧ ∃ pre mid post, s = pre ++ mid ++ 0x3a :: d.serv ++ post ∧ d.host <:+: mid) ∧
    (d.numeric = false → ∀ c ∈ d.serv, isWord c = true) := by
  unfold dissectRaw at e
  split at e
  · cases e
  · rename_i rest scheme ht
    obtain ⟨⟨tail, htail, hsuf⟩, hpre, hword⟩ := trimServAndPath_some ht
    have hrest := (trimPath_some htail).1
    have hrest_in : rest <:+: s := hrest ▸ (List.takeWhile_prefix _).isInfix.trans hsuf.isInfix
    have hrest_noslash : (0x2f : UInt8) ∉ rest := hrest ▸ not_mem_takeWhile_bne _ _
    split at e
    · rename_i h p hsp
      cases e
      obtain ⟨hdig, hpsuf, hhin, pre, hshape, hhpre⟩ := splitPort_some hsp
      refine ⟨hhin.trans hrest_in, hpsuf.isInfix.trans hrest_in, fun hm => hrest_noslash (hhin.mem hm), ?_, by simp⟩
      obtain ⟨a, b, hab⟩ := hrest_in
      exact fun _ => ⟨hdig, a, pre, b, by rw [← hab, hshape]; simp, hhpre⟩
    · cases e
      exact ⟨hrest_in, hpre.isInfix, hrest_noslash, by simp, fun _ => hword⟩

theorem splitPort_nocolon {h : Bytes} (hc : 0x3a ∉ h) : splitPort h = none := by
  rw [splitPort, splitLast_none hc]

theorem splitPort_plain {h d : Bytes} (hne : h ≠ []) (hc : 0x3a ∉ h) (hb : h.head? ≠ some 0x5b)
    (hd : isDigits d = true) : splitPort (h ++ 0x3a :: d) = some (h, d) :=
  splitPort_eq_some_iff.mpr (Or.inr ⟨fun ⟨h', d', e, _⟩ => hb (by cases h <;> simp_all), rfl, hne, hc, hd⟩)

theorem splitPort_bracket {h d : Bytes} (hl : hasLineBreak h = false) (hd : isDigits d = true) :
    splitPort (0x5b :: (h ++ 0x5d :: 0x3a :: d)) = some (h, d) :=
  splitPort_eq_some_iff.mpr (Or.inl ⟨rfl, hl, hd⟩)

theorem stollParts_digits {d : Bytes} (hd : isDigits d = true) : stollParts d = (false, d) := by
  simp [stollParts, cstr_of_digits hd, signSplit_dropWhile_of_digits hd, takeWhile_isDigit_of_digits hd]

theorem isServiceNumeric_of_digits {d : Bytes} (hd : isDigits d = true) : isServiceNumeric d = true := by
  rw [isServiceNumeric_eq, cstr_of_digits hd, numericReads_digits hd]; rfl

/-- a service that passes `IsServiceNumeric` always gives `std::stoll` a digit to convert:
`invalid_argument` cannot come out of `CheckServiceNumericOutOfRange` -/
theorem checkRange_ne_invalid {s : Bytes} (h : isServiceNumeric s = true) :
    checkRange s ≠ .error .invalidArgument := by
  rw [isServiceNumeric_eq] at h
  cases hr : numericReads (cstr s) with
  | none => rw [hr] at h; cases h
  | some r =>
    rw [checkRange_of_reads (neg := r.1) (m := r.2) hr]
    rcases rangeOf_cases r.1 r.2 with e | e | e <;> simp [e]

theorem checkRange_digits_small {d : Bytes} (hd : isDigits d = true) (hv : decVal d ≤ 65535) : checkRange d = .ok () := by
  have hr : numericReads (cstr d) = some (false, satVal cap64 d) := by
    rw [cstr_of_digits hd]; exact numericReads_digits hd
  rw [checkRange_of_reads hr, rangeOf_ok_iff, satVal_eq]
  exact ⟨by omega, by simp⟩

theorem checkRange_render {p : Nat} (hp : p < 65536) : checkRange (render p) = .ok () :=
  checkRange_digits_small (isDigits_render p) (by rw [decVal_render]; omega)

theorem portText_render {p : Nat} (hp : p < 65536) : PortText (cstr (render p)) := by
  rw [cstr_of_digits (isDigits_render p)]
  exact portText_digits (isDigits_render p) (by rw [decVal_render]; omega)

theorem portText_of_not_numeric {s : Bytes} (h : isServiceNumeric s = false) : PortText (cstr s) := by
  intro neg m e
  rw [isServiceNumeric_eq, e] at h
  cases h

/-- a numeric port is a digit string, which `IsServiceNumeric` recognises: both branches of the guard in
`UriDissect` are the same test -/
theorem guardRange_eq_guarded {d : Dissect} (h : d.numeric = true → isDigits d.serv = true) :
    guardRange d = guarded d.serv d := by
  unfold guardRange guarded
  cases hn : d.numeric with
  | false => rfl
  | true => rw [isServiceNumeric_of_digits (h hn)]; rfl

theorem dissect_eq_guarded (s : Bytes) :
    dissect s = match dissectRaw s with
      | none => .error .logicError
      | some d => guarded d.serv d := by
  unfold dissect
  cases hr : dissectRaw s with
  | none => rfl
  | some d =>
    obtain ⟨-, -, -, hnum, -⟩ := dissectRaw_some hr
    exact guardRange_eq_guarded fun hn => (hnum hn).1

theorem dissect_ok_iff {s : Bytes} {d : Dissect} : dissect s = .ok d ↔ dissectRaw s = some d ∧ PortText (cstr d.serv) := by
  rw [dissect_eq_guarded]
  cases dissectRaw s with
  | none => simp
  | some d' =>
    rw [Option.some.injEq]
    show guarded d'.serv d' = .ok d ↔ _
    rw [guarded_ok_iff]
    constructor <;> rintro ⟨rfl, h⟩ <;> exact ⟨rfl, h⟩

theorem dissect_ok_raw {s : Bytes} {d : Dissect} (h : dissect s = .ok d) : dissectRaw s = some d :=
  (dissect_ok_iff.mp h).1

theorem dissect_logicError_iff {s : Bytes} : dissect s = .error .logicError ↔ dissectRaw s = none := by
  rw [dissect_eq_guarded]
  cases dissectRaw s with
  | none => simp
  | some d =>
    show guarded d.serv d = _ ↔ _
    rcases guarded_cases d.serv d with h | h | h <;> simp [h]

theorem dissectRaw_eq_none_iff {s : Bytes} : dissectRaw s = none ↔ trimServAndPath s = none := by
  unfold dissectRaw
  split
  · simp [*]
  · split <;> simp [*]

/-- once the host part and the port are split off, a port below 65536 passes the guard -/
theorem dissect_numeric {uri hostport scheme h : Bytes} {p : Nat} (hp : p < 65536)
    (ht : trimServAndPath uri = some (hostport, scheme)) (hs : splitPort hostport = some (h, render p)) :
    dissect uri = .ok ⟨h, render p, true⟩ :=
  dissect_ok_iff.mpr ⟨by simp [dissectRaw, ht, hs], portText_render hp⟩

theorem dissect_named {uri host scheme : Bytes} (ht : trimServAndPath uri = some (host, scheme))
    (hs : splitPort host = none) (hn : isServiceNumeric scheme = false) :
    dissect uri = .ok ⟨host, scheme, false⟩ :=
  dissect_ok_iff.mpr ⟨by simp [dissectRaw, ht, hs], portText_of_not_numeric hn⟩

theorem parseUri_ok {s : Bytes} {c : GaiCall} (h : parseUri s = .ok c) : ∃ d, dissect s = .ok d ∧ c = d.toGai := by
  unfold parseUri at h
  split at h
  · cases h
  · cases hd : dissect s with
    | error e => rw [hd] at h; cases h
    | ok d => rw [hd] at h; cases h; exact ⟨d, rfl, rfl⟩

theorem parseUri_portText {s : Bytes} {c : GaiCall} (h : parseUri s = .ok c) : PortText c.serv := by
  obtain ⟨d, hd, rfl⟩ := parseUri_ok h
  exact (dissect_ok_iff.mp hd).2

theorem dissect_nil : dissect [] = .error .logicError := by decide

theorem parseUri_of_dissect {s : Bytes} {d : Dissect} (h : dissect s = .ok d) : parseUri s = .ok d.toGai := by
  cases s with
  | nil => rw [dissect_nil] at h; cases h
  | cons _ _ => simp only [parseUri, List.isEmpty_cons, Bool.false_eq_true, if_false, h]; rfl

theorem parseHostServ_eq_guarded {host serv : Bytes} (hh : host ≠ []) (hs : serv ≠ []) :
    parseHostServ host serv = guarded serv ⟨cstr host, cstr serv, false⟩ := by
  cases host with
  | nil => exact absurd rfl hh
  | cons _ _ =>
    cases serv with
    | nil => exact absurd rfl hs
    | cons _ _ => rfl

theorem parseHostServ_ok {host serv : Bytes} {c : GaiCall} (h : parseHostServ host serv = .ok c) :
    c = ⟨cstr host, cstr serv, false⟩ ∧ PortText (cstr serv) := by
  have hh : host ≠ [] := fun e => by subst e; cases h
  have hs : serv ≠ [] := fun e => by subst e; cases host <;> cases h
  rw [parseHostServ_eq_guarded hh hs] at h
  exact ⟨(guarded_ok_iff.mp h).1.symm, (guarded_ok_iff.mp h).2⟩

end SockModel.Uri
