/-
Model of the deadline helpers (src/wait.h), `ToMsec` (src/wait.cpp) and
`MinDuration` (src/driver_impl.cpp).

Time points and `steady_clock` durations are `Int` nanoseconds; `Duration`
(`std::chrono::milliseconds`) is `Int` milliseconds.  `duration_cast` truncates
toward zero (`Int.tdiv`).
-/
namespace SockModel.Deadline

def nsPerMs : Int := 1000000

/-- `duration_cast<milliseconds>(ns)` -/
def toMs (ns : Int) : Int := Int.tdiv ns nsPerMs

/-- the three deadline flavours `Step`/`Send` choose from by the sign of the timeout -/
inductive Deadline where
  | unlimited (now : Int)                  -- DeadlineUnlimitedTime (now is only read by StepTodos)
  | zero (now : Int)                       -- DeadlineZeroTime
  | limited (now : Int) (deadline : Int)   -- DeadlineLimited
  deriving Repr, DecidableEq

def Deadline.now : Deadline → Int
  | .unlimited n => n
  | .zero n => n
  | .limited n _ => n

/-- construct from a `Duration` timeout at clock reading `now` -/
def Deadline.make (timeoutMs : Int) (now : Int) : Deadline :=
  if timeoutMs < 0 then .unlimited now
  else if timeoutMs = 0 then .zero now
  else .limited now (now + timeoutMs * nsPerMs)

def Deadline.tick (d : Deadline) (now : Int) : Deadline :=
  match d with
  | .unlimited _ => .unlimited now
  | .zero _ => .zero now
  | .limited _ dl => .limited now dl

def Deadline.timeLeft : Deadline → Bool
  | .unlimited _ => true
  | .zero _ => false
  | .limited n dl => n < dl

/-- `Remaining()` in ms: -1 = unlimited, clamped at 0 for a limited deadline -/
def Deadline.remaining : Deadline → Int
  | .unlimited _ => -1
  | .zero _ => 0
  | .limited n dl => if toMs (dl - n) < 0 then 0 else toMs (dl - n)

/-- `MinDuration(lhs ns, rhs ms)` -/
def minDuration (lhsNs : Int) (rhsMs : Int) : Int :=
  if rhsMs < 0 then toMs lhsNs else min (toMs lhsNs) rhsMs

def intMax : Int := 2147483647
def intMin : Int := -2147483648

/-- `ToMsec` as shipped before the F6 repair: `duration_cast<duration<int, milli>>`
narrows the 64-bit count to a 32-bit `int` (two's complement wrap). -/
def toMsecLegacy (ms : Int) : Int := Int.bmod ms (2 ^ 32)

/-- `ToMsec` after the F6 repair: clamp to `[-intMax, intMax]` (`INT_MIN` itself is never produced). -/
def toMsec (ms : Int) : Int :=
  if ms > intMax then intMax else if ms < -intMax then -intMax else ms

theorem toMs_nonneg {ns : Int} (h : 0 ≤ ns) : 0 ≤ toMs ns := by
  unfold toMs nsPerMs
  exact Int.tdiv_nonneg h (by decide)

theorem toMs_mul_le {ns : Int} (h : 0 ≤ ns) : toMs ns * nsPerMs ≤ ns := by
  unfold toMs nsPerMs
  rw [Int.tdiv_eq_ediv_of_nonneg h]
  omega

theorem toMs_lt {ns : Int} (h : 0 ≤ ns) : ns < (toMs ns + 1) * nsPerMs := by
  unfold toMs nsPerMs
  have h1 : Int.tdiv ns 1000000 = ns / 1000000 := Int.tdiv_eq_ediv_of_nonneg h
  rw [h1]
  omega

theorem remaining_nonneg_of_limited (n dl : Int) : 0 ≤ (Deadline.limited n dl).remaining := by
  show 0 ≤ (if toMs (dl - n) < 0 then 0 else toMs (dl - n))
  split
  · exact Int.le_refl 0
  · omega

end SockModel.Deadline
