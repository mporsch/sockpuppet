/-!
Fair progress of a two-sided transition system, abstractly (instances: `sysTS` in `Model/HsSched.lean`, `agTS` in
`Model/HsAsyncQ.lean`).

Two sides take steps in any order.  There is an invariant, a measure that no step increases and that a step of a side
which *can progress* strictly decreases; a step of one side does not take the other side's ability to progress away;
while the system is unfinished some side can progress; measure 0 means finished.  Then every schedule in which each
side steps at least once in every window of `w` steps (`SideFair`) - or just: in which every window lowers the measure
while the system is unfinished (`Progressive`) - finishes within `w · mu` steps.
-/
namespace SockModel.Fair

structure TS (S A : Type) where
  step : S → A → S
  inv : S → Prop
  mu : S → Nat
  /-- which side takes the step; `none` = a neutral step (e.g. the user of an asynchronous socket queues a buffer) -/
  side : A → Option Bool
  can : S → Bool → Prop
  fin : S → Prop
  ok : A → Prop
  step_ok : ∀ s a, inv s → ok a →
    inv (step s a) ∧ mu (step s a) ≤ mu s ∧ (∀ r, side a = some r → can s r → mu (step s a) < mu s) ∧
    (∀ r, side a ≠ some r → can s r → can (step s a) r) ∧ (fin s → fin (step s a))
  live : ∀ s, inv s → ¬ fin s → can s true ∨ can s false
  zero : ∀ s, inv s → mu s = 0 → fin s

variable {S A : Type}

def TS.run (T : TS S A) (l : List A) (s : S) : S := l.foldl T.step s

def TS.BothSides (T : TS S A) (v : List A) : Prop :=
  (∃ a ∈ v, T.side a = some true) ∧ (∃ a ∈ v, T.side a = some false)

/-- each side steps at least once in every window of `w` consecutive steps -/
def TS.SideFair (T : TS S A) (w : Nat) (l : List A) : Prop :=
  ∀ i, i + w ≤ l.length → T.BothSides ((l.drop i).take w)

theorem TS.run_cons (T : TS S A) (a : A) (l : List A) (s : S) : T.run (a :: l) s = T.run l (T.step s a) := rfl

theorem TS.run_append (T : TS S A) (l1 l2 : List A) (s : S) : T.run (l1 ++ l2) s = T.run l2 (T.run l1 s) := by
  simp [TS.run, List.foldl_append]

theorem TS.run_spec (T : TS S A) : ∀ (l : List A) (s : S), T.inv s → (∀ a ∈ l, T.ok a) →
    T.inv (T.run l s) ∧ T.mu (T.run l s) ≤ T.mu s ∧ (T.fin s → T.fin (T.run l s)) := by
  intro l
  induction l with
  | nil => intro s h _; exact ⟨h, Nat.le_refl _, fun h => h⟩
  | cons a l ih =>
    intro s h hok
    obtain ⟨i1, m1, _, _, f1⟩ := T.step_ok s a h (hok a (List.mem_cons_self ..))
    obtain ⟨j1, j2, j3⟩ := ih _ i1 (fun b hb => hok b (List.mem_cons_of_mem _ hb))
    rw [TS.run_cons]
    exact ⟨j1, Nat.le_trans j2 m1, fun hf => j3 (f1 hf)⟩

theorem TS.side_progress (T : TS S A) (r : Bool) : ∀ (v : List A) (s : S), T.inv s → (∀ a ∈ v, T.ok a) →
    T.can s r → (∃ a ∈ v, T.side a = some r) → T.mu (T.run v s) < T.mu s := by
  intro v
  induction v with
  | nil => intro s _ _ _ h; obtain ⟨a, ha, _⟩ := h; cases ha
  | cons b v ih =>
    intro s hinv hok hp hex
    obtain ⟨i1, m1, p1, k1, _⟩ := T.step_ok s b hinv (hok b (List.mem_cons_self ..))
    have hok' : ∀ a ∈ v, T.ok a := fun a ha => hok a (List.mem_cons_of_mem _ ha)
    rw [TS.run_cons]
    by_cases hb : T.side b = some r
    · have := p1 r hb hp
      have := (T.run_spec v _ i1 hok').2.1
      omega
    · have hp' : T.can (T.step s b) r := k1 r hb hp
      have hex' : ∃ a ∈ v, T.side a = some r := by
        obtain ⟨a, ha, hac⟩ := hex
        rcases List.mem_cons.mp ha with rfl | ha
        · exact absurd hac hb
        · exact ⟨a, ha, hac⟩
      have := ih _ i1 hok' hp' hex'
      omega

theorem TS.block_progress (T : TS S A) (v : List A) (s : S) (hinv : T.inv s) (hok : ∀ a ∈ v, T.ok a)
    (hv : T.BothSides v) (hnf : ¬ T.fin s) : T.mu (T.run v s) < T.mu s := by
  rcases T.live s hinv hnf with hc | hc
  · exact T.side_progress true v s hinv hok hc hv.1
  · exact T.side_progress false v s hinv hok hc hv.2

/-- while the system is unfinished, every window of `w` steps lowers the measure -/
def TS.Progressive (T : TS S A) (w : Nat) (l : List A) (s : S) : Prop :=
  ∀ i, i + w ≤ l.length → ¬ T.fin (T.run (l.take i) s) →
    T.mu (T.run ((l.drop i).take w) (T.run (l.take i) s)) < T.mu (T.run (l.take i) s)

theorem TS.progressive_of_sideFair (T : TS S A) (w : Nat) (l : List A) (s : S) (hinv : T.inv s)
    (hok : ∀ a ∈ l, T.ok a) (hf : T.SideFair w l) : T.Progressive w l s := fun i hi hnf =>
  T.block_progress _ _ (T.run_spec _ s hinv (fun a ha => hok a (List.mem_of_mem_take ha))).1
    (fun a ha => hok a (List.mem_of_mem_drop (List.mem_of_mem_take ha))) (hf i hi) hnf

theorem TS.windows_of (T : TS S A) (w : Nat) (l : List A) (s : S) (hinv : T.inv s) (hok : ∀ a ∈ l, T.ok a)
    (hf : T.Progressive w l s) : ∀ m, m * w ≤ l.length →
      T.fin (T.run (l.take (m * w)) s) ∨ T.mu (T.run (l.take (m * w)) s) + m ≤ T.mu s := by
  intro m
  induction m with
  | zero => intro _; right; simp [TS.run]
  | succ m ih =>
    intro hm
    have hmw : (m + 1) * w = m * w + w := Nat.succ_mul m w
    have hm' : m * w ≤ l.length := by omega
    have hsplit : l.take ((m + 1) * w) = l.take (m * w) ++ (l.drop (m * w)).take w := by
      rw [hmw, List.take_add]
    have hok1 : ∀ a ∈ l.take (m * w), T.ok a := fun a ha => hok a (List.mem_of_mem_take ha)
    have hok2 : ∀ a ∈ (l.drop (m * w)).take w, T.ok a :=
      fun a ha => hok a (List.mem_of_mem_drop (List.mem_of_mem_take ha))
    obtain ⟨hinv1, _, _⟩ := T.run_spec _ s hinv hok1
    rw [hsplit, TS.run_append]
    obtain ⟨_, k2, k3⟩ := T.run_spec _ _ hinv1 hok2
    rcases ih hm' with hb | hmu
    · exact Or.inl (k3 hb)
    · by_cases hb : T.fin (T.run (l.take (m * w)) s)
      · exact Or.inl (k3 hb)
      · right
        have := hf (m * w) (by omega) hb
        omega

theorem TS.windows (T : TS S A) (w : Nat) (l : List A) (s : S) (hinv : T.inv s) (hok : ∀ a ∈ l, T.ok a)
    (hf : T.SideFair w l) : ∀ m, m * w ≤ l.length →
      T.fin (T.run (l.take (m * w)) s) ∨ T.mu (T.run (l.take (m * w)) s) + m ≤ T.mu s :=
  T.windows_of w l s hinv hok (T.progressive_of_sideFair w l s hinv hok hf)

theorem TS.completes_of (T : TS S A) (w : Nat) (l : List A) (s : S) (hinv : T.inv s) (hok : ∀ a ∈ l, T.ok a)
    (hf : T.Progressive w l s) (j : Nat) (hj : j ≤ l.length) :
    T.inv (T.run (l.take j) s) ∧ (T.mu s * w ≤ j → T.fin (T.run (l.take j) s)) := by
  have hokj : ∀ a ∈ l.take j, T.ok a := fun a ha => hok a (List.mem_of_mem_take ha)
  refine ⟨(T.run_spec _ s hinv hokj).1, ?_⟩
  intro hB
  have hok1 : ∀ a ∈ l.take (T.mu s * w), T.ok a := fun a ha => hok a (List.mem_of_mem_take ha)
  have hinv1 := (T.run_spec _ s hinv hok1).1
  have hfin : T.fin (T.run (l.take (T.mu s * w)) s) := by
    rcases T.windows_of w l s hinv hok hf (T.mu s) (by omega) with h | h
    · exact h
    · exact T.zero _ hinv1 (by omega)
  have hsplit : l.take j = l.take (T.mu s * w) ++ (l.drop (T.mu s * w)).take (j - T.mu s * w) := by
    have : j = T.mu s * w + (j - T.mu s * w) := by omega
    conv => lhs; rw [this, List.take_add]
  rw [hsplit, TS.run_append]
  refine (T.run_spec _ _ hinv1 ?_).2.2 hfin
  intro a ha
  exact hok a (List.mem_of_mem_drop (List.mem_of_mem_take ha))

/-- **fair schedules finish**: within `mu s · w` steps, and stay finished -/
theorem TS.fair_completes (T : TS S A) (w : Nat) (l : List A) (s : S) (hinv : T.inv s) (hok : ∀ a ∈ l, T.ok a)
    (hf : T.SideFair w l) (j : Nat) (hj : j ≤ l.length) :
    T.inv (T.run (l.take j) s) ∧ (T.mu s * w ≤ j → T.fin (T.run (l.take j) s)) :=
  T.completes_of w l s hinv hok (T.progressive_of_sideFair w l s hinv hok hf) j hj

end SockModel.Fair
