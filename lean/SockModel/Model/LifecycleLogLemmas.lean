import SockModel.Model.LifecycleLemmas
/-! What the lifecycle machine (`Model/Lifecycle.lean`) writes to its log, per transition: the shape of
the handler events (`Tr`), the link between logged future events and future states (`LogInv`), and the
destruction sequence at the end of a history.  Used by `Spec/C17.lean`. -/
namespace SockModel.Lifecycle

def futId? : Ev → Option Nat
  | .fut id _ => some id
  | _ => none

/-- the handler events of a piece of log -/
def hEvents (D : List Ev) : List Ev := D.filter (fun e => !isFutEv e)

theorem hEvents_append (a b : List Ev) : hEvents (a ++ b) = hEvents a ++ hEvents b := by
  simp [hEvents]

theorem hEvents_futs (l : List Nat) (v : Fut) : hEvents (l.map fun id => Ev.fut id v).reverse = [] := by
  simp only [hEvents, List.filter_eq_nil_iff, List.mem_reverse, List.mem_map]
  rintro e ⟨id, _, rfl⟩
  simp [isFutEv]

/-! ### `Tr`: what one transition does to log, socket identities and futures -/

structure Tr (s s' : St) (H : List Ev) : Prop where
  /-- the log only grows; `H` = the handler events it grew by (newest first) -/
  grow : ∃ D, s'.log = D ++ s.log ∧ hEvents D = H
  frame : ∀ j, (s'.sock j).present = (s.sock j).present ∧ (s'.sock j).onDisc = (s.sock j).onDisc ∧
    ((s'.sock j).alive = true → (s.sock j).alive = true)
  futs : ∀ id x st, s.futs id = some (x, st) → ∃ st', s'.futs id = some (x, st')
  nfut : s'.nfut = s.nfut

theorem Tr.refl (s : St) : Tr s s [] :=
  ⟨⟨[], rfl, rfl⟩, fun _ => ⟨rfl, rfl, id⟩, fun _ _ st h => ⟨st, h⟩, rfl⟩

theorem Tr.trans {s s' s'' : St} {H1 H2 : List Ev} (h1 : Tr s s' H1) (h2 : Tr s' s'' H2) : Tr s s'' (H2 ++ H1) := by
  obtain ⟨D1, hl1, hh1⟩ := h1.grow
  obtain ⟨D2, hl2, hh2⟩ := h2.grow
  refine ⟨⟨D2 ++ D1, by rw [hl2, hl1, List.append_assoc], by rw [hEvents_append, hh1, hh2]⟩, ?_, ?_, ?_⟩
  · intro j
    obtain ⟨a1, b1, c1⟩ := h1.frame j
    obtain ⟨a2, b2, c2⟩ := h2.frame j
    exact ⟨a2.trans a1, b2.trans b1, fun h => c1 (c2 h)⟩
  · intro id x st h
    obtain ⟨st', h'⟩ := h1.futs id x st h
    exact h2.futs id x st' h'
  · exact h2.nfut.trans h1.nfut

theorem Tr.dead {s s' : St} {H : List Ev} (h : Tr s s' H) {i : Nat} (hd : (s.sock i).alive = false) :
    (s'.sock i).alive = false := by
  cases ha : (s'.sock i).alive with
  | false => rfl
  | true => have := (h.frame i).2.2 ha; rw [hd] at this; cases this

theorem Tr.atom {s s' : St} {H : List Ev} (a : Atom s s' H) : Tr s s' H := by
  cases a with
  | same _ hs hf hn hl =>
    exact ⟨⟨[], by simpa using hl, rfl⟩, fun j => by rw [hs]; exact ⟨rfl, rfl, id⟩,
      fun _ _ st h => ⟨st, by rw [hf]; exact h⟩, hn⟩
  | emit e he => exact ⟨⟨[e], rfl, by simp [hEvents, he]⟩, fun _ => ⟨rfl, rfl, id⟩, fun _ _ st h => ⟨st, h⟩, rfl⟩
  | settle i Q rest v k hq hk hv hp ho ha =>
    refine ⟨⟨_, rfl, hEvents_futs Q v⟩, fun j => ?_, fun _ _ _ h => mark_some h, rfl⟩
    by_cases hj : j = i
    · subst hj
      rw [settle_sock_same]
      refine ⟨hp, ho, fun hal => ?_⟩
      rcases ha with ha | ⟨ha, _⟩
      · exact ha ▸ hal
      · rw [ha] at hal; cases hal
    · rw [settle_sock_other _ _ _ _ hj]; exact ⟨rfl, rfl, id⟩

theorem Tr.of_steps {s s' : St} {H : List Ev} (st : Steps s s' H) : Tr s s' H := by
  induction st with
  | refl => exact Tr.refl _
  | head a _ ih => exact (Tr.atom a).trans ih

theorem Tr.resolve (s : St) (id : Nat) (v : Fut) : Tr s (s.resolve id v) [] := by
  rw [resolve_eq]
  exact ⟨⟨[.fut id v], rfl, rfl⟩, fun _ => ⟨rfl, rfl, fun h => h⟩, fun _ _ _ h => mark_some h, rfl⟩

theorem destroySockObj_dead (s : St) (i : Nat) : ((s.destroySockObj i).sock i).alive = false := by
  rw [destroySockObj_sock_same]

theorem Tr.destroySockObj (s : St) (i : Nat) : Tr s (s.destroySockObj i) [] := .of_steps (destroySockObj_steps s i)

theorem Tr.disconnect (s : St) (i : Nat) : Tr s (s.disconnect i) [.disc i] ∧
    ((s.sock i).onDisc = true → ((s.disconnect i).sock i).alive = false) :=
  ⟨.of_steps (disconnect_steps s i), disconnect_dead s i⟩

theorem Tr.stepSockets (s : St) (d : Nat) : ∃ H, Tr s (s.stepSockets d) H ∧
    (H = [] ∨ ∃ i, (s.sock i).alive = true ∧ SockShape s (s.stepSockets d) i H) := by
  obtain ⟨H, st, hs⟩ := stepSockets_steps s d
  exact ⟨H, .of_steps st, hs⟩

theorem Tr.step (s : St) (d : Nat) : ∃ Ht Hs, Tr s (s.step d) (Hs ++ Ht) ∧ (Ht = [] ∨ ∃ t, Ht = [.todo t]) ∧
    (Hs = [] ∨ ∃ i, (s.sock i).alive = true ∧ SockShape s (s.step d) i Hs) := by
  obtain ⟨Ht, Hs, st, ht, hs⟩ := step_steps s d
  exact ⟨Ht, Hs, .of_steps st, ht, hs⟩

/-! ### operations -/

theorem Tr.exec_plain (s : St) (op : Op) (hp : plainOp op = true) : Tr s (exec .fixed s op) [] :=
  .of_steps (exec_plain_steps .fixed s op hp)

theorem exec_step {s : St} (hub : s.ub = none) {d : Nat} (hl : legalOp s (.step d) = true) :
    exec .fixed s (.step d) = s.step d := by
  simp only [legalOp] at hl
  unfold Lifecycle.exec
  simp [hub, hl]

theorem exec_destroySock {s : St} (hub : s.ub = none) {i : Nat} (hl : legalOp s (.destroySock i) = true) :
    exec .fixed s (.destroySock i) = s.destroySockObj i := by
  simp only [legalOp, Bool.and_eq_true] at hl
  unfold Lifecycle.exec
  simp [hub, hl.1]

/-- what a `Send` shows: a new pending future of socket `i`, nothing else the observer could see -/
def NewFut (s s' : St) (i : Nat) : Prop :=
  s'.log = s.log ∧
  (∀ j, (s'.sock j).present = (s.sock j).present ∧ (s'.sock j).onDisc = (s.sock j).onDisc ∧
    (s'.sock j).alive = (s.sock j).alive) ∧
  s'.nfut = s.nfut + 1 ∧ ∀ id, s'.futs id = if id = s.nfut then some (i, .pending) else s.futs id

theorem NewFut.enqueue (s : St) (i : Nat) (e : Bool) : NewFut s (s.enqueue i e) i := by
  refine ⟨rfl, fun j => ?_, rfl, fun _ => rfl⟩
  by_cases hj : j = i
  · subst hj; rw [enqueue_sock_same]; exact ⟨rfl, rfl, rfl⟩
  · rw [enqueue_sock_other _ _ hj]; exact ⟨rfl, rfl, rfl⟩

theorem NewFut.wantSend {s s' : St} {i : Nat} (h : NewFut s s' i) : NewFut s (St.wantSend .fixed s' i) i := by
  obtain ⟨w1, w2, w3, w4⟩ := wantSend_same .fixed s' i
  unfold NewFut
  rw [w1, w2, w3, w4]; exact h

theorem exec_send {s : St} (hub : s.ub = none) {i : Nat} (hl : legalOp s (.send i) = true) :
    NewFut s (exec .fixed s (.send i)) i := by
  simp only [legalOp, Bool.and_eq_true, bne_iff_ne, ne_eq, decide_eq_true_eq] at hl
  obtain ⟨⟨⟨hal, _⟩, hpa⟩, _⟩ := hl
  unfold Lifecycle.exec
  simp only [hub, Option.isSome_none, Bool.false_eq_true, ↓reduceIte, hal, not_true_eq_false, hpa]
  split
  · exact (NewFut.enqueue s i false).wantSend
  · exact NewFut.enqueue s i false

/-- a legal echo: one held receive buffer goes back to the library first, which the observer does not see -/
theorem exec_echo {s : St} (hub : s.ub = none) {i : Nat} (hl : legalOp s (.echo i) = true) :
    NewFut s (exec .fixed s (.echo i)) i := by
  simp only [legalOp, Bool.and_eq_true, bne_iff_ne, ne_eq, decide_eq_true_eq] at hl
  obtain ⟨⟨hal, _⟩, hheld⟩ := hl
  have hne : ¬ (s.sock i).held = 0 := by omega
  have h1 : ∀ (k : Sock), k.present = (s.sock i).present → k.onDisc = (s.sock i).onDisc → k.alive = (s.sock i).alive →
      NewFut s ((s.setSock i k).enqueue i true) i := by
    intro k hp ho ha
    obtain ⟨e1, e2, e3, e4⟩ := NewFut.enqueue (s.setSock i k) i true
    refine ⟨e1, fun j => ?_, e3, e4⟩
    rw [(e2 j).1, (e2 j).2.1, (e2 j).2.2]
    by_cases hj : j = i
    · subst hj; rw [setSock_same]; exact ⟨hp, ho, ha⟩
    · rw [setSock_other _ _ hj]; exact ⟨rfl, rfl, rfl⟩
  unfold Lifecycle.exec
  simp only [hub, Option.isSome_none, Bool.false_eq_true, ↓reduceIte, hal, not_true_eq_false, hne]
  split
  · refine NewFut.wantSend (h1 _ ?_ ?_ ?_) <;> simp [hal]
  · refine h1 _ ?_ ?_ ?_ <;> simp [hal]

theorem exec_newFut {s : St} (hub : s.ub = none) {op : Op} {i : Nat} (hop : op = .send i ∨ op = .echo i)
    (hl : legalOp s op = true) : NewFut s (exec .fixed s op) i := by
  rcases hop with rfl | rfl
  · exact exec_send hub hl
  · exact exec_echo hub hl

/-- a legal creation of a socket: a new live object, nothing else the observer could see -/
theorem exec_mkSock {s s' : St} (hub : s.ub = none) {i d : Nat} {k : Kind} {a b c : Bool}
    (hl : legalOp s (.mkSock i k d a b c) = true) (hs : exec .fixed s (.mkSock i k d a b c) = s') :
    s'.log = s.log ∧ s'.futs = s.futs ∧ s'.nfut = s.nfut ∧ (∀ j, j ≠ i → s'.sock j = s.sock j) ∧
    (s'.sock i).present = true ∧ (s'.sock i).alive = true ∧ (s'.sock i).onDisc = a ∧ (s.sock i).present = false := by
  subst hs
  simp only [legalOp, Bool.and_eq_true, Bool.not_eq_eq_eq_not, Bool.not_true] at hl
  obtain ⟨⟨⟨hnp, hda⟩, _⟩, _⟩ := hl
  unfold Lifecycle.exec
  simp only [hub, Option.isSome_none, Bool.false_eq_true, ↓reduceIte, hnp, hda, not_true_eq_false]
  exact ⟨rfl, rfl, rfl, fun j hj => setSock_other _ _ hj, congrArg Sock.present (setSock_same s i _),
    congrArg Sock.alive (setSock_same s i _), congrArg Sock.onDisc (setSock_same s i _), trivial⟩

/-! ### `LogInv`: logged future events are exactly the resolved futures -/

structure LogInv (s : St) : Prop where
  sound : ∀ id st, Ev.fut id st ∈ s.log → st ≠ .pending ∧ ∃ x, s.futs id = some (x, st)
  complete : ∀ id x st, s.futs id = some (x, st) → st ≠ .pending → Ev.fut id st ∈ s.log
  nodup : (s.log.filterMap futId?).Nodup

theorem LogInv.init : LogInv {} := ⟨fun _ _ h => (by cases h), fun _ _ _ h => (by cases h), List.nodup_nil⟩

theorem LogInv.same {s s' : St} (h : LogInv s) (hl : s'.log = s.log) (hf : s'.futs = s.futs) : LogInv s' :=
  ⟨fun id st hm => by rw [hl] at hm; rw [hf]; exact h.sound id st hm,
   fun id x st hfu hp => by rw [hf] at hfu; rw [hl]; exact h.complete id x st hfu hp,
   by rw [hl]; exact h.nodup⟩

theorem LogInv.emit {s : St} (h : LogInv s) (e : Ev) (he : isFutEv e = false) : LogInv (s.emit e) := by
  have hid : futId? e = none := by cases e <;> simp_all [isFutEv, futId?]
  refine ⟨fun id st hm => ?_, fun id x st hfu hp => List.mem_cons_of_mem _ (h.complete id x st hfu hp), ?_⟩
  · rcases List.mem_cons.mp hm with heq | hm
    · subst heq; simp [isFutEv] at he
    · exact h.sound id st hm
  · show ((e :: s.log).filterMap futId?).Nodup
    rw [List.filterMap_cons, hid]; exact h.nodup

theorem mem_futIds {l : List Ev} {id : Nat} : id ∈ l.filterMap futId? ↔ ∃ st, Ev.fut id st ∈ l := by
  simp only [List.mem_filterMap]
  constructor
  · rintro ⟨e, he, hid⟩
    cases e <;> simp [futId?] at hid
    subst hid
    exact ⟨_, he⟩
  · rintro ⟨st, h⟩
    exact ⟨_, h, rfl⟩

/-- the pending futures `Q` are resolved at once, each with its log entry -/
theorem LogInv.settle {s s' : St} (h : LogInv s) (Q : List Nat) (v : Fut) (hv : v ≠ .pending)
    (hq : ∀ id ∈ Q, ∃ x, s.futs id = some (x, .pending)) (hnd : Q.Nodup)
    (hf : s'.futs = mark s.futs Q v) (hl : s'.log = (Q.map fun id => Ev.fut id v).reverse ++ s.log) : LogInv s' := by
  have hnotlogged : ∀ id ∈ Q, ∀ st, Ev.fut id st ∉ s.log := by
    intro id hid st hm
    obtain ⟨hne, x, hx⟩ := h.sound id st hm
    obtain ⟨x', hx'⟩ := hq id hid
    rw [hx'] at hx; cases hx; exact hne rfl
  refine ⟨?_, ?_, ?_⟩
  · intro id st hm
    rw [hl] at hm
    rcases List.mem_append.mp hm with hm | hm
    · simp only [List.mem_reverse, List.mem_map] at hm
      obtain ⟨id', hid', heq⟩ := hm
      cases heq
      obtain ⟨x, hx⟩ := hq id hid'
      refine ⟨hv, x, ?_⟩
      rw [hf, mark_of_mem hid', hx]; rfl
    · rw [hf, mark_of_not_mem (fun hin => hnotlogged id hin st hm)]
      exact h.sound id st hm
  · intro id x st hfu hp
    rw [hl]
    rw [hf] at hfu
    by_cases hin : id ∈ Q
    · obtain ⟨x', hx'⟩ := hq id hin
      rw [mark_of_mem hin, hx'] at hfu
      simp only [Option.map_some, Option.some.injEq, Prod.mk.injEq] at hfu
      obtain ⟨_, rfl⟩ := hfu
      apply List.mem_append_left
      simp only [List.mem_reverse, List.mem_map]
      exact ⟨id, hin, rfl⟩
    · rw [mark_of_not_mem hin] at hfu
      exact List.mem_append_right _ (h.complete id x st hfu hp)
  · rw [hl, List.filterMap_append]
    have hids : ((Q.map fun id => Ev.fut id v).reverse.filterMap futId?) = Q.reverse := by
      rw [← List.map_reverse, List.filterMap_map]
      have : (futId? ∘ fun id => Ev.fut id v) = some := by funext x; rfl
      rw [this]; simp
    rw [hids]
    apply List.nodup_append.mpr
    refine ⟨(List.reverse_perm Q).nodup_iff.mpr hnd, h.nodup, ?_⟩
    intro a ha b hb hab
    subst hab
    obtain ⟨st, hst⟩ := mem_futIds.mp hb
    exact hnotlogged a (List.mem_reverse.mp ha) st hst

theorem LogInv.atom {s s' : St} {H : List Ev} (a : Atom s s' H) (h : LogInv s) (hq : QOK s) : LogInv s' := by
  cases a with
  | same _ hs hf hn hl => exact h.same hl hf
  | emit e he => exact h.emit e he
  | settle i Q rest v k hqi hk hv hp ho ha =>
    have hnd := hq.2 i
    rw [hqi] at hnd
    exact h.settle Q v hv (fun id hid => ⟨i, hq.1 i id (by rw [hqi]; exact List.mem_append_left _ hid)⟩)
      (List.nodup_append.mp hnd).1 rfl rfl

theorem LogInv.steps {s s' : St} {H : List Ev} (h : LogInv s) (hq : QOK s) (st : Steps s s' H) : LogInv s' :=
  (st.ind (P := fun s => LogInv s ∧ QOK s) (fun a h => ⟨h.1.atom a h.2, h.2.atom a⟩) ⟨h, hq⟩).1

theorem LogInv.destroySockObj {s : St} (h : LogInv s) (hq : QOK s) (i : Nat) : LogInv (s.destroySockObj i) :=
  h.steps hq (destroySockObj_steps s i)

theorem LogInv.disconnect {s : St} (h : LogInv s) (hq : QOK s) (i : Nat) : LogInv (s.disconnect i) :=
  h.steps hq (disconnect_steps s i)

theorem LogInv.enqueue {s : St} (h : LogInv s) (hnf : ∀ j, s.futs j ≠ none → j < s.nfut) (i : Nat) (e : Bool) :
    LogInv (s.enqueue i e) := by
  refine ⟨?_, ?_, h.nodup⟩
  · intro id st hm
    obtain ⟨hne, x, hx⟩ := h.sound id st hm
    have hlt : id < s.nfut := hnf id (by rw [hx]; simp)
    exact ⟨hne, x, by rw [enqueue_futs, if_neg (by omega)]; exact hx⟩
  · intro id x st hfu hp
    rw [enqueue_futs] at hfu
    split at hfu
    · cases hfu; exact absurd rfl hp
    · exact h.complete id x st hfu hp

theorem LogInv.exec {s : St} (h : LogInv s) (hL : LInv s) (op : Op) : LogInv (exec .fixed s op) :=
  (exec_ind (P := fun s => LogInv s ∧ QOK s ∧ ∀ j, s.futs j ≠ none → j < s.nfut)
    (fun h st => ⟨h.1.steps h.2.1 st, h.2.1.steps st, st.ind nf_atom h.2.2⟩)
    (fun i e _ h => ⟨h.1.enqueue h.2.2 i e, h.2.1.enqueue h.2.2 i e, enqueue_nf h.2.2 i e⟩)
    (fun i k _ _ hk h => ⟨h.1.same rfl rfl, h.2.1.newSock i k hk, h.2.2⟩)
    .fixed ⟨h, QOK.of_LInv hL, hL.nf⟩ op).1

/-! ### the destruction sequence at the end of a history -/

theorem Tr.run_plain : ∀ (ops : List Op) (s : St), (∀ op ∈ ops, plainOp op = true) → Tr s (run .fixed s ops) [] := by
  intro ops
  induction ops with
  | nil => intro s _; exact Tr.refl s
  | cons op rest ih =>
    intro s h
    have h1 := Tr.exec_plain s op (h op List.mem_cons_self)
    have h2 := ih (exec .fixed s op) (fun o ho => h o (List.mem_cons_of_mem _ ho))
    show Tr s (run .fixed (exec .fixed s op) rest) []
    simpa using h1.trans h2

theorem LogInv.run {s : St} (h : LogInv s) (hL : LInv s) (ops : List Op) (hl : legalFrom .fixed s ops = true) :
    LogInv (run .fixed s ops) :=
  (run_legal_ind (P := fun s => LogInv s ∧ LInv s) (fun op h hl => ⟨h.1.exec h.2 op, h.2.exec op hl⟩) ops ⟨h, hL⟩ hl).1

theorem destroySockObj_pool (s : St) (i : Nat) : (s.destroySockObj i).poolAlive = s.poolAlive := by
  rw [destroySockObj_eq]; rfl

theorem endSocks_plain (p : Nat → Bool) (l : List Nat) :
    ∀ op ∈ (l.flatMap fun i => if p i then [Op.release i, Op.destroySock i] else []), plainOp op = true := by
  intro op hop
  simp only [List.mem_flatMap] at hop
  obtain ⟨j, _, hj⟩ := hop
  split at hj
  · simp only [List.mem_cons, List.mem_nil_iff, or_false] at hj
    rcases hj with rfl | rfl <;> rfl
  · cases hj

/-- `release i ; destroy i` for every listed socket that is alive -/
theorem end_socks (alive0 : Nat → Bool) : ∀ (l : List Nat) (s : St), l.Nodup → LInv s →
    (∀ i ∈ l, (s.sock i).alive = alive0 i) →
    let ops := l.flatMap fun i => if alive0 i then [Op.release i, Op.destroySock i] else []
    legalFrom .fixed s ops = true ∧ (∀ i ∈ l, ((run .fixed s ops).sock i).alive = false) ∧
    (run .fixed s ops).todo = s.todo ∧ (∀ d, ((run .fixed s ops).drv d).alive = (s.drv d).alive) ∧
    (run .fixed s ops).poolAlive = s.poolAlive := by
  intro l
  induction l with
  | nil => intro s _ _ _; exact ⟨rfl, fun _ h => (by cases h), rfl, fun _ => rfl, rfl⟩
  | cons i rest ih =>
    intro s hnd hL hal
    obtain ⟨hirest, hndrest⟩ := List.nodup_cons.mp hnd
    simp only [List.flatMap_cons]
    cases ha : alive0 i with
    | false =>
      simp only [Bool.false_eq_true, ↓reduceIte, List.nil_append]
      obtain ⟨h1, h2, h3, h4, h5⟩ := ih s hndrest hL (fun j hj => hal j (List.mem_cons_of_mem _ hj))
      refine ⟨h1, fun j hj => ?_, h3, h4, h5⟩
      rcases List.mem_cons.mp hj with rfl | hj
      · exact (Tr.run_plain _ s (endSocks_plain alive0 rest)).dead (by rw [hal j List.mem_cons_self, ha])
      · exact h2 j hj
    | true =>
      simp only [↓reduceIte, List.cons_append, List.nil_append]
      have hali : (s.sock i).alive = true := by rw [hal i List.mem_cons_self, ha]
      have hl1 : legalOp s (.release i) = true := by simp only [legalOp]; exact hL.sockPresent i hali
      have hL1 := hL.exec _ hl1
      have e1 : exec .fixed s (.release i) = s.setSock i { (s.sock i) with held := 0 } := by
        unfold Lifecycle.exec; simp [hL.ub]
      have hl2 : legalOp (exec .fixed s (.release i)) (.destroySock i) = true := by
        rw [e1]; simp [legalOp, hali]
      have e2 := exec_destroySock hL1.ub hl2
      obtain ⟨o1, o2, o3⟩ := destroySockObj_other (exec .fixed s (.release i)) i
      obtain ⟨h1, h2, h3, h4, h5⟩ := ih (exec .fixed (exec .fixed s (.release i)) (.destroySock i)) hndrest (hL1.exec _ hl2)
        (fun j hj => by
          have hji : j ≠ i := fun e => hirest (e ▸ hj)
          rw [e2, o1 j hji, e1, setSock_other _ _ hji]; exact hal j (List.mem_cons_of_mem _ hj))
      refine ⟨by simp only [legalFrom, hl1, hl2, h1, Bool.and_self], fun j hj => ?_, ?_, fun d => ?_, ?_⟩
      · simp only [run]
        rcases List.mem_cons.mp hj with rfl | hj
        · exact (Tr.run_plain _ _ (endSocks_plain alive0 rest)).dead (by rw [e2, destroySockObj_dead])
        · exact h2 j hj
      · simp only [run]; rw [h3, e2, o3, e1]; rfl
      · simp only [run]; rw [h4 d, e2, o2 d, e1]; rfl
      · simp only [run]; rw [h5, e2, destroySockObj_pool, e1]; rfl

/-- membership in a list of optional singletons -/
theorem mem_flatMap_opt {l : List Nat} {p : Nat → Bool} {f : Nat → Op} {x : Op}
    (h : x ∈ (l.flatMap fun t => if p t then [f t] else [])) : ∃ t ∈ l, p t = true ∧ x = f t := by
  obtain ⟨t, ht, hx⟩ := List.mem_flatMap.mp h
  split at hx
  · rename_i hp
    exact ⟨t, ht, hp, List.mem_singleton.mp hx⟩
  · cases hx

theorem flatMap_opt_nodup (p : Nat → Bool) (f : Nat → Op) (hinj : ∀ a b, f a = f b → a = b) :
    ∀ (l : List Nat), l.Nodup → (l.flatMap fun t => if p t then [f t] else []).Nodup := by
  intro l
  induction l with
  | nil => intro _; exact List.nodup_nil
  | cons t rest ih =>
    intro hnd
    obtain ⟨htrest, hndrest⟩ := List.nodup_cons.mp hnd
    simp only [List.flatMap_cons]
    split
    · simp only [List.cons_append, List.nil_append]
      refine List.nodup_cons.mpr ⟨?_, ih hndrest⟩
      intro hm
      obtain ⟨t', ht', _, heq⟩ := mem_flatMap_opt hm
      exact htrest (hinj _ _ heq ▸ ht')
    · simpa using ih hndrest

/-- ToDo handles and drivers are only dropped: sockets, futures and the pool are untouched -/
theorem run_drops_same : ∀ (ops : List Op) (s : St), (∀ op ∈ ops, (∃ t, op = .dropTodo t) ∨ ∃ d, op = .destroyDriver d) →
    (run .fixed s ops).sock = s.sock ∧ (run .fixed s ops).futs = s.futs ∧ (run .fixed s ops).nfut = s.nfut ∧
    (run .fixed s ops).poolAlive = s.poolAlive := by
  intro ops
  induction ops with
  | nil => intro s _; exact ⟨rfl, rfl, rfl, rfl⟩
  | cons op rest ih =>
    intro s h
    have h1 : (exec .fixed s op).sock = s.sock ∧ (exec .fixed s op).futs = s.futs ∧ (exec .fixed s op).nfut = s.nfut ∧
        (exec .fixed s op).poolAlive = s.poolAlive := by
      by_cases hub : s.ub.isSome = true
      · rw [exec_of_ub _ _ hub]; exact ⟨rfl, rfl, rfl, rfl⟩
      unfold Lifecycle.exec
      rw [if_neg hub]
      rcases h op List.mem_cons_self with ⟨t, rfl⟩ | ⟨d, rfl⟩ <;> simp only <;> split <;> exact ⟨rfl, rfl, rfl, rfl⟩
    obtain ⟨a, b, c, d⟩ := ih (exec .fixed s op) (fun o ho => h o (List.mem_cons_of_mem _ ho))
    simp only [run]
    exact ⟨a.trans h1.1, b.trans h1.2.1, c.trans h1.2.2.1, d.trans h1.2.2.2⟩

/-- what the harness destroys at the end of a history, in its order -/
def implicitEnd (s : St) (socks todos drvs : List Nat) : List Op :=
  (socks.flatMap fun i => if (s.sock i).alive then [Op.release i, Op.destroySock i] else []) ++
  (todos.flatMap fun t => if (s.todo t).handle then [Op.dropTodo t] else []) ++
  (drvs.flatMap fun d => if (s.drv d).alive then [Op.destroyDriver d] else []) ++
  (if s.poolAlive then [Op.destroyPool] else [])

/-- what the harness does at the end of a history (release and destroy every live socket, drop every ToDo handle,
destroy every driver, destroy the pool) is a legal continuation of any reachable state, and leaves no socket
alive and no future pending -/
theorem end_legal {s : St} (hL : LInv s) (hF : FInv s) {socks todos drvs : List Nat}
    (hnd : socks.Nodup ∧ todos.Nodup ∧ drvs.Nodup) (hcover : ∀ i, (s.sock i).alive = true → i ∈ socks) :
    legalFrom .fixed s (implicitEnd s socks todos drvs) = true ∧
    (∀ op ∈ implicitEnd s socks todos drvs, plainOp op = true) ∧
    (∀ i, ((run .fixed s (implicitEnd s socks todos drvs)).sock i).alive = false) ∧
    (∀ j, (run .fixed s (implicitEnd s socks todos drvs)).isPending j = false) := by
  unfold implicitEnd
  -- A: the sockets
  have hAplain := endSocks_plain (fun i => (s.sock i).alive) socks
  obtain ⟨hA1, hA2, hA3, hA4, hA5⟩ := end_socks (fun i => (s.sock i).alive) socks s hnd.1 hL (fun _ _ => rfl)
  generalize (socks.flatMap fun i => if (s.sock i).alive then [Op.release i, Op.destroySock i] else []) = A at *
  have hAdead : ∀ i, ((run .fixed s A).sock i).alive = false := by
    intro i
    cases hi : (s.sock i).alive with
    | true => exact hA2 i (hcover i hi)
    | false => exact (Tr.run_plain A s hAplain).dead hi
  -- B ++ C: ToDo handles and drivers
  generalize hBdef : (todos.flatMap fun t => if (s.todo t).handle then [Op.dropTodo t] else []) = B at *
  generalize hCdef : (drvs.flatMap fun d => if (s.drv d).alive then [Op.destroyDriver d] else []) = C at *
  have hB : ∀ op ∈ B, ∃ t, op = .dropTodo t ∧ (s.todo t).handle = true := fun op h => by
    rw [← hBdef] at h
    obtain ⟨t, _, ht, rfl⟩ := mem_flatMap_opt h
    exact ⟨t, rfl, ht⟩
  have hC : ∀ op ∈ C, ∃ d, op = .destroyDriver d ∧ (s.drv d).alive = true := fun op h => by
    rw [← hCdef] at h
    obtain ⟨d, _, hd, rfl⟩ := mem_flatMap_opt h
    exact ⟨d, rfl, hd⟩
  have hBC : ∀ op ∈ B ++ C, (∃ t, op = .dropTodo t ∧ (s.todo t).handle = true) ∨
      ∃ d, op = .destroyDriver d ∧ (s.drv d).alive = true := fun op h => (List.mem_append.mp h).imp (hB op) (hC op)
  have hBCnd : (B ++ C).Nodup := by
    refine List.nodup_append.mpr ⟨?_, ?_, fun a ha b hb hab => ?_⟩
    · rw [← hBdef]; exact flatMap_opt_nodup _ _ (fun a b h => by cases h; rfl) todos hnd.2.1
    · rw [← hCdef]; exact flatMap_opt_nodup _ _ (fun a b h => by cases h; rfl) drvs hnd.2.2
    · obtain ⟨t, rfl, _⟩ := hB a ha
      obtain ⟨d, rfl, _⟩ := hC b hb
      cases hab
  have hBClegal : legalFrom .fixed (run .fixed s A) (B ++ C) = true := by
    refine legalFrom_destroy_tail _ _ hBCnd (fun op h => ?_) (fun op h => ?_)
    · rcases hBC op h with ⟨t, rfl, _⟩ | ⟨d, rfl, _⟩ <;> rfl
    · rcases hBC op h with ⟨t, rfl, ht⟩ | ⟨d, rfl, hd⟩
      · simp only [legalOp]; rw [hA3]; exact ht
      · simp only [legalOp]; rw [hA4 d]; exact hd
  have hBCplain : ∀ op ∈ B ++ C, plainOp op = true := fun op h => by
    rcases hBC op h with ⟨t, rfl, _⟩ | ⟨d, rfl, _⟩ <;> rfl
  obtain ⟨hs1, _, _, hs4⟩ := run_drops_same (B ++ C) (run .fixed s A)
    (fun op h => (hBC op h).imp (fun ⟨t, e, _⟩ => ⟨t, e⟩) (fun ⟨d, e, _⟩ => ⟨d, e⟩))
  have hBCpend := ((hF.run .fixed A).run .fixed (B ++ C)).noPending (fun i => by rw [hs1]; exact hAdead i)
  -- P: the pool
  generalize hPdef : (if s.poolAlive then [Op.destroyPool] else []) = P
  have hPlegal : legalFrom .fixed (run .fixed (run .fixed s A) (B ++ C)) P = true := by
    rw [← hPdef]
    split
    · rename_i hpa
      simp only [legalFrom, legalOp, Bool.and_true, Bool.and_eq_true, beq_iff_eq]
      refine ⟨by rw [hs4, hA5]; exact hpa, ?_⟩
      unfold St.poolBusy
      rw [List.length_eq_zero_iff, List.filter_eq_nil_iff]
      intro j _
      simp [St.isPoolPending, hBCpend j]
    · rfl
  have hPplain : ∀ op ∈ P, plainOp op = true := by
    intro op h
    rw [← hPdef] at h
    split at h
    · simp only [List.mem_cons, List.mem_nil_iff, or_false] at h; subst h; rfl
    · cases h
  have hplain : ∀ op ∈ A ++ B ++ C ++ P, plainOp op = true := by
    intro op hop
    simp only [List.mem_append] at hop
    rcases hop with ((h | h) | h) | h
    · exact hAplain op h
    · exact hBCplain op (List.mem_append_left _ h)
    · exact hBCplain op (List.mem_append_right _ h)
    · exact hPplain op h
  have hdead : ∀ i, ((run .fixed s (A ++ B ++ C ++ P)).sock i).alive = false := by
    intro i
    rw [List.append_assoc A, run_append, run_append]
    exact (Tr.run_plain P _ hPplain).dead (by rw [hs1]; exact hAdead i)
  refine ⟨?_, hplain, hdead, (hF.run .fixed _).noPending hdead⟩
  rw [List.append_assoc A, legalFrom_append, legalFrom_append, run_append, hA1, hBClegal, hPlegal]
  rfl

end SockModel.Lifecycle
