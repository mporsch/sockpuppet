import SockModel.Model.PeerFail
/-!
Lemmas about the plain-socket model of `Model/PeerFail.lean` and about `Net.Script.world` under it.
-/
namespace SockModel.PeerFail
open SockModel.Net SockModel.Tls

section
variable {ω : Type} (W : World ω) (rx : Nat) (x : PSt ω) (rev : REvents)

theorem pTask_unreg (h : x.a.registered = false) : pTask W rx x rev = (.ok (), x) := by
  simp [pTask, h]

theorem pTask_rd (h : x.a.registered = true) (hrd : rev.rd = true) : pTask W rx x rev = pReadable W rx x := by
  simp [pTask, h, hrd]

theorem pTask_wr (h : x.a.registered = true) (hrd : rev.rd = false) (hwr : rev.wr = true ∧ x.a.pollOut = true) :
    pTask W rx x rev = pWritable W x := by
  simp [pTask, h, hrd, hwr.1, hwr.2]

theorem pTask_idle (h : x.a.registered = true) (hrd : rev.rd = false) (hwr : ¬ (rev.wr = true ∧ x.a.pollOut = true))
    (hup : rev.hupErr = false) : pTask W rx x rev = (.ok (), x) := by
  simp only [pTask, h, hrd, hup]
  simp [hwr]

theorem pWritable_cons {buf : Bytes} {rest : List Bytes} (hq : x.a.sendQ = buf :: rest)
    (hrt : ∀ e, (sendNow W x.w buf).exn = some e → e.isRuntime = true) :
    pWritable W x = (.ok (),
      if (sendNow W x.w buf).exn = none ∧ (sendNow W x.w buf).sent ≠ buf.length then
        { a := { x.a with sendQ := buf.drop (sendNow W x.w buf).sent :: rest }, w := (sendNow W x.w buf).w }
      else
        { a := { x.a with sendQ := rest,
                          futures := (if (sendNow W x.w buf).exn.isSome then .exn else .ok) :: x.a.futures,
                          pollOut := if rest.isEmpty then false else x.a.pollOut },
          w := (sendNow W x.w buf).w }) := by
  simp only [pWritable, hq]
  cases hx : (sendNow W x.w buf).exn with
  | none => by_cases hf : (sendNow W x.w buf).sent = buf.length <;> simp [hf]
  | some e => simp [hrt e hx]

end

/-- the disconnect handler of a registered socket has not run, and when it runs it is for the only time -/
theorem disconnect_once {a : Async} (h1 : a.disconnects ≤ 1) (h2 : a.disconnects = 1 ↔ a.registered = false)
    (hreg : a.registered = true) :
    a.disconnects = 0 ∧ a.disconnects + 1 ≤ 1 ∧ (a.disconnects + 1 = 1 ↔ false = false) := by
  have : a.disconnects ≠ 1 := fun h => absurd hreg (Bool.eq_false_iff.mp (h2.mp h))
  have h0 : a.disconnects = 0 := by omega
  simp [h0]

theorem wait_recvs (s : Script) (d : Dir) (t : Int) : (Script.world.wait s d t).2.recvs = s.recvs := by
  obtain ⟨waits, sends, recvs, dead, clock, calls⟩ := s
  cases waits with
  | nil => cases dead <;> rfl
  | cons a rest => rfl

theorem recvNow_script_eq (w : Script) (n : Nat) :
    recvNow Script.world w n = match w.recvs with
      | [] => .exn (if w.dead then .closed else .system 11)
          { w with calls := .recv n (if w.dead then .data [] else .fail 11) :: w.calls }
      | .fail e :: rest => .exn (.system e) { w with recvs := rest, calls := .recv n (.fail e) :: w.calls }
      | .data bs :: rest =>
        if bs.take n = [] then .exn .closed { w with recvs := rest, calls := .recv n (.data bs) :: w.calls }
        else .got (bs.take n) { w with recvs := rest, calls := .recv n (.data bs) :: w.calls } := by
  obtain ⟨waits, sends, recvs, dead, clock, calls⟩ := w
  cases recvs with
  | nil =>
    cases dead
    · rfl
    · simp [recvNow, Script.world]
  | cons a rest => cases a <;> rfl

/-- number of `send` system calls in a call log -/
def nSends : List Call → Nat
  | [] => 0
  | .send _ _ _ :: cs => nSends cs + 1
  | _ :: cs => nSends cs

/-- bytes the scripted `send` answers would accept at most -/
def budget : List SendAns → Nat
  | [] => 0
  | .accept k :: as => k + budget as
  | .fail _ :: as => budget as

/-- one round of `SendAll` after the peer is gone: a wait and one `SendNow` -/
theorem script_round (s : Script) (hdead : s.dead = true) (bs : Bytes) (r0 : SendRes Script)
    (h0 : r0 = sendNow Script.world (Script.world.wait s .wr (-1)).2 bs) :
    nSends r0.w.calls = nSends s.calls + 1 ∧ r0.w.dead = true ∧
    (r0.exn = none → ∃ k rest, s.sends = .accept k :: rest ∧ r0.w.sends = rest ∧ r0.sent ≤ k) := by
  obtain ⟨waits, sends, recvs, dead, clock, calls⟩ := s
  cases hdead
  obtain ⟨ws, c, r, hw⟩ : ∃ ws c r, (Script.world.wait ⟨waits, sends, recvs, true, clock, calls⟩ .wr (-1)).2
      = ⟨ws, sends, recvs, true, c, .wait .wr (-1) r :: calls⟩ := by cases waits <;> exact ⟨_, _, _, rfl⟩
  rw [h0, hw]
  cases sends with
  | nil => exact ⟨rfl, rfl, fun h => nomatch h⟩
  | cons a rest =>
    cases a with
    | fail e => exact ⟨rfl, rfl, fun h => nomatch h⟩
    | accept k =>
      simp only [sendNow, Script.world]
      split
      · exact ⟨rfl, rfl, fun h => nomatch h⟩
      · exact ⟨rfl, rfl, fun _ => ⟨k, rest, rfl, rfl, Nat.min_le_left _ _⟩⟩

/-- invariant of the asynchronous plain socket over every history of enqueue / driver-step events:
the disconnect handler ran at most once, and exactly when the socket was unregistered; every buffer
ever enqueued is either resolved (value or exception) or still queued - and a queued one is what
becomes a broken promise when the socket is destroyed -/
def AInv (n : Nat) (a : Async) : Prop :=
  a.disconnects ≤ 1 ∧ (a.disconnects = 1 ↔ a.registered = false) ∧ a.futures.length + a.sendQ.length = n

def nEnq : List PEv → Nat
  | [] => 0
  | .enq _ :: es => nEnq es + 1
  | _ :: es => nEnq es

theorem AInv.disconnect {ω : Type} {n : Nat} {x : PSt ω} (h : AInv n x.a) (hreg : x.a.registered = true) :
    AInv n (pDisconnect x).a :=
  ⟨(disconnect_once h.1 h.2.1 hreg).2.1, (disconnect_once h.1 h.2.1 hreg).2.2, h.2.2⟩

theorem pTask_inv {ω : Type} (W : World ω) (rx : Nat) (x : PSt ω) (rev : REvents) (n : Nat) (h : AInv n x.a) :
    AInv n (pTask W rx x rev).2.a := by
  unfold pTask
  split
  · exact h
  · rename_i hreg
    have hreg : x.a.registered = true := by simpa using hreg
    split
    · unfold pReadable
      split
      · exact h
      · exact h
      · split
        · exact AInv.disconnect (x := { x with w := _ }) h hreg
        · exact h
    · split
      · -- a resolved promise moves from the queue to the futures
        obtain ⟨h1, h2, h3⟩ := h
        unfold pWritable
        split
        · exact ⟨h1, h2, h3⟩
        · rename_i buf rest hq
          rw [hq, List.length_cons] at h3
          simp only
          split
          · split
            · exact ⟨h1, h2, by simp only [List.length_cons]; omega⟩
            · exact ⟨h1, h2, h3⟩
          · split
            · exact ⟨h1, h2, by simp only [List.length_cons]; omega⟩
            · exact ⟨h1, h2, by rw [hq, List.length_cons]; exact h3⟩
      · split
        · exact h.disconnect hreg
        · exact h

/-- the data chunks among scripted `recv` answers, up to the first end-of-stream or error -/
def stream : List RecvAns → List Bytes
  | .data bs :: rest => if bs = [] then [] else bs :: stream rest
  | _ => []

theorem recvUntilExn_prefix (size : Nat) (t : Int) : ∀ (fuel : Nat) (s : Script) (acc : List Bytes),
    (∀ bs ∈ stream s.recvs, bs.length ≤ size) →
    ∃ k, (recvUntilExn Script.world size t fuel s acc).1 = acc.reverse ++ (stream s.recvs).take k := by
  intro fuel
  induction fuel with
  | zero => intro s acc _; exact ⟨0, by simp [recvUntilExn]⟩
  | succ fuel ih =>
    intro s acc hsz
    unfold recvUntilExn recvT receive
    rcases hw : Script.world.wait s .rd t with ⟨ready, s1⟩
    have hrec : s1.recvs = s.recvs := by
      have := wait_recvs s .rd t
      rwa [hw] at this
    rw [← hrec] at hsz ⊢
    cases ready with
    | false => exact ih s1 acc hsz
    | true =>
      simp only [recvNow_script_eq]
      rcases hr : s1.recvs with _ | ⟨bs | _, rest⟩ <;> rw [hr] at hsz
      · exact ⟨0, by simp⟩
      · by_cases hbs : bs = []
        · subst hbs
          exact ⟨0, by simp⟩
        · -- a chunk that fits the buffer is handed over whole
          have htake : bs.take size = bs := List.take_of_length_le (hsz bs (by simp [stream, hbs]))
          obtain ⟨k, hk⟩ := ih { s1 with recvs := rest, calls := .recv size (.data bs) :: s1.calls } (bs :: acc)
            (fun b hb => hsz b (by simp [stream, hbs, hb]))
          exact ⟨k + 1, by simp [htake, hbs, hk, stream]⟩
      · exact ⟨0, by simp⟩

theorem recvUntilExn_complete (size : Nat) (t : Int) : ∀ (chunks : List Bytes) (fuel : Nat) (s : Script) (acc : List Bytes),
    s.dead = true → s.waits = [] → s.recvs = chunks.map .data → (∀ bs ∈ chunks, bs ≠ [] ∧ bs.length ≤ size) →
    chunks.length < fuel →
    (recvUntilExn Script.world size t fuel s acc).1 = acc.reverse ++ chunks ∧
    (recvUntilExn Script.world size t fuel s acc).2.1 = .exn .closed := by
  intro chunks
  induction chunks with
  | nil =>
    intro fuel s acc hd hw hr _ hf
    match fuel, hf with
    | f + 1, _ => simp [recvUntilExn, recvT, receive, Script.world, hd, hw, hr, recvNow]
  | cons c cs ih =>
    intro fuel s acc hd hw hr hc hf
    match fuel, hf with
    | f + 1, hf =>
      have hc1 := hc c (by simp)
      have hstep : recvT Script.world s size t
          = .got c { s with recvs := cs.map .data, calls := .recv size (.data c) :: .wait .rd t true :: s.calls } := by
        simp [recvT, receive, Script.world, hd, hw, hr, recvNow, List.take_of_length_le hc1.2, hc1.1]
      unfold recvUntilExn
      rw [hstep]
      simpa using ih f { s with recvs := cs.map .data, calls := .recv size (.data c) :: .wait .rd t true :: s.calls }
        (c :: acc) hd hw rfl (fun b hb => hc b (by simp [hb])) (Nat.lt_of_succ_lt_succ hf)

end SockModel.PeerFail
