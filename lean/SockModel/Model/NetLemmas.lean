import SockModel.Model.Net
/-! Lemmas about the socket layer: what reaches the kernel, how often, with which outcome. -/
namespace SockModel.Net

variable {ω : Type}

/-- a world whose raw outgoing byte stream can be read off its state: `send` appends exactly the
accepted prefix, nothing else touches it -/
structure WireLog (W : World ω) (wire : ω → Bytes) : Prop where
  wait : ∀ w d t, wire (W.wait w d t).2 = wire w
  recv : ∀ w n, wire (W.recv w n).2 = wire w
  send : ∀ w bs, wire (W.send w bs).2 = wire w ++
    (match (W.send w bs).1 with | .accept k => bs.take k | .fail _ => [])

variable {W : World ω} {wire : ω → Bytes}

theorem WireLog.sendNow (L : WireLog W wire) (w : ω) (bs : Bytes) :
    wire (sendNow W w bs).w = wire w ++ bs.take (sendNow W w bs).sent := by
  have h := L.send w bs
  unfold Net.sendNow
  split
  · rename_i e w' heq
    rw [heq] at h
    simpa using h
  · rename_i k w' heq
    rw [heq] at h
    simp only at h
    split
    · rename_i hk
      rw [hk.1] at h
      simpa using h
    · simp only
      rw [h]
      congr 1
      rw [List.take_eq_take_iff]
      omega

theorem WireLog.recvNow (L : WireLog W wire) (w : ω) (n : Nat) : wire (recvNow W w n).world = wire w := by
  have h := L.recv w n
  unfold Net.recvNow
  split
  · rename_i e w' heq; rw [heq] at h; exact h
  · rename_i bs w' heq
    rw [heq] at h
    split <;> exact h

theorem WireLog.receive (L : WireLog W wire) (w : ω) (n : Nat) (t : Int) :
    wire (receive W w n t).world = wire w := by
  have h := L.wait w .rd t
  unfold Net.receive
  split
  · rename_i w' heq; rw [heq] at h; exact h
  · rename_i w' heq
    rw [heq] at h
    rw [L.recvNow w' n, h]

theorem WireLog.sendAll (L : WireLog W wire) (w : ω) (bs : Bytes) (acc : Nat) :
    acc ≤ (sendAll W w bs acc).sent ∧
    wire (sendAll W w bs acc).w = wire w ++ bs.take ((sendAll W w bs acc).sent - acc) := by
  fun_induction Net.sendAll W w bs acc with
  | case1 w bs acc r hx | case2 w bs acc r hx hrest | case4 w bs acc r hx hrest hpos =>
    have hs := L.sendNow (W.wait w .wr (-1)).2 bs
    rw [L.wait] at hs
    exact ⟨Nat.le_add_right _ _, by simpa using hs⟩
  | case3 w bs acc r hx hrest hpos ih =>
    have hs := L.sendNow (W.wait w .wr (-1)).2 bs
    rw [L.wait] at hs
    obtain ⟨ih1, ih2⟩ := ih
    refine ⟨by omega, ?_⟩
    rw [ih2, hs, List.append_assoc]
    congr 1
    have : (Net.sendAll W r.w (List.drop r.sent bs) (acc + r.sent)).sent - acc
        = r.sent + ((Net.sendAll W r.w (List.drop r.sent bs) (acc + r.sent)).sent - (acc + r.sent)) := by omega
    rw [this, List.take_add]

theorem WireLog.sendTry (L : WireLog W wire) (w : ω) (bs : Bytes) :
    wire (sendTry W w bs).w = wire w ++ bs.take (sendTry W w bs).sent := by
  have h := L.wait w .wr 0
  unfold Net.sendTry
  split
  · rename_i w' heq; rw [heq] at h; simpa using h
  · rename_i w' heq
    rw [heq] at h
    rw [L.sendNow w' bs, h]

theorem WireLog.sendSome (L : WireLog W wire) (w : ω) (bs : Bytes) (deadline tick : Int) (acc : Nat) :
    acc ≤ (sendSome W w bs deadline tick acc).1.sent ∧
    wire (sendSome W w bs deadline tick acc).1.w = wire w ++ bs.take ((sendSome W w bs deadline tick acc).1.sent - acc) := by
  fun_induction Net.sendSome W w bs deadline tick acc with
  | case1 w bs tick acc wt hw =>
    exact ⟨Nat.le_refl _, by simpa using L.wait w .wr (remainingMs deadline tick)⟩
  | case2 w bs tick acc wt hw tick' r hx | case3 w bs tick acc wt hw tick' r hx hrest
  | case5 w bs tick acc wt hw tick' r hx hrest hlt hpos | case6 w bs tick acc wt hw tick' r hx hrest hlt =>
    have hs := L.sendNow wt.2 bs
    rw [L.wait] at hs
    exact ⟨Nat.le_add_right _ _, by simpa using hs⟩
  | case4 w bs tick acc wt hw tick' r hx hrest hlt hpos ih =>
    have hs := L.sendNow wt.2 bs
    rw [L.wait] at hs
    obtain ⟨ih1, ih2⟩ := ih
    refine ⟨by omega, ?_⟩
    rw [ih2, hs, List.append_assoc]
    congr 1
    have : (Net.sendSome W r.w (List.drop r.sent bs) deadline tick' (acc + r.sent)).1.sent - acc
        = r.sent + ((Net.sendSome W r.w (List.drop r.sent bs) deadline tick' (acc + r.sent)).1.sent - (acc + r.sent)) := by omega
    rw [this, List.take_add]

/-- the scripted world logs its raw stream -/
theorem Script.wireLog : WireLog Script.world Script.wire := by
  constructor
  · intro w d t
    simp only [Script.world, Script.wire]
    split
    · simp [wireOf]
    · split <;> simp [wireOf]
  · intro w n
    simp only [Script.world, Script.wire]
    split <;> simp [wireOf]
  · intro w bs
    simp only [Script.world, Script.wire]
    split
    · rename_i a rest heq
      cases a <;> simp [wireOf]
    · split <;> simp [wireOf]

theorem sendNoSignal_true : sendNoSignal = true := by decide

/-! ### no send function reports more than it was given -/

theorem sendAll_le (W : World ω) (w : ω) (bs : Bytes) (acc : Nat) : (sendAll W w bs acc).sent ≤ acc + bs.length := by
  fun_induction Net.sendAll W w bs acc with
  | case1 w bs acc r hx | case2 w bs acc r hx hrest | case4 w bs acc r hx hrest hpos =>
    have hh : r.sent ≤ bs.length := sendNow_le W _ bs; simp only; omega
  | case3 w bs acc r hx hrest hpos ih =>
    have hh : r.sent ≤ bs.length := sendNow_le W _ bs
    simp only [List.length_drop] at ih
    omega

theorem sendTry_le (W : World ω) (w : ω) (bs : Bytes) : (sendTry W w bs).sent ≤ bs.length := by
  unfold Net.sendTry
  split
  · simp
  · exact sendNow_le W _ bs

theorem sendSome_le (W : World ω) (w : ω) (bs : Bytes) (deadline tick : Int) (acc : Nat) :
    (sendSome W w bs deadline tick acc).1.sent ≤ acc + bs.length := by
  fun_induction Net.sendSome W w bs deadline tick acc with
  | case1 w bs tick acc wt hw => simp
  | case2 w bs tick acc wt hw tick' r hx | case3 w bs tick acc wt hw tick' r hx hrest
  | case5 w bs tick acc wt hw tick' r hx hrest hlt hpos | case6 w bs tick acc wt hw tick' r hx hrest hlt =>
    have hh : r.sent ≤ bs.length := sendNow_le W _ bs; simp only; omega
  | case4 w bs tick acc wt hw tick' r hx hrest hlt hpos ih =>
    have hh : r.sent ≤ bs.length := sendNow_le W _ bs
    simp only [List.length_drop] at ih
    omega

/-! ### the world a socket-layer function leaves -/

theorem sendNow_w (W : World ω) (w : ω) (bs : Bytes) : (sendNow W w bs).w = (W.send w bs).2 := by
  unfold Net.sendNow
  split
  · rename_i h; rw [h]
  · rename_i h; rw [h]; split <;> rfl

theorem recvNow_world (W : World ω) (w : ω) (n : Nat) : (recvNow W w n).world = (W.recv w n).2 := by
  unfold Net.recvNow
  split
  · rename_i h; rw [h]; rfl
  · rename_i h; rw [h]; split <;> rfl

/-- `Receive` leaves the world of its wait, or of the `recv` after it -/
theorem receive_world (W : World ω) (w : ω) (n : Nat) (t : Int) :
    (receive W w n t).world = (W.wait w .rd t).2 ∨ (receive W w n t).world = (W.recv (W.wait w .rd t).2 n).2 := by
  unfold Net.receive
  split
  · rename_i h; rw [h]; exact Or.inl rfl
  · rename_i h; rw [h, recvNow_world]; exact Or.inr rfl

theorem sendTry_w (W : World ω) (w : ω) (bs : Bytes) :
    (sendTry W w bs).w = (W.wait w .wr 0).2 ∨ (sendTry W w bs).w = (W.send (W.wait w .wr 0).2 bs).2 := by
  unfold Net.sendTry
  split
  · rename_i h; rw [h]; exact Or.inl rfl
  · rename_i h; rw [h, sendNow_w]; exact Or.inr rfl

/-! ### predicates on the world that every OS call keeps -/

structure WorldInv (W : World ω) (I : ω → Prop) : Prop where
  wait : ∀ w d t, I w → I (W.wait w d t).2
  send : ∀ w bs, I w → I (W.send w bs).2
  recv : ∀ w n, I w → I (W.recv w n).2

variable {I : ω → Prop}

theorem WorldInv.sendNow (V : WorldInv W I) (w : ω) (bs : Bytes) (h : I w) : I (sendNow W w bs).w := by
  have := V.send w bs h
  unfold Net.sendNow
  split
  · rename_i heq; rw [heq] at this; exact this
  · rename_i heq; rw [heq] at this; split <;> exact this

theorem WorldInv.recvNow (V : WorldInv W I) (w : ω) (n : Nat) (h : I w) : I (recvNow W w n).world := by
  have := V.recv w n h
  unfold Net.recvNow
  split
  · rename_i heq; rw [heq] at this; exact this
  · rename_i heq; rw [heq] at this; split <;> exact this

theorem WorldInv.receive (V : WorldInv W I) (w : ω) (n : Nat) (t : Int) (h : I w) : I (receive W w n t).world := by
  have := V.wait w .rd t h
  unfold Net.receive
  split
  · rename_i heq; rw [heq] at this; exact this
  · rename_i heq; rw [heq] at this; exact V.recvNow _ n this

theorem WorldInv.sendAll (V : WorldInv W I) (w : ω) (bs : Bytes) (acc : Nat) (h : I w) : I (sendAll W w bs acc).w := by
  fun_induction Net.sendAll W w bs acc with
  | case1 w bs acc r hx | case2 w bs acc r hx hrest | case4 w bs acc r hx hrest hpos =>
    exact V.sendNow _ bs (V.wait w .wr (-1) h)
  | case3 w bs acc r hx hrest hpos ih => exact ih (V.sendNow _ bs (V.wait w .wr (-1) h))

theorem WorldInv.sendTry (V : WorldInv W I) (w : ω) (bs : Bytes) (h : I w) : I (sendTry W w bs).w := by
  have := V.wait w .wr 0 h
  unfold Net.sendTry
  split
  · rename_i heq; rw [heq] at this; exact this
  · rename_i heq; rw [heq] at this; exact V.sendNow _ bs this

theorem WorldInv.sendSome (V : WorldInv W I) (w : ω) (bs : Bytes) (deadline tick : Int) (acc : Nat) (h : I w) :
    I (sendSome W w bs deadline tick acc).1.w := by
  fun_induction Net.sendSome W w bs deadline tick acc with
  | case1 w bs tick acc wt hw => exact V.wait w .wr _ h
  | case2 w bs tick acc wt hw tick' r hx | case3 w bs tick acc wt hw tick' r hx hrest
  | case5 w bs tick acc wt hw tick' r hx hrest hlt hpos | case6 w bs tick acc wt hw tick' r hx hrest hlt =>
    exact V.sendNow _ bs (V.wait w .wr _ h)
  | case4 w bs tick acc wt hw tick' r hx hrest hlt hpos ih => exact ih (V.sendNow _ bs (V.wait w .wr _ h))

theorem WorldInv.sendAny (V : WorldInv W I) (w : ω) (bs : Bytes) (t : Int) (h : I w) : I (Net.send W w bs t).w := by
  unfold Net.send
  split
  · exact V.sendAll w bs 0 h
  · split
    · exact V.sendTry w bs h
    · exact V.sendSome w bs _ _ 0 h

/-- every `send` in the call log carries MSG_NOSIGNAL -/
def AllNoSignal (calls : List Call) : Prop := ∀ bs a ns, Call.send bs a ns ∈ calls → ns = true

theorem AllNoSignal.cons {calls : List Call} (h : AllNoSignal calls) (c : Call)
    (hc : ∀ bs a ns, c = .send bs a ns → ns = true) : AllNoSignal (c :: calls) := by
  intro bs a ns hm
  rcases List.mem_cons.mp hm with hm | hm
  · exact hc bs a ns hm.symm
  · exact h bs a ns hm

/-- the scripted world keeps "every send so far carried MSG_NOSIGNAL" - because the flag set extracted
from the source on this run contains it -/
theorem Script.noSignalInv : WorldInv Script.world (fun s => AllNoSignal s.calls) := by
  constructor
  · intro w d t h
    simp only [Script.world]
    split
    · exact h.cons _ (fun _ _ _ hc => by cases hc)
    · split <;> exact h.cons _ (fun _ _ _ hc => by cases hc)
  · intro w bs h
    simp only [Script.world]
    split <;> exact h.cons _ (fun _ _ _ hc => by cases hc; exact sendNoSignal_true)
  · intro w n h
    simp only [Script.world]
    split <;> exact h.cons _ (fun _ _ _ hc => by cases hc)

end SockModel.Net
