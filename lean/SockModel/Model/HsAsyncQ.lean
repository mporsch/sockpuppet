import SockModel.Model.HsAsync
/-!
A driver-operated (asynchronous) endpoint of either role, with a send queue, paired with a polling synchronous peer.

Besides the readable task of `Model/HsAsync.lean` this needs the WRITABLE task (`DriverOnWritable` → `SendSome` →
`sendSomeWritable`) and the `POLLOUT` protocol of `DriverQuery`.  `prepWritable` keeps whatever `isReadable` the last
readable task left behind, so the reduction of the writable task to `Write` with budget 0 needs the fact that **a readable
task leaves `isReadable = false`** (first section: `isReadable` is written only by `BioRead` - to `false` - and every
`ssl_read` of the reference engine performs at least one BIO read).
-/
namespace SockModel.Hs
open SockModel.Net SockModel.Tls

variable {σ ω : Type}

/-! ### who writes `isReadable` -/

theorem waitUnder_ir (W : World ω) (s : St σ ω) (d : Dir) : (waitUnder W s d).2.g.isReadable = s.g.isReadable := rfl

/-- `BioRead` always leaves `isReadable = false` -/
theorem bioRead_ir (W : World ω) (s : St σ ω) (n : Nat) : (bioRead W s n).2.g.isReadable = false := by
  unfold bioRead
  split
  · simp only
    cases recvNow W s.w n <;> rfl
  · rename_i h
    have h' : s.g.isReadable = false := by simpa using h
    simp only
    cases receive W s.w n s.g.remainingTime <;> exact h'

theorem noteWrite_ir (s : St σ ω) (bs : Bytes) (r : SendRes ω) (rem : Int) :
    (noteWrite s bs r rem).2.g.isReadable = s.g.isReadable := by
  unfold noteWrite; split <;> rfl

theorem bioWrite_ir (W : World ω) (s : St σ ω) (bs : Bytes) : (bioWrite W s bs).2.g.isReadable = s.g.isReadable := by
  unfold bioWrite
  split
  · rw [noteWrite_ir]
  · split
    · rw [noteWrite_ir]
    · split <;> rw [noteWrite_ir]

/-- once `false`, `isReadable` stays `false` (not a `Tls.Frame`: `Frame.core` forbids a predicate on `isReadable`) -/
theorem irFrame (W : World ω) : SimFrame (σ := σ) W W id (fun s => s.g.isReadable = false) where
  same := fun _ => ⟨rfl, rfl, rfl, rfl, rfl⟩
  upd := fun _ _ _ _ _ _ => ⟨rfl, id⟩
  wait := fun _ _ h => ⟨rfl, h⟩
  bioRead := fun s n _ => ⟨rfl, bioRead_ir W s n⟩
  bioWrite := fun s bs h => ⟨rfl, (bioWrite_ir W s bs).trans h⟩

/-- an engine call that begins with a BIO read ends with `isReadable = false`, whatever it was -/
theorem interp_bioRead_ir (W : World ω) (s : St σ ω) (n : Nat) (k : Option Bytes → EngProg σ) :
    (interp W s (.bioRead n k)).2.g.isReadable = false := by
  have h1 := bioRead_ir W s n
  unfold interp
  split
  · rename_i bs s' heq; rw [heq] at h1; exact ((irFrame W).interp _ s' h1).2
  · rename_i e s' heq; rw [heq] at h1; exact ((irFrame W).interp _ (stash s' e) h1).2
  · rename_i m s' heq; rw [heq] at h1; exact h1

theorem bioWrite_ok0 (r : Bool) (s : St σ Chan) (bs : Bytes) (h0 : s.g.remainingTime = 0) :
    ∃ s', bioWrite (chanWorld r) s bs = (.ok bs.length, s') ∧ s'.g.remainingTime = 0 := by
  rcases s with ⟨⟨le, ps, rt, ir, iw, dss, pe, wire, bw, ec⟩, e, w⟩
  simp only at h0
  subst h0
  cases iw <;> simp [bioWrite, sendNow_0, sendTry_0, noteWrite]

/-- **every `ssl_read` of the reference engine performs a BIO read** (on the healthy channel with budget 0), so it
leaves `isReadable = false` -/
theorem hsRun_clears (P : HsP) (r : Bool) (n : Nat) : ∀ (f : Nat) (h : Hs) (s : St Hs Chan), work P h < f → WF P h →
    s.g.remainingTime = 0 → (interp (chanWorld r) s (hsRun P f h (appRead n))).2.g.isReadable = false := by
  intro f
  induction f with
  | zero => intro h s hf; omega
  | succ f ih =>
    intro h s hf hw h0
    unfold hsRun
    by_cases hfin : 3 ≤ h.stage
    · rw [if_pos hfin]
      exact interp_bioRead_ir _ s n _
    · rw [if_neg hfin]
      have hs3 : h.stage < 3 := by omega
      by_cases hwr : h.writes = true
      · rw [if_pos hwr]
        obtain ⟨s1, e1, r1⟩ := bioWrite_ok0 r s (zeros h.need) h0
        rw [zeros_length] at e1
        obtain ⟨nwf, _, _, nwork, _, _⟩ := next_facts P h hw hs3
        simp only [interp, e1, Nat.le_refl, if_true]
        exact ih (h.next P) s1 (by omega) nwf r1
      · rw [if_neg hwr]
        exact interp_bioRead_ir _ s h.need _

theorem readRound_ir (C : Cfg) (W : World ω) (E : Engine σ) (size i : Nat) (s : St σ ω)
    (h : (interp W s (E.sslRead s.e size)).2.g.isReadable = false) :
    (readRound C W E size i s).2.g.isReadable = false := by
  unfold readRound
  split
  · rename_i e s' heq; rw [heq] at h; exact h
  · rename_i m s' heq; rw [heq] at h; exact h
  · rename_i ans out s1 heq
    rw [heq] at h
    have hr := ((irFrame W).handleResult (noteCall E s1 true [] ans) ans h).2
    cases ans <;> first
      | exact h
      | (simp only
         split
         · rename_i e s2 h2; rw [h2] at hr; exact hr
         · rename_i m s2 h2; rw [h2] at hr; exact hr
         · rename_i s2 h2; rw [h2] at hr; exact hr
         · rename_i s2 h2; rw [h2] at hr; split <;> exact hr)

/-- **a readable task leaves `isReadable = false`** -/
theorem receiveReadable_ir (C : Cfg) (hC : 0 < C.stepsMax) (P : HsP) (r : Bool) (rx : Nat) (s : St Hs Chan)
    (hw : WF P s.e) (hle : s.g.lastError = .none ∨ s.g.lastError = .wantRead) :
    (receiveReadable C (chanWorld r) (engine P) s rx).2.g.isReadable = false := by
  obtain ⟨i, hi1⟩ : ∃ i, C.stepsMax = i + 1 := ⟨C.stepsMax - 1, by omega⟩
  have hl0 : (prepReadable s).g.lastError = .none := by
    rcases hle with h | h <;> simp [prepReadable, h]
  have hgate : handleLastError (chanWorld r) (prepReadable s) = (.ok true, setLastError (prepReadable s) .none) := by
    simp [handleLastError, hl0, handleError]
  have key : (tlsRead C (chanWorld r) (engine P) (prepReadable s) rx).2.g.isReadable = false := by
    simp only [tlsRead, hgate, hi1, readLoop]
    have h1 := readRound_ir C (chanWorld r) (engine P) rx i _ (hsRun_clears P r rx (fuel P) s.e (setLastError (prepReadable s) .none) (work_lt_fuel P s.e hw) hw rfl)
    split
    · rename_i o s' heq; rw [heq] at h1; exact h1
    · rename_i s' heq; rw [heq] at h1; exact ((irFrame _).readLoop C _ rx i s' h1).2
  unfold receiveReadable
  split
  · rename_i s' heq
    rw [heq] at key
    split <;> exact key
  · rename_i r' hne
    exact key

/-! ### the writable task -/

/-- `DriverOnWritable` with a queued buffer does what `Write(front)` with budget 0 does (`tlsWrite_hs`), given that no stale
`isReadable` is around: no exception, no assert; the engine only moves forward, strictly if it can progress; either the
whole buffer is taken (then the handshake is finished, nothing is cached, `pendingSend` is empty) or nothing of it. -/
theorem sendSomeWritable_hs (C : Cfg) (hC : 1 < C.stepsMax) (P : HsP) (r : Bool) (buf : Bytes) (hb : buf ≠ [])
    (s : St Hs Chan) (hi : SideInv P r buf (nf s)) (hir : s.g.isReadable = false) :
    ∃ k s', sendSomeWritable C (chanWorld r) (engine P) s buf = (.ok k, s') ∧ SideInv P r buf (nf s') ∧
      Tr P r s.e s.w s'.e s'.w ∧ (CanProg r s.e s.w → work P s'.e < work P s.e) ∧ Tight (nf s') ∧
      s'.g.isReadable = false ∧
      ((k = buf.length ∧ 3 ≤ s'.e.stage ∧ s'.g.lastError = .none ∧ s'.g.pendingSend = []) ∨ k = 0) := by
  have hle : s.g.lastError ≠ .wantWrite := by
    have h6 : (nf s).g.lastError = .none ∨ (nf s).g.lastError = .wantRead := hi.2.2.2.2.2.1
    have : (nf s).g.lastError = s.g.lastError := rfl
    rw [this] at h6
    rcases h6 with h | h <;> rw [h] <;> simp
  have hfl : Fl r (prepWritable s) := ⟨rfl, fun h => by
    have : s.g.isReadable = true := h
    rw [hir] at this; cases this⟩
  obtain ⟨a, s1, hL, hR, _⟩ := ((flagFrame r).tlsWrite C (engine P) (prepWritable s) buf hfl).cases
  have hnf : nf (prepWritable s) = setTimeout (nf s) 0 := by
    rcases s with ⟨⟨le, ps, rt, ir, iw, dss, pe, wire, bw, ec⟩, e, w⟩
    simp only at hle
    simp [nf, prepWritable, setTimeout, hle]
  rw [hnf] at hR
  obtain ⟨k, s2, e2, side2, t2, g2, tight2, hk⟩ := tlsWrite_hs C hC P r buf hb (nf s) hi
  rw [e2] at hR
  obtain ⟨rfl, hs2⟩ := Prod.mk.inj hR
  have hir1 : s1.g.isReadable = false := by
    have := ((irFrame (chanWorld r)).tlsWrite C (engine P) (prepWritable s) buf hir).2
    rw [hL] at this; exact this
  refine ⟨k, s1, hL, by rw [← hs2]; exact side2, ?_, ?_, by rw [← hs2]; exact tight2, hir1, ?_⟩
  · have : Tr P r s.e s.w (nf s1).e (nf s1).w := by rw [← hs2]; exact t2
    exact this
  · intro h
    have : work P (nf s1).e < work P s.e := by rw [← hs2]; exact g2 h
    exact this
  · rcases hk with ⟨k1, k2, k3, k4⟩ | hk
    · left
      refine ⟨k1, ?_, ?_, ?_⟩
      · have : 3 ≤ (nf s1).e.stage := by rw [← hs2]; exact k2
        exact this
      · have : (nf s1).g.lastError = .none := by rw [← hs2]; exact k3
        exact this
      · have : (nf s1).g.pendingSend = [] := by rw [← hs2]; exact k4
        exact this
    · exact Or.inr hk

/-! ### an asynchronous endpoint of role `u` with a send queue, and a polling synchronous peer -/

structure SysAG where
  /-- the asynchronous endpoint: driver-side state, TLS glue, engine; `x.s.w` are the channels -/
  x : ASt Hs Chan
  /-- the polling peer -/
  gp : Glue := {}
  ep : Hs
  faults : Nat := 0

/-- `drive` = one `Driver::Step`; `enq buf` = the user calls `Send(buffer)` on the asynchronous socket;
`peer k` = the peer calls `Send(payload, 0)` / `Receive(n, 0)` -/
inductive ActG where
  | drive
  | enq (buf : Bytes)
  | peer (k : Kind)
  deriving DecidableEq, Repr

def SysAG.rev (u : Bool) (y : SysAG) : REvents := { rd := decide (0 < y.x.s.w.inb u), wr := true, hupErr := false }

def SysAG.pw (y : SysAG) : PeerW := ⟨y.x.s.w, y.gp, y.ep, [], y.faults⟩

def SysAG.step (C : Cfg) (P : HsP) (u : Bool) (dc ds : Bytes) (rx : Nat) (y : SysAG) : ActG → SysAG
  | .drive =>
    let r := aTask C (chanWorld u) (engine P) rx (aQuery (engine P) y.x) (y.rev u)
    { y with x := r.2, faults := y.faults + (if isOk r.1 then 0 else 1) }
  | .enq buf => { y with x := enqueue y.x buf }
  | .peer k =>
    { y with gp := (y.pw.poll C P u dc ds k).g, ep := (y.pw.poll C P u dc ds k).e,
             x := { y.x with s := { y.x.s with w := (y.pw.poll C P u dc ds k).ch } },
             faults := (y.pw.poll C P u dc ds k).faults }

theorem driveG_is_aApply (C : Cfg) (P : HsP) (u : Bool) (dc ds : Bytes) (rx : Nat) (y : SysAG) :
    (y.step C P u dc ds rx .drive).x = aApply C (chanWorld u) (engine P) rx y.x (.step (y.rev u)) := rfl

theorem enqG_is_aApply (C : Cfg) (P : HsP) (u : Bool) (dc ds : Bytes) (rx : Nat) (y : SysAG) (buf : Bytes) :
    (y.step C P u dc ds rx (.enq buf)).x = aApply C (chanWorld u) (engine P) rx y.x (.enq buf) := rfl

/-- the initial state: `q` = the buffers already queued (`AsyncWantSend` has set `POLLOUT` if there are any) -/
def SysAG.init (P : HsP) (u : Bool) (segs : List Nat) (q : List Bytes) : SysAG :=
  { x := { a := { sendQ := q, pollOut := !q.isEmpty }, s := ⟨{}, Hs.init P u, { segs := segs }⟩ }, ep := Hs.init P (!u) }

def SysAG.run (C : Cfg) (P : HsP) (u : Bool) (dc ds : Bytes) (rx : Nat) (l : List ActG) (y : SysAG) : SysAG :=
  l.foldl (SysAG.step C P u dc ds rx) y

def SysAG.bothFinished (y : SysAG) : Prop := 3 ≤ y.x.s.e.stage ∧ 3 ≤ y.ep.stage

def ActG.okG : ActG → Prop
  | .drive => True
  | .enq buf => buf ≠ []
  | .peer k => k.ok

instance (a : ActG) : Decidable a.okG := by
  cases a <;> unfold ActG.okG <;> exact inferInstance

/-- the glue without flags and without the remembered retry buffer (`SysInv` knows one payload per side, the retry buffer
is whatever is at the front of the queue) -/
def nfp (s : St Hs Chan) : St Hs Chan :=
  { s with g := { s.g with isReadable := false, isWritable := false, pendingSend := [] } }

def SysAG.sys (u : Bool) (y : SysAG) : Sys := mkSys u (nfp y.x.s).g y.x.s.e y.pw

/-- send queue, `POLLOUT` bit and `driverSendSuppressed`: `Armed` (Props/C18.lean, `pollout_protocol`) and its converse,
never both flags, no empty buffer queued -/
def QOk (q : List Bytes) (po sup : Bool) : Prop :=
  (q ≠ [] ↔ (po = true ∨ sup = true)) ∧ ¬ (po = true ∧ sup = true) ∧ ∀ b ∈ q, b ≠ []

theorem QOk.requery {q : List Bytes} {po sup po' sup' : Bool} (h : QOk q po sup)
    (hc : (po' = false ∧ sup' = (sup || po)) ∨ (po' = po ∧ sup' = sup) ∨ (sup = true ∧ po' = true ∧ sup' = false) ∨
      (sup = false ∧ po' = po ∧ sup' = false)) : QOk q po' sup' := by
  obtain ⟨h1, h2, h3⟩ := h
  refine ⟨?_, ?_, h3⟩
  · rw [h1]; clear h1; revert h2 hc; cases po <;> cases sup <;> cases po' <;> cases sup' <;> simp
  · clear h1; revert h2 hc; cases po <;> cases sup <;> cases po' <;> cases sup' <;> simp

theorem QOk.pop {b : Bytes} {rest : List Bytes} (h : QOk (b :: rest) true false) :
    QOk rest (if rest.isEmpty then false else true) false := by
  refine ⟨?_, by simp, fun c hc => h.2.2 c (List.mem_cons_of_mem _ hc)⟩
  cases rest <;> simp

theorem QOk.push {q : List Bytes} {po sup reg : Bool} (h : QOk q po sup) (hreg : reg = true) (buf : Bytes) (hb : buf ≠ []) :
    QOk (q ++ [buf]) (if q.isEmpty ∧ reg then true else po) sup := by
  obtain ⟨h1, h2, h3⟩ := h
  subst hreg
  refine ⟨?_, ?_, ?_⟩
  · cases q with
    | nil => simp
    | cons c t => simpa using h1.mp (by simp)
  · cases q with
    | nil => simpa using fun hs => h1.mpr (Or.inr hs) rfl
    | cons c t => simpa using h2
  · intro c hc
    rcases List.mem_append.mp hc with hc | hc
    · exact h3 c hc
    · rw [List.mem_singleton.mp hc]; exact hb

/-- the state between steps -/
structure GInv (P : HsP) (u : Bool) (dc ds : Bytes) (y : SysAG) : Prop where
  inv : SysInv P dc ds (y.sys u)
  ir : y.x.s.g.isReadable = false
  reg : y.x.a.registered = true
  q : QOk y.x.a.sendQ y.x.a.pollOut y.x.s.g.driverSendSuppressed
  /-- an unfinished engine is waiting for a flight and the glue knows it - or has not been touched yet -/
  tight : y.x.s.e.stage < 3 → y.x.s.g.lastError = .wantRead ∨
    (y.x.s.e = Hs.init P u ∧ y.x.s.g.lastError = .none ∧ y.x.s.g.driverSendSuppressed = false)
  /-- an asynchronous CLIENT has something to send until its handshake is done (else it would never start) -/
  fed : u = true → y.x.s.e.stage < 3 → y.x.a.sendQ ≠ []
  pend : y.x.s.g.pendingSend = [] ∨ ∃ rest, y.x.a.sendQ = y.x.s.g.pendingSend :: rest

theorem sideInv_repend (P : HsP) (r : Bool) (d d' : Bytes) (g : Glue) (e : Hs) (w w' : Chan) (p : Bytes)
    (h : SideInv P r d ⟨g, e, w⟩) (hp : p = [] ∨ p = d') : SideInv P r d' ⟨{ g with pendingSend := p }, e, w'⟩ := by
  obtain ⟨h1, h2, h3, h4, h5, h6, h7, _⟩ := h
  exact ⟨h1, h2, h3, h4, h5, h6, h7, hp⟩

/-- the side invariant of the asynchronous endpoint, for the buffer `d` it is about to send -/
theorem GInv.side {P : HsP} {u : Bool} {dc ds : Bytes} {y : SysAG} (hy : GInv P u dc ds y) (d : Bytes)
    (hd : y.x.s.g.pendingSend = [] ∨ y.x.s.g.pendingSend = d) : SideInv P u d (nf y.x.s) := by
  have h := sysInv_side P u dc ds _ _ _ hy.inv
  exact sideInv_repend P u _ d (nfp y.x.s).g y.x.s.e y.x.s.w y.x.s.w y.x.s.g.pendingSend h hd

/-- the invariant of the composition after a move of the asynchronous side -/
theorem sys_upd (P : HsP) (u : Bool) (dc ds : Bytes) (y : SysAG) (hy : SysInv P dc ds (y.sys u)) (d : Bytes)
    (s' : St Hs Chan) (hside : SideInv P u d (nf s')) (ht : Tr P u y.x.s.e y.x.s.w s'.e s'.w) (a' : Async)
    (f : Nat) (hf : f = y.faults) :
    SysInv P dc ds (SysAG.sys u { y with x := ⟨a', s'⟩, faults := f }) := by
  subst hf
  have hside' : SideInv P u (ownPay u dc ds) ⟨(nfp s').g, s'.e, s'.w⟩ :=
    sideInv_repend P u d _ (nf s').g s'.e s'.w s'.w [] hside (Or.inl rfl)
  exact sysInv_upd P u dc ds (nfp y.x.s).g (nfp s').g y.x.s.e s'.e y.pw s'.w hy hside' ht

/-- `DriverQuery` touches the `POLLOUT` bit and `driverSendSuppressed` only -/
def requery (x : ASt Hs Chan) (po sup : Bool) : ASt Hs Chan :=
  { a := { x.a with pollOut := po }, s := { x.s with g := { x.s.g with driverSendSuppressed := sup } } }

theorem aQuery_cases (P : HsP) (x : ASt Hs Chan) (hreg : x.a.registered = true)
    (hle : x.s.g.lastError = .none ∨ x.s.g.lastError = .wantRead) :
    ∃ po sup, aQuery (engine P) x = requery x po sup ∧
      ((x.s.e.stage < 3 ∧ x.s.g.lastError = .wantRead ∧ po = false ∧ sup = (x.s.g.driverSendSuppressed || x.a.pollOut)) ∨
       (x.s.e.stage < 3 ∧ x.s.g.lastError = .none ∧ po = x.a.pollOut ∧ sup = x.s.g.driverSendSuppressed) ∨
       (3 ≤ x.s.e.stage ∧ x.s.g.driverSendSuppressed = true ∧ po = true ∧ sup = false) ∨
       (3 ≤ x.s.e.stage ∧ x.s.g.driverSendSuppressed = false ∧ po = x.a.pollOut ∧ sup = false)) := by
  rcases x with ⟨⟨sendQ, po0, reg, fut, del, disc⟩, ⟨⟨le, ps, rt, ir, iw, dss, pe, wire, bw, ec⟩, e, w⟩⟩
  simp only at hreg hle
  subst hreg
  by_cases hfin : 3 ≤ e.stage
  · have hi : (engine P).initFinished e = true := by simp [engine, hfin]
    cases dss with
    | true => exact ⟨true, false, by simp [aQuery, driverQuery, hi, requery], Or.inr (Or.inr (Or.inl ⟨hfin, rfl, rfl, rfl⟩))⟩
    | false =>
      exact ⟨po0, false, by simp [aQuery, driverQuery, hi, requery], Or.inr (Or.inr (Or.inr ⟨hfin, rfl, rfl, rfl⟩))⟩
  · have hi : (engine P).initFinished e = false := by simp [engine]; omega
    have hlt : e.stage < 3 := by omega
    rcases hle with h | h
    · subst h
      exact ⟨po0, dss, by simp [aQuery, driverQuery, hi, requery], Or.inr (Or.inl ⟨hlt, rfl, rfl, rfl⟩)⟩
    · subst h
      exact ⟨false, dss || po0, by simp [aQuery, driverQuery, hi, requery], Or.inl ⟨hlt, rfl, rfl, rfl⟩⟩

/-- the part of a driver step after `DriverQuery` -/
def SysAG.task (C : Cfg) (P : HsP) (u : Bool) (rx : Nat) (y : SysAG) : SysAG :=
  { y with x := (aTask C (chanWorld u) (engine P) rx y.x (y.rev u)).2,
           faults := y.faults + (if isOk (aTask C (chanWorld u) (engine P) rx y.x (y.rev u)).1 then 0 else 1) }

theorem GInv.lastErr {P : HsP} {u : Bool} {dc ds : Bytes} {y : SysAG} (hy : GInv P u dc ds y) :
    y.x.s.g.lastError = .none ∨ y.x.s.g.lastError = .wantRead :=
  (sysInv_side P u dc ds _ _ _ hy.inv).2.2.2.2.2.1

theorem GInv.reads {P : HsP} {u : Bool} {dc ds : Bytes} {y : SysAG} (hy : GInv P u dc ds y) :
    y.x.s.g.lastError = .wantRead → y.x.s.e.stage < 3 → y.x.s.e.writes = false :=
  (sysInv_side P u dc ds _ _ _ hy.inv).2.2.2.2.2.2.1

theorem GInv.wf {P : HsP} {u : Bool} {dc ds : Bytes} {y : SysAG} (hy : GInv P u dc ds y) : WF P y.x.s.e :=
  (sysInv_side P u dc ds _ _ _ hy.inv).2.2.2.2.1

/-- `DriverQuery` keeps the invariant; and if the endpoint can progress but nothing is readable, it leaves `POLLOUT`
requested -/
theorem requery_inv (P : HsP) (u : Bool) (dc ds : Bytes) (y : SysAG) (hy : GInv P u dc ds y) (po sup : Bool)
    (hcase : (y.x.s.e.stage < 3 ∧ y.x.s.g.lastError = .wantRead ∧ po = false ∧ sup = (y.x.s.g.driverSendSuppressed || y.x.a.pollOut)) ∨
       (y.x.s.e.stage < 3 ∧ y.x.s.g.lastError = .none ∧ po = y.x.a.pollOut ∧ sup = y.x.s.g.driverSendSuppressed) ∨
       (3 ≤ y.x.s.e.stage ∧ y.x.s.g.driverSendSuppressed = true ∧ po = true ∧ sup = false) ∨
       (3 ≤ y.x.s.e.stage ∧ y.x.s.g.driverSendSuppressed = false ∧ po = y.x.a.pollOut ∧ sup = false)) :
    GInv P u dc ds { y with x := requery y.x po sup } ∧
    (CanProg u y.x.s.e y.x.s.w → y.x.s.w.inb u = 0 → po = true) := by
  have hside := hy.side y.x.s.g.pendingSend (Or.inr rfl)
  have hinv : SysInv P dc ds (SysAG.sys u { y with x := requery y.x po sup }) :=
    sys_upd P u dc ds y hy.inv y.x.s.g.pendingSend (requery y.x po sup).s hside
      (Tr.refl P u y.x.s.e y.x.s.w hy.wf) (requery y.x po sup).a y.faults rfl
  have htight := hy.tight
  have hfed := hy.fed
  have hq : QOk y.x.a.sendQ po sup := hy.q.requery (by
    rcases hcase with ⟨_, _, h3, h4⟩ | ⟨_, _, h3, h4⟩ | ⟨_, h2, h3, h4⟩ | ⟨_, h2, h3, h4⟩
    · exact .inl ⟨h3, h4⟩
    · exact .inr (.inl ⟨h3, h4⟩)
    · exact .inr (.inr (.inl ⟨h2, h3, h4⟩))
    · exact .inr (.inr (.inr ⟨h2, h3, h4⟩)))
  refine ⟨⟨hinv, hy.ir, hy.reg, hq, ?_, hy.fed, hy.pend⟩, ?_⟩
  · show y.x.s.e.stage < 3 → y.x.s.g.lastError = .wantRead ∨
      (y.x.s.e = Hs.init P u ∧ y.x.s.g.lastError = .none ∧ sup = false)
    intro hlt
    rcases hcase with ⟨_, h2, _, _⟩ | ⟨_, h2, _, h4⟩ | ⟨h1, _, _, _⟩ | ⟨h1, _, _, _⟩
    · exact Or.inl h2
    · rcases htight hlt with h | ⟨a, b, c⟩
      · rw [h2] at h; cases h
      · exact Or.inr ⟨a, b, by rw [h4]; exact c⟩
    · omega
    · omega
  · intro hcp hin
    obtain ⟨hlt, hor⟩ := hcp
    have hwr : y.x.s.e.writes = true := by
      rcases hor with h | h
      · exact h
      · omega
    rcases htight hlt with hl | ⟨he, hl, hs⟩
    · have := hy.reads hl hlt; rw [this] at hwr; cases hwr
    · have hu : u = true := by
        rw [he] at hwr
        simpa [Hs.init, Hs.writes] using hwr
      have hne := hfed hu hlt
      have hpo : y.x.a.pollOut = true := by
        rcases hy.q.1.mp hne with h | h
        · exact h
        · rw [hs] at h; cases h
      rcases hcase with ⟨_, h2, _, _⟩ | ⟨_, _, h3, _⟩ | ⟨h1, _, _, _⟩ | ⟨h1, _, _, _⟩
      · rw [hl] at h2; cases h2
      · rw [h3]; exact hpo
      · omega
      · omega

theorem supFrameG (r : Bool) (b : Bool) : Frame (chanWorld r) (fun s : St Hs Chan => s.g.driverSendSuppressed = b) where
  core := fun h hc => hc.2.2.2.trans h
  wait := fun _ _ h => h
  bioRead := by intro s n h; rw [(bioRead_core (W := chanWorld r) s n).2.2.1]; exact h
  bioWrite := by intro s bs h; rw [(bioWrite_ctl (W := chanWorld r) s bs).1.2.2.2]; exact h

/-- what a driver task does to the composition -/
structure TaskRes (P : HsP) (u : Bool) (dc ds : Bytes) (y y' : SysAG) : Prop where
  inv : GInv P u dc ds y'
  ep : y'.ep = y.ep
  wk : work P y'.x.s.e ≤ work P y.x.s.e
  out : y.x.s.w.out u ≤ y'.x.s.w.out u
  st : y.x.s.e.stage ≤ y'.x.s.e.stage

theorem task_spec (C : Cfg) (hC : 1 < C.stepsMax) (P : HsP) (u : Bool) (dc ds : Bytes) (rx : Nat) (hrx : 1 ≤ rx)
    (y : SysAG) (hy : GInv P u dc ds y) :
    TaskRes P u dc ds y (SysAG.task C P u rx y) ∧
    (CanProg u y.x.s.e y.x.s.w → (0 < y.x.s.w.inb u ∨ y.x.a.pollOut = true) →
      work P (SysAG.task C P u rx y).x.s.e < work P y.x.s.e) := by
  by_cases hin : 0 < y.x.s.w.inb u
  · -- the readable task
    have hside := hy.side y.x.s.g.pendingSend (Or.inr rfl)
    obtain ⟨bs, s', e1, side1, t1, g1, tight1, _⟩ :=
      receiveReadable_hs C (by omega) P u y.x.s.g.pendingSend rx hrx y.x.s hside hin
    have hsup' : s'.g.driverSendSuppressed = y.x.s.g.driverSendSuppressed := by
      have := (supFrameG u y.x.s.g.driverSendSuppressed).receiveReadable C (engine P) y.x.s rx rfl
      rw [e1] at this; exact this
    have hir' : s'.g.isReadable = false := by
      have := receiveReadable_ir C (by omega) P u rx y.x.s hy.wf hy.lastErr
      rw [e1] at this; exact this
    have htask0 : aTask C (chanWorld u) (engine P) rx y.x (y.rev u) = aReadable C (chanWorld u) (engine P) rx y.x := by
      simp [aTask, hy.reg, SysAG.rev, hin]
    have htask : ∃ a', aTask C (chanWorld u) (engine P) rx y.x (y.rev u) = (.ok (), ⟨a', s'⟩) ∧
        a'.pollOut = y.x.a.pollOut ∧ a'.registered = y.x.a.registered ∧ a'.sendQ = y.x.a.sendQ := by
      rw [htask0]
      simp only [aReadable, e1]
      cases bs with
      | nil => exact ⟨_, rfl, rfl, rfl, rfl⟩
      | cons b t => exact ⟨_, rfl, rfl, rfl, rfl⟩
    obtain ⟨a', ht, hpo', hreg', hq'⟩ := htask
    have hstep : SysAG.task C P u rx y = { y with x := ⟨a', s'⟩, faults := y.faults + 0 } := by
      simp only [SysAG.task, ht, isOk, if_true]
    rw [hstep]
    have hpend' : s'.g.pendingSend = [] ∨ s'.g.pendingSend = y.x.s.g.pendingSend := side1.2.2.2.2.2.2.2
    refine ⟨⟨⟨sys_upd P u dc ds y hy.inv _ s' side1 t1 a' _ rfl, hir', by rw [← hy.reg]; exact hreg', ?_, ?_, ?_,
      ?_⟩, rfl, t1.wk, t1.outLe, t1.st⟩, fun hcp _ => g1 hcp⟩
    · show QOk a'.sendQ a'.pollOut s'.g.driverSendSuppressed
      rw [hq', hpo', hsup']; exact hy.q
    · intro hlt
      exact Or.inl (tight1 hlt)
    · show u = true → s'.e.stage < 3 → a'.sendQ ≠ []
      intro hu hlt
      rw [hq']
      exact hy.fed hu (by have := t1.st; omega)
    · show s'.g.pendingSend = [] ∨ ∃ rest, a'.sendQ = s'.g.pendingSend :: rest
      rw [hq']
      rcases hpend' with h | h
      · exact Or.inl h
      · rw [h]; exact hy.pend
  · by_cases hpo : y.x.a.pollOut = true
    · -- the writable task: a buffer is queued
      have hne := hy.q.1.mpr (Or.inl hpo)
      obtain ⟨buf, rest, hq⟩ : ∃ buf rest, y.x.a.sendQ = buf :: rest := by
        cases hh : y.x.a.sendQ with
        | nil => exact absurd hh hne
        | cons b r => exact ⟨b, r, rfl⟩
      have hbuf : buf ≠ [] := hy.q.2.2 buf (by rw [hq]; exact List.mem_cons_self ..)
      have hpd : y.x.s.g.pendingSend = [] ∨ y.x.s.g.pendingSend = buf := by
        rcases hy.pend with h | ⟨r', h⟩
        · exact Or.inl h
        · rw [hq] at h
          exact Or.inr (List.cons.inj h).1.symm
      have hside := hy.side buf hpd
      obtain ⟨k, s', e1, side1, t1, g1, tight1, hir', hk⟩ := sendSomeWritable_hs C hC P u buf hbuf y.x.s hside hy.ir
      have hsup0 : y.x.s.g.driverSendSuppressed = false := by
        cases h : y.x.s.g.driverSendSuppressed with
        | false => rfl
        | true => exact absurd ⟨hpo, h⟩ hy.q.2.1
      have hsup' : s'.g.driverSendSuppressed = false := by
        have := (supFrameG u false).sendSomeWritable C (engine P) y.x.s buf hsup0
        rw [e1] at this; exact this
      have htask0 : aTask C (chanWorld u) (engine P) rx y.x (y.rev u) = aWritable C (chanWorld u) (engine P) y.x := by
        simp [aTask, hy.reg, SysAG.rev, hin, hpo]
      have hlen : buf.length ≠ 0 := by simpa using hbuf
      rcases hk with ⟨k1, k2, k3, k4⟩ | k0
      · -- the whole buffer went out: the handshake is finished
        have htask : aTask C (chanWorld u) (engine P) rx y.x (y.rev u) =
            (.ok (), { a := { y.x.a with sendQ := rest, futures := .ok :: y.x.a.futures,
                                         pollOut := if rest.isEmpty then false else y.x.a.pollOut }, s := s' }) := by
          rw [htask0]
          simp only [aWritable, hq, e1, k1, if_true]
        have hstep : SysAG.task C P u rx y =
            { y with x := { a := { y.x.a with sendQ := rest, futures := .ok :: y.x.a.futures,
                                              pollOut := if rest.isEmpty then false else y.x.a.pollOut }, s := s' },
                     faults := y.faults + 0 } := by
          simp only [SysAG.task, htask, isOk, if_true]
        rw [hstep]
        have hq0 : QOk (buf :: rest) true false := by rw [← hq, ← hpo, ← hsup0]; exact hy.q
        refine ⟨⟨⟨sys_upd P u dc ds y hy.inv _ s' side1 t1 _ _ rfl, hir', hy.reg, ?_, ?_, ?_, Or.inl k4⟩,
          rfl, t1.wk, t1.outLe, t1.st⟩, fun hcp _ => g1 hcp⟩
        · show QOk rest (if rest.isEmpty then false else y.x.a.pollOut) s'.g.driverSendSuppressed
          rw [hsup', hpo]; exact hq0.pop
        · intro hlt; exact absurd (show s'.e.stage < 3 from hlt) (by omega)
        · intro _ hlt; exact absurd (show s'.e.stage < 3 from hlt) (by omega)
      · -- nothing went out: the handshake is waiting for the peer
        subst k0
        have htask : aTask C (chanWorld u) (engine P) rx y.x (y.rev u) =
            (.ok (), { a := { y.x.a with sendQ := buf :: rest }, s := s' }) := by
          rw [htask0]
          simp only [aWritable, hq, e1]
          rw [if_neg (by intro h; exact hlen h.symm)]
          simp
        have hstep : SysAG.task C P u rx y =
            { y with x := { a := { y.x.a with sendQ := buf :: rest }, s := s' }, faults := y.faults + 0 } := by
          simp only [SysAG.task, htask, isOk, if_true]
        rw [hstep]
        refine ⟨⟨⟨sys_upd P u dc ds y hy.inv _ s' side1 t1 _ _ rfl, hir', hy.reg, ?_, ?_, ?_, ?_⟩,
          rfl, t1.wk, t1.outLe, t1.st⟩, fun hcp _ => g1 hcp⟩
        · show QOk (buf :: rest) y.x.a.pollOut s'.g.driverSendSuppressed
          rw [hsup', ← hsup0, ← hq]; exact hy.q
        · intro hlt; exact Or.inl (tight1 hlt)
        · intro _ _; simp
        · show s'.g.pendingSend = [] ∨ ∃ r', buf :: rest = s'.g.pendingSend :: r'
          rcases side1.2.2.2.2.2.2.2 with h | h
          · exact Or.inl h
          · right; refine ⟨rest, ?_⟩
            have : (nf s').g.pendingSend = s'.g.pendingSend := rfl
            rw [← this, h]
    · -- nothing to do
      have htask : aTask C (chanWorld u) (engine P) rx y.x (y.rev u) = (.ok (), y.x) := by
        simp [aTask, hy.reg, SysAG.rev, hin, hpo]
      have hstep : SysAG.task C P u rx y = { y with faults := y.faults + 0 } := by
        simp only [SysAG.task, htask, isOk, if_true]
      rw [hstep]
      refine ⟨⟨⟨hy.inv, hy.ir, hy.reg, hy.q, hy.tight, hy.fed, hy.pend⟩, rfl, Nat.le_refl _,
        Nat.le_refl _, Nat.le_refl _⟩, ?_⟩
      intro _ hor
      rcases hor with h | h
      · exact absurd h hin
      · exact absurd h hpo

/-- one `Driver::Step` -/
theorem driveG_spec (C : Cfg) (hC : 1 < C.stepsMax) (P : HsP) (u : Bool) (dc ds : Bytes) (rx : Nat) (hrx : 1 ≤ rx)
    (y : SysAG) (hy : GInv P u dc ds y) :
    GInv P u dc ds (y.step C P u dc ds rx .drive) ∧ (y.step C P u dc ds rx .drive).ep = y.ep ∧
    work P (y.step C P u dc ds rx .drive).x.s.e ≤ work P y.x.s.e ∧
    (CanProg u y.x.s.e y.x.s.w → work P (y.step C P u dc ds rx .drive).x.s.e < work P y.x.s.e) ∧
    y.x.s.w.out u ≤ (y.step C P u dc ds rx .drive).x.s.w.out u ∧
    y.x.s.e.stage ≤ (y.step C P u dc ds rx .drive).x.s.e.stage := by
  obtain ⟨po, sup, hq, hcase⟩ := aQuery_cases P y.x hy.reg hy.lastErr
  obtain ⟨hy1, hpo1⟩ := requery_inv P u dc ds y hy po sup hcase
  have hstep : y.step C P u dc ds rx .drive = SysAG.task C P u rx { y with x := requery y.x po sup } := by
    simp only [SysAG.step, SysAG.task, hq]
    rfl
  rw [hstep]
  obtain ⟨r1, p1⟩ := task_spec C hC P u dc ds rx hrx _ hy1
  refine ⟨r1.inv, r1.ep, r1.wk, ?_, r1.out, r1.st⟩
  intro hcp
  apply p1 hcp
  by_cases hin : 0 < y.x.s.w.inb u
  · exact Or.inl hin
  · exact Or.inr (hpo1 hcp (by omega))

/-- the user queues a buffer -/
theorem enqG_spec (C : Cfg) (P : HsP) (u : Bool) (dc ds : Bytes) (rx : Nat) (y : SysAG) (hy : GInv P u dc ds y)
    (buf : Bytes) (hb : buf ≠ []) :
    GInv P u dc ds (y.step C P u dc ds rx (.enq buf)) ∧ (y.step C P u dc ds rx (.enq buf)).ep = y.ep ∧
    (y.step C P u dc ds rx (.enq buf)).x.s = y.x.s := by
  have hstep : y.step C P u dc ds rx (.enq buf) = { y with x := enqueue y.x buf } := rfl
  rw [hstep]
  have hq : (enqueue y.x buf).a.sendQ = y.x.a.sendQ ++ [buf] := rfl
  refine ⟨⟨hy.inv, hy.ir, hy.reg, hy.q.push hy.reg buf hb, hy.tight, ?_, ?_⟩, rfl, rfl⟩
  · intro _ _; rw [hq]; simp
  · show y.x.s.g.pendingSend = [] ∨ ∃ rest, (enqueue y.x buf).a.sendQ = y.x.s.g.pendingSend :: rest
    rcases hy.pend with h | ⟨r', h⟩
    · exact Or.inl h
    · right; rw [hq, h]; exact ⟨r' ++ [buf], rfl⟩

/-- one call of the polling peer -/
theorem peerG_spec (C : Cfg) (hC : 1 < C.stepsMax) (P : HsP) (u : Bool) (dc ds : Bytes) (hdc : dc ≠ []) (hds : ds ≠ [])
    (rx : Nat) (y : SysAG) (hy : GInv P u dc ds y) (k : Kind) (hk : k.ok) :
    GInv P u dc ds (y.step C P u dc ds rx (.peer k)) ∧ (y.step C P u dc ds rx (.peer k)).x.s.e = y.x.s.e ∧
    work P (y.step C P u dc ds rx (.peer k)).ep ≤ work P y.ep ∧
    (CanProg (!u) y.ep y.x.s.w → work P (y.step C P u dc ds rx (.peer k)).ep < work P y.ep) ∧
    y.x.s.w.inb u ≤ (y.step C P u dc ds rx (.peer k)).x.s.w.inb u ∧
    y.ep.stage ≤ (y.step C P u dc ds rx (.peer k)).ep.stage := by
  obtain ⟨i1, w1, p1, s1, c1⟩ := poll_spec C hC P u dc ds hdc hds (nfp y.x.s).g y.x.s.e y.pw hy.inv k hk
  refine ⟨⟨?_, hy.ir, hy.reg, hy.q, hy.tight, hy.fed, hy.pend⟩, rfl, w1, p1, c1, s1⟩
  have : SysAG.sys u (y.step C P u dc ds rx (.peer k)) = mkSys u (nfp y.x.s).g y.x.s.e (y.pw.poll C P u dc ds k) := by
    cases u <;> rfl
  rw [this]; exact i1

/-- the composition as a fair-progress system: side `u` = the asynchronous endpoint's driver, side `!u` = the peer;
queueing a buffer is a neutral step -/
def agTS (C : Cfg) (hC : 1 < C.stepsMax) (P : HsP) (u : Bool) (dc ds : Bytes) (hdc : dc ≠ []) (hds : ds ≠ [])
    (rx : Nat) (hrx : 1 ≤ rx) : Fair.TS SysAG ActG where
  step := SysAG.step C P u dc ds rx
  inv := GInv P u dc ds
  mu y := work P y.x.s.e + work P y.ep
  side a := match a with
    | .drive => some u
    | .enq _ => none
    | .peer _ => some (!u)
  can y r := if r = u then CanProg u y.x.s.e y.x.s.w else CanProg (!u) y.ep y.x.s.w
  fin := SysAG.bothFinished
  ok := ActG.okG
  step_ok := by
    intro y a hy ha
    cases a with
    | drive =>
      obtain ⟨i1, e1, w1, p1, c1, s1⟩ := driveG_spec C hC P u dc ds rx hrx y hy
      refine ⟨i1, ?_, ?_, ?_, ?_⟩
      · show work P _ + work P _ ≤ work P _ + work P _
        rw [e1]; omega
      · intro r hr hp
        have hr' : r = u := by cases hr; rfl
        subst hr'
        simp only [if_true] at hp
        have := p1 hp
        show work P _ + work P _ < work P _ + work P _
        rw [e1]; omega
      · intro r hr hp
        have hr' : r ≠ u := by intro h; apply hr; rw [h]
        simp only [if_neg hr'] at hp ⊢
        rw [e1]
        obtain ⟨h1, h2⟩ := hp
        refine ⟨h1, ?_⟩
        rcases h2 with h2 | h2
        · exact Or.inl h2
        · right
          have hio : ∀ c : Chan, c.inb (!u) = c.out u := by intro c; cases u <;> rfl
          rw [hio] at h2 ⊢; omega
      · intro hf
        exact ⟨Nat.le_trans hf.1 s1, by rw [e1]; exact hf.2⟩
    | enq buf =>
      obtain ⟨i1, e1, e2⟩ := enqG_spec C P u dc ds rx y hy buf ha
      refine ⟨i1, ?_, ?_, ?_, ?_⟩
      · show work P _ + work P _ ≤ work P _ + work P _
        rw [e1, e2]; omega
      · intro r hr; cases hr
      · intro r _ hp
        show (if r = u then CanProg u _ _ else CanProg (!u) _ _)
        rw [e1, e2]; exact hp
      · intro hf
        exact ⟨by rw [e2]; exact hf.1, by rw [e1]; exact hf.2⟩
    | peer k =>
      obtain ⟨i1, e1, w1, p1, c1, s1⟩ := peerG_spec C hC P u dc ds hdc hds rx y hy k ha
      refine ⟨i1, ?_, ?_, ?_, ?_⟩
      · show work P _ + work P _ ≤ work P _ + work P _
        rw [e1]; omega
      · intro r hr hp
        have hr' : r = !u := by cases hr; rfl
        subst hr'
        have hne : (!u) ≠ u := by cases u <;> simp
        simp only [if_neg hne] at hp
        have := p1 hp
        show work P _ + work P _ < work P _ + work P _
        rw [e1]; omega
      · intro r hr hp
        have hr' : r = u := by
          cases r <;> cases u <;> simp_all
        subst hr'
        simp only [if_true] at hp ⊢
        rw [e1]
        obtain ⟨h1, h2⟩ := hp
        refine ⟨h1, ?_⟩
        rcases h2 with h2 | h2
        · exact Or.inl h2
        · right; omega
      · intro hf
        exact ⟨by rw [e1]; exact hf.1, Nat.le_trans hf.2 s1⟩
  live := by
    intro y hy hnf
    have key : CanProg u y.x.s.e y.x.s.w ∨ CanProg (!u) y.ep y.x.s.w := by
      by_cases hc : CanProg u y.x.s.e y.x.s.w
      · exact Or.inl hc
      · refine Or.inr (peer_can P u dc ds _ _ _ hy.inv ?_ hc)
        show y.x.s.e.stage < 3 ∨ y.ep.stage < 3
        unfold SysAG.bothFinished at hnf
        omega
    cases u
    · exact key.symm
    · exact key
  zero := by
    intro y _ h0
    exact ⟨work_zero_fin P _ (by omega), work_zero_fin P _ (by omega)⟩

theorem agTS_run (C : Cfg) (hC : 1 < C.stepsMax) (P : HsP) (u : Bool) (dc ds : Bytes) (hdc : dc ≠ []) (hds : ds ≠ [])
    (rx : Nat) (hrx : 1 ≤ rx) (l : List ActG) (y : SysAG) :
    (agTS C hC P u dc ds hdc hds rx hrx).run l y = SysAG.run C P u dc ds rx l y := rfl

/-- the initial state: an asynchronous client must have something queued -/
theorem gInv_init (P : HsP) (u : Bool) (dc ds : Bytes) (segs : List Nat) (q : List Bytes) (hq : ∀ b ∈ q, b ≠ [])
    (hfed : u = true → q ≠ []) : GInv P u dc ds (SysAG.init P u segs q) := by
  have hinv : SysInv P dc ds ((SysAG.init P u segs q).sys u) := by
    have := sysInv_init P dc ds segs
    cases u <;> exact this
  refine ⟨hinv, rfl, rfl, ⟨?_, (by rintro ⟨_, h⟩; cases h), hq⟩, fun _ => Or.inr ⟨rfl, rfl, rfl⟩, fun hu _ => hfed hu, Or.inl rfl⟩
  show q ≠ [] ↔ ((!q.isEmpty) = true ∨ false = true)
  cases q <;> simp

/-! ### the asynchronous server of `Model/HsAsync.lean` is the case `u = false` with nothing ever queued -/

def SysAS.toG (y : SysAS) : SysAG := ⟨y.x, y.gp, y.ep, y.faults⟩

def ActA.toG : ActA → ActG
  | .drive => .drive
  | .peer k => .peer k

theorem toG_step (C : Cfg) (P : HsP) (dc ds : Bytes) (rx : Nat) (y : SysAS) (a : ActA) :
    (y.step C P dc rx a).toG = y.toG.step C P false dc ds rx a.toG := by
  cases a <;> rfl

theorem toG_run (C : Cfg) (P : HsP) (dc ds : Bytes) (rx : Nat) (l : List ActA) (y : SysAS) :
    (SysAS.run C P dc rx l y).toG = SysAG.run C P false dc ds rx (l.map ActA.toG) y.toG := by
  induction l generalizing y with
  | nil => rfl
  | cons a l ih =>
    show (SysAS.run C P dc rx l (y.step C P dc rx a)).toG = SysAG.run C P false dc ds rx (l.map ActA.toG) (y.toG.step C P false dc ds rx a.toG)
    rw [ih, toG_step]

theorem toG_init (P : HsP) (segs : List Nat) : (SysAS.init P segs).toG = SysAG.init P false segs [] := rfl

theorem step_sendQ (C : Cfg) (P : HsP) (dc : Bytes) (rx : Nat) (y : SysAS) (a : ActA) (h : y.x.a.sendQ = []) :
    (y.step C P dc rx a).x.a.sendQ = [] := by
  cases a with
  | peer k => exact h
  | drive =>
    have hq : (aQuery (engine P) y.x).a.sendQ = [] := by
      unfold aQuery
      split <;> exact h
    show (aTask C (chanWorld false) (engine P) rx (aQuery (engine P) y.x) y.rev).2.a.sendQ = []
    generalize aQuery (engine P) y.x = x at hq
    unfold aTask
    split
    · exact hq
    · split
      · unfold aReadable
        split
        · exact hq
        · exact hq
        · split <;> exact hq
        · exact hq
      · split
        · unfold aWritable
          rw [hq]
          dsimp only
          split <;> exact hq
        · split <;> exact hq

theorem run_sendQ (C : Cfg) (P : HsP) (dc : Bytes) (rx : Nat) (l : List ActA) (y : SysAS) (h : y.x.a.sendQ = []) :
    (SysAS.run C P dc rx l y).x.a.sendQ = [] := by
  induction l generalizing y with
  | nil => exact h
  | cons a l ih => exact ih _ (step_sendQ C P dc rx y a h)

end SockModel.Hs
