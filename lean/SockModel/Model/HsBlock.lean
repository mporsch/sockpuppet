import SockModel.Model.HsSched
/-!
One side calls with an **unlimited timeout** (`T < 0`), the other side polls (timeout 0).

In a sequential composition an unlimited wait that finds nothing ready would never return.  The interleaving semantics
used here: the world of the blocking side `u` CONTAINS the polling peer - its glue, its engine and the calls it is
going to make (`prog`, its polling loop, in order).  A wait of side `u`

* for writability, or for readability while bytes towards `u` are in flight, returns at once (as in `chanWorld`);
* for readability with nothing in flight and an unlimited timeout *suspends side `u`*: the peer performs the next
  calls of its program - each one the REAL zero-timeout call `callOn` on the shared channels - until bytes towards `u`
  are in flight; then the wait returns "ready" and the blocked call resumes where it was (inside the BIO callback,
  inside the engine, inside `Read`/`Write`).  If the peer's program ends first, the wait reports "not ready"
  (= the observation ends while the call is still blocked; everything below says what holds in that case too).

Granularity: the blocked side resumes at the END of the peer call that made its descriptor ready, not in the middle
of it (calls of the polling side are atomic with respect to the blocked side; the blocked side touches nothing while
it is blocked).

The proofs follow the chain of Model/HsLemmas.lean for `chanWorld` step by step (`hsRunU_spec` ~ `hsRun_spec`,
`sslWriteU_spec` / `sslReadU_spec`, `sendU_spec` / `recvU_spec` ~ `tlsWrite_chan` / `tlsRead_hs`), with "nothing in flight:
the peer runs" in place of "nothing in flight: WANT_READ"; since the peer moves inside the wait they carry `SysInv` of
the whole composition instead of the local `Tr`.  Names ending in `U` are about the side with the unlimited timeout.
-/
namespace SockModel.Hs
open SockModel.Net SockModel.Tls

/-- the peer runs while side `u` is blocked, until bytes towards `u` are in flight; `false` = its program ended -/
def runPeer (C : Cfg) (P : HsP) (u : Bool) (dc ds : Bytes) : List Kind → PeerW → Bool × PeerW
  | [], w => (false, { w with prog := [] })
  | k :: rest, w =>
    if 0 < (w.poll C P u dc ds k).ch.inb u then (true, { w.poll C P u dc ds k with prog := rest })
    else runPeer C P u dc ds rest (w.poll C P u dc ds k)

def blockWorld (C : Cfg) (P : HsP) (u : Bool) (dc ds : Bytes) : World PeerW where
  wait w d t := match d with
    | .wr => (true, w)
    | .rd => if 0 < w.ch.inb u then (true, w) else if t < 0 then runPeer C P u dc ds w.prog w else (false, w)
  send w bs := (.accept bs.length, { w with ch := w.ch.addOut u bs.length })
  recv w n := (.data (zeros (pick w.ch.segs.head? (min n (w.ch.inb u)))),
    { w with ch := w.ch.takeIn u (pick w.ch.segs.head? (min n (w.ch.inb u))) })
  now _ := 0

def ProgOk (w : PeerW) : Prop := ∀ k ∈ w.prog, k.ok

/-- the peer's program is long enough for the work its engine has left -/
def Enough (P : HsP) (w : PeerW) : Prop := work P w.e ≤ w.prog.length

/-- side `u` waits for a flight and nothing is there: the peer can progress -/
theorem peer_can_of_waiting (P : HsP) (u : Bool) (dc ds : Bytes) (g : Glue) (h : Hs) (w : PeerW)
    (hinv : SysInv P dc ds (mkSys u g h w)) (hs : h.stage < 3) (hr : h.writes = false) (hin : w.ch.inb u = 0) :
    CanProg (!u) w.e w.ch := by
  refine peer_can P u dc ds g h w hinv (Or.inl hs) fun hc => ?_
  rcases hc.2 with h2 | h2
  · rw [hr] at h2; cases h2
  · omega

/-- **a blocked side is released**: what the peer's run during a blocked wait does.  `prog` is the part of the
peer's program that is still to come. -/
theorem runPeer_spec (C : Cfg) (hC : 1 < C.stepsMax) (P : HsP) (u : Bool) (dc ds : Bytes) (hdc : dc ≠ []) (hds : ds ≠ [])
    (g : Glue) (h : Hs) : ∀ (prog : List Kind) (w : PeerW) (b : Bool) (w1 : PeerW),
      runPeer C P u dc ds prog w = (b, w1) → SysInv P dc ds (mkSys u g h w) → (∀ k ∈ prog, k.ok) → w.ch.inb u = 0 →
      SysInv P dc ds (mkSys u g h w1) ∧ ProgOk w1 ∧ work P w1.e ≤ work P w.e ∧ w.e.stage ≤ w1.e.stage ∧
      (b = true → 0 < w1.ch.inb u) ∧ (b = false → w1.prog = [] ∧ w1.ch.inb u = 0) ∧
      (h.stage < 3 → h.writes = false →
        prog.length + work P w1.e ≤ w1.prog.length + work P w.e ∧ (work P w.e ≤ prog.length → b = true)) := by
  intro prog
  induction prog with
  | nil =>
    intro w b w1 hrp hinv _ hin
    have e : runPeer C P u dc ds [] w = (false, { w with prog := [] }) := rfl
    rw [e] at hrp
    obtain ⟨rfl, rfl⟩ := Prod.mk.inj hrp
    refine ⟨by rw [mkSys_prog]; exact hinv, (by intro k hk; cases hk), Nat.le_refl _, Nat.le_refl _, (by intro hf; cases hf),
      fun _ => ⟨rfl, hin⟩, ?_⟩
    intro hs hr
    refine ⟨by simp, ?_⟩
    intro hle
    have hp := peer_can_of_waiting P u dc ds g h w hinv hs hr hin
    have := work_pos_of_stage P w.e hp.1
    simp at hle
    omega
  | cons k rest ih =>
    intro w b w1 hrp hinv hok hin
    obtain ⟨i1, wk1, p1, s1, c1⟩ := poll_spec C hC P u dc ds hdc hds g h w hinv k (hok k (List.mem_cons_self ..))
    have hok' : ∀ k ∈ rest, k.ok := fun k hk => hok k (List.mem_cons_of_mem _ hk)
    have e : runPeer C P u dc ds (k :: rest) w =
        if 0 < (w.poll C P u dc ds k).ch.inb u then (true, { w.poll C P u dc ds k with prog := rest })
        else runPeer C P u dc ds rest (w.poll C P u dc ds k) := rfl
    rw [e] at hrp
    by_cases hpos : 0 < (w.poll C P u dc ds k).ch.inb u
    · rw [if_pos hpos] at hrp
      obtain ⟨rfl, rfl⟩ := Prod.mk.inj hrp
      refine ⟨by rw [mkSys_prog]; exact i1, hok', wk1, s1, fun _ => hpos, (by intro hf; cases hf), ?_⟩
      intro hs hr
      have := p1 (peer_can_of_waiting P u dc ds g h w hinv hs hr hin)
      refine ⟨by simp only [List.length_cons]; omega, fun _ => rfl⟩
    · rw [if_neg hpos] at hrp
      obtain ⟨j1, j2, j3, j4, j5, j6, j7⟩ := ih _ b w1 hrp i1 hok' (by omega)
      refine ⟨j1, j2, by omega, by omega, j5, j6, ?_⟩
      intro hs hr
      obtain ⟨a1, a2⟩ := j7 hs hr
      have := p1 (peer_can_of_waiting P u dc ds g h w hinv hs hr hin)
      refine ⟨by simp only [List.length_cons]; omega, ?_⟩
      intro hle
      apply a2
      simp only [List.length_cons] at hle
      omega

/-! ### the blocking side: BIO callbacks under an unlimited budget -/

/-- the glue fields a call with budget `T` finds and leaves between engine calls -/
def CalmU (T : Int) (s : St Hs PeerW) : Prop :=
  s.g.remainingTime = T ∧ s.g.isReadable = false ∧ s.g.isWritable = false ∧ s.g.pendingError = none ∧
  s.g.lastError = .none

theorem bw_wait_wr (C : Cfg) (P : HsP) (u : Bool) (dc ds : Bytes) (w : PeerW) (t : Int) :
    (blockWorld C P u dc ds).wait w .wr t = (true, w) := rfl
theorem bw_wait_rd (C : Cfg) (P : HsP) (u : Bool) (dc ds : Bytes) (w : PeerW) (t : Int) :
    (blockWorld C P u dc ds).wait w .rd t =
      if 0 < w.ch.inb u then (true, w) else if t < 0 then runPeer C P u dc ds w.prog w else (false, w) := rfl
theorem bw_send (C : Cfg) (P : HsP) (u : Bool) (dc ds : Bytes) (w : PeerW) (bs : Bytes) :
    (blockWorld C P u dc ds).send w bs = (.accept bs.length, { w with ch := w.ch.addOut u bs.length }) := rfl
theorem bw_recv (C : Cfg) (P : HsP) (u : Bool) (dc ds : Bytes) (w : PeerW) (n : Nat) :
    (blockWorld C P u dc ds).recv w n = (.data (zeros (pick w.ch.segs.head? (min n (w.ch.inb u)))),
      { w with ch := w.ch.takeIn u (pick w.ch.segs.head? (min n (w.ch.inb u))) }) := rfl
theorem bw_now (C : Cfg) (P : HsP) (u : Bool) (dc ds : Bytes) (w : PeerW) : (blockWorld C P u dc ds).now w = 0 := rfl

theorem sendNow_block (C : Cfg) (P : HsP) (u : Bool) (dc ds : Bytes) (w : PeerW) (bs : Bytes) :
    sendNow (blockWorld C P u dc ds) w bs = ⟨bs.length, none, { w with ch := w.ch.addOut u bs.length }⟩ :=
  sendNow_full _ _ _ _ rfl

theorem sendAll_block (C : Cfg) (P : HsP) (u : Bool) (dc ds : Bytes) (w : PeerW) (bs : Bytes) :
    sendAll (blockWorld C P u dc ds) w bs 0 = ⟨bs.length, none, { w with ch := w.ch.addOut u bs.length }⟩ := by
  rw [sendAll]
  simp only [bw_wait_wr, sendNow_block]
  simp

theorem bioWrite_block (C : Cfg) (P : HsP) (u : Bool) (dc ds : Bytes) (T : Int) (hT : T < 0) (s : St Hs PeerW)
    (hc : CalmU T s) (bs : Bytes) :
    ∃ s', bioWrite (blockWorld C P u dc ds) s bs = (.ok bs.length, s') ∧ CalmU T s' ∧ s'.e = s.e ∧
      s'.w = { s.w with ch := s.w.ch.addOut u bs.length } ∧ s'.g.pendingSend = s.g.pendingSend := by
  obtain ⟨h1, h2, h3, h4, h5⟩ := hc
  have hneg : s.g.remainingTime < 0 := by omega
  have e : bioWrite (blockWorld C P u dc ds) s bs =
      noteWrite s bs ⟨bs.length, none, { s.w with ch := s.w.ch.addOut u bs.length }⟩ s.g.remainingTime := by
    simp only [bioWrite, h3, Bool.false_eq_true, if_false, hneg, if_true, sendAll_block]
  refine ⟨(noteWrite s bs ⟨bs.length, none, { s.w with ch := s.w.ch.addOut u bs.length }⟩ s.g.remainingTime).2,
    by rw [e]; rfl, ⟨h1, h2, h3, h4, h5⟩, rfl, rfl, rfl⟩

/-- what a blocked wait leaves behind, seen from side `u` with engine `h` -/
structure Rel (P : HsP) (u : Bool) (dc ds : Bytes) (g : Glue) (h : Hs) (w w1 : PeerW) : Prop where
  inv : SysInv P dc ds (mkSys u g h w1)
  ok : ProgOk w1
  wk : work P w1.e ≤ work P w.e
  st : w.e.stage ≤ w1.e.stage
  /-- while side `u` is reading a handshake flight, a peer with enough program left always releases it -/
  rel : h.stage < 3 → h.writes = false → Enough P w → Enough P w1 ∧ 0 < w1.ch.inb u

theorem recvNow_block (C : Cfg) (P : HsP) (u : Bool) (dc ds : Bytes) (w : PeerW) (n : Nat) (hn : 1 ≤ n)
    (hin : 0 < w.ch.inb u) :
    ∃ k, 1 ≤ k ∧ k ≤ n ∧ k ≤ w.ch.inb u ∧
      recvNow (blockWorld C P u dc ds) w n = .got (zeros k) { w with ch := w.ch.takeIn u k } := by
  have hp := pick_bounds w.ch.segs.head? (min n (w.ch.inb u)) (by omega)
  generalize hkdef : pick w.ch.segs.head? (min n (w.ch.inb u)) = k at hp
  have htake : (zeros k).take n = zeros k := List.take_of_length_le (by rw [zeros_length]; omega)
  have hne := zeros_ne k hp.1
  refine ⟨k, hp.1, by omega, by omega, ?_⟩
  simp only [recvNow, bw_recv, hkdef, htake, if_neg hne]

/-- a BIO read of side `u` under an unlimited budget: if nothing is there the peer runs (`w1` is the world when the
wait is over); then either bytes are delivered, or the peer's program has ended and the read reports 0 bytes -/
theorem bioRead_block (C : Cfg) (hC : 1 < C.stepsMax) (P : HsP) (u : Bool) (dc ds : Bytes) (hdc : dc ≠ [])
    (hds : ds ≠ []) (T : Int) (hT : T < 0) (s : St Hs PeerW) (h : Hs) (hc : CalmU T s)
    (hinv : SysInv P dc ds (mkSys u s.g h s.w)) (hok : ProgOk s.w) (n : Nat) (hn : 1 ≤ n) :
    ∃ w1, Rel P u dc ds s.g h s.w w1 ∧
      ((∃ k s1, bioRead (blockWorld C P u dc ds) s n = (.ok (zeros k), s1) ∧ 1 ≤ k ∧ k ≤ n ∧ k ≤ w1.ch.inb u ∧
          CalmU T s1 ∧ s1.e = s.e ∧ s1.w = { w1 with ch := w1.ch.takeIn u k } ∧ s1.g.pendingSend = s.g.pendingSend) ∨
       (w1.prog = [] ∧ w1.ch.inb u = 0 ∧
        ∃ s1, bioRead (blockWorld C P u dc ds) s n = (.ok [], s1) ∧ CalmU T s1 ∧ s1.e = s.e ∧ s1.w = w1 ∧
          s1.g.pendingSend = s.g.pendingSend)) := by
  obtain ⟨h1, h2, h3, h4, h5⟩ := hc
  have hud : underDeadline T 0 0 = T := by simp [underDeadline]; omega
  have hcalm : ∀ w', CalmU T { s with w := w', g := { s.g with remainingTime := underDeadline s.g.remainingTime 0 0 } } :=
    fun _ => ⟨by show underDeadline s.g.remainingTime 0 0 = T; rw [h1]; exact hud, h2, h3, h4, h5⟩
  -- the wait is over with bytes in flight (world `w1`): the read delivers some of them
  have deliver : ∀ w1, (blockWorld C P u dc ds).wait s.w .rd s.g.remainingTime = (true, w1) → 0 < w1.ch.inb u →
      ∃ k s1, bioRead (blockWorld C P u dc ds) s n = (.ok (zeros k), s1) ∧ 1 ≤ k ∧ k ≤ n ∧ k ≤ w1.ch.inb u ∧
        CalmU T s1 ∧ s1.e = s.e ∧ s1.w = { w1 with ch := w1.ch.takeIn u k } ∧ s1.g.pendingSend = s.g.pendingSend := by
    intro w1 hw hpos
    obtain ⟨k, k1, k2, k3, hr⟩ := recvNow_block C P u dc ds w1 n hn hpos
    refine ⟨k, _, ?_, k1, k2, k3, hcalm { w1 with ch := w1.ch.takeIn u k }, rfl, rfl, rfl⟩
    simp only [bioRead, h2, Bool.false_eq_true, if_false, receive, hw, hr, bw_now]
  by_cases hin : 0 < s.w.ch.inb u
  · exact ⟨s.w, ⟨hinv, hok, Nat.le_refl _, Nat.le_refl _, fun _ _ he => ⟨he, hin⟩⟩,
      Or.inl (deliver s.w (by rw [bw_wait_rd, if_pos hin]) hin)⟩
  · have hin0 : s.w.ch.inb u = 0 := by omega
    have hwait : (blockWorld C P u dc ds).wait s.w .rd s.g.remainingTime = runPeer C P u dc ds s.w.prog s.w := by
      rw [bw_wait_rd, if_neg hin, if_pos (by omega)]
    rcases hrp : runPeer C P u dc ds s.w.prog s.w with ⟨b, w1⟩
    rw [hrp] at hwait
    obtain ⟨j1, j2, j3, j4, j5, j6, j7⟩ := runPeer_spec C hC P u dc ds hdc hds s.g h s.w.prog s.w b w1 hrp hinv hok hin0
    have hrel : Rel P u dc ds s.g h s.w w1 := by
      refine ⟨j1, j2, j3, j4, ?_⟩
      intro hs hr he
      obtain ⟨a1, a2⟩ := j7 hs hr
      have hb := a2 he
      refine ⟨?_, j5 hb⟩
      unfold Enough at he ⊢
      omega
    refine ⟨w1, hrel, ?_⟩
    cases b with
    | true => exact Or.inl (deliver w1 hwait (j5 rfl))
    | false =>
      obtain ⟨e1, e2⟩ := j6 rfl
      refine Or.inr ⟨e1, e2, _, ?_, hcalm w1, rfl, rfl, rfl⟩
      simp only [bioRead, h2, Bool.false_eq_true, if_false, receive, hwait, bw_now]

/-- the side invariant of the blocking side between BIO calls -/
theorem sideU (P : HsP) (u : Bool) (d : Bytes) (T : Int) (s : St Hs PeerW) (hc : CalmU T s) (h : Hs) (hw : WF P h)
    (hcl : h.client = u) (hp : s.g.pendingSend = [] ∨ s.g.pendingSend = d) (ch : Chan) :
    SideInv P u d ⟨s.g, h, ch⟩ :=
  ⟨hc.2.1, hc.2.2.1, hc.2.2.2.1, hcl, hw, Or.inl hc.2.2.2.2, (by intro hl; rw [hc.2.2.2.2] at hl; cases hl), hp⟩

/-! ### one engine call of the blocking side -/

/-- how an engine call of the blocking side ends: it never gives up during the handshake (`3 ≤ stage` at the end);
after it, `WANT_READ` is answered only if the peer's program has ended while the side was blocked - and only by a read
(`mayStarve`: `True` for `ssl_read`, `False` for `ssl_write`, which never waits for application data) -/
def PostU (P : HsP) (u : Bool) (dc ds : Bytes) (T : Int) (D : Nat → Bytes → Prop) (s : St Hs PeerW)
    (res : Out (SslAns × Bytes) × St Hs PeerW) (mayStarve : Prop) : Prop :=
  ∃ ans out s', res = (.ok (ans, out), s') ∧ CalmU T s' ∧ s'.g.pendingSend = s.g.pendingSend ∧
    SysInv P dc ds (mkSys u s'.g s'.e s'.w) ∧ ProgOk s'.w ∧ 3 ≤ s'.e.stage ∧ s'.e.client = u ∧
    work P s'.w.e ≤ work P s.w.e ∧ s.w.e.stage ≤ s'.w.e.stage ∧
    (match ans with
     | .done k => D k out
     | .wantRead => mayStarve ∧ s'.w.prog = [] ∧ s'.w.ch.inb u = 0
     | _ => False)

theorem PostU.chain {P : HsP} {u : Bool} {dc ds : Bytes} {T : Int} {D : Nat → Bytes → Prop} {s s1 : St Hs PeerW}
    {res : Out (SslAns × Bytes) × St Hs PeerW} {ms : Prop} (hp : s1.g.pendingSend = s.g.pendingSend)
    (hwk : work P s1.w.e ≤ work P s.w.e) (hst : s.w.e.stage ≤ s1.w.e.stage) (hr : PostU P u dc ds T D s1 res ms) :
    PostU P u dc ds T D s res ms := by
  obtain ⟨ans, out, s', e1, c1, p1, i1, o1, f1, cl1, w1, t1, a1⟩ := hr
  exact ⟨ans, out, s', e1, c1, p1.trans hp, i1, o1, f1, cl1, Nat.le_trans w1 hwk, Nat.le_trans hst t1, a1⟩

theorem hsRunU_spec (C : Cfg) (hC : 1 < C.stepsMax) (P : HsP) (u : Bool) (dc ds : Bytes) (hdc : dc ≠ [])
    (hds : ds ≠ []) (T : Int) (hT : T < 0) (D : Nat → Bytes → Prop) (ms : Prop) (k : Hs → EngProg Hs)
    (hk : ∀ s1 h1, CalmU T s1 → 3 ≤ h1.stage →
      (s1.g.pendingSend = [] ∨ s1.g.pendingSend = ownPay u dc ds) →
      SysInv P dc ds (mkSys u s1.g h1 s1.w) → ProgOk s1.w →
      PostU P u dc ds T D s1 (interp (blockWorld C P u dc ds) s1 (k h1)) ms) :
    ∀ (f : Nat) (h : Hs) (s : St Hs PeerW), work P h < f → CalmU T s →
      (s.g.pendingSend = [] ∨ s.g.pendingSend = ownPay u dc ds) →
      SysInv P dc ds (mkSys u s.g h s.w) → ProgOk s.w → (h.stage < 3 → Enough P s.w) →
      PostU P u dc ds T D s (interp (blockWorld C P u dc ds) s (hsRun P f h k)) ms := by
  intro f
  induction f with
  | zero => intro h s hf; omega
  | succ f ih =>
    intro h s hf hc hpend hinv hok hen
    obtain ⟨hw, hcl⟩ := sysInv_own P u dc ds _ _ _ hinv
    unfold hsRun
    by_cases hfin : 3 ≤ h.stage
    · rw [if_pos hfin]
      exact hk s h hc hfin hpend hinv hok
    · rw [if_neg hfin]
      have hs3 : h.stage < 3 := by omega
      have hneed := hw.1 hs3
      have hen' := hen hs3
      obtain ⟨nwf, ncl, nst, nwork, nwr, nrd⟩ := next_facts P h hw hs3
      by_cases hwr : h.writes = true
      · -- a flight to write: the channel takes all of it
        rw [if_pos hwr]
        obtain ⟨s1, e1, c1, ee1, w1, p1⟩ := bioWrite_block C P u dc ds T hT s hc (zeros h.need)
        rw [zeros_length] at e1 w1
        simp only [interp, e1, Nat.le_refl, if_true]
        obtain ⟨hs1, hs2⟩ := nwr hwr
        have t : Tr P u h s.w.ch (h.next P) (s.w.ch.addOut u h.need) := Tr.wrote P u h s.w.ch hw hs3 hwr
        have hpend1 : s1.g.pendingSend = [] ∨ s1.g.pendingSend = ownPay u dc ds := by rw [p1]; exact hpend
        have hinv1 : SysInv P dc ds (mkSys u s1.g (h.next P) s1.w) := by
          rw [w1]
          exact sysInv_upd P u dc ds s.g s1.g h (h.next P) s.w _ hinv
            (sideU P u _ T s1 c1 (h.next P) nwf (ncl.trans hcl) hpend1 _) t
        have hwe : s1.w.e = s.w.e := by rw [w1]
        refine PostU.chain p1 (by rw [hwe]; exact Nat.le_refl _) (by rw [hwe]; exact Nat.le_refl _)
          (ih (h.next P) s1 (by omega) c1 hpend1 hinv1 (by rw [w1]; exact hok) ?_)
        intro _
        rw [w1]; exact hen'
      · -- a flight to read: if nothing is there, the peer runs until there is
        have hwr' : h.writes = false := by simpa using hwr
        rw [if_neg hwr]
        obtain ⟨hr1, hr2⟩ := nrd hwr'
        obtain ⟨w1, rel, hcase⟩ := bioRead_block C hC P u dc ds hdc hds T hT s h hc hinv hok h.need hneed.1
        obtain ⟨hen1, hpos1⟩ := rel.rel hs3 hwr' hen'
        rcases hcase with ⟨k0, s1, e1, k1, k2, k3, c1, ee1, ww1, p1⟩ | ⟨_, hz, _⟩
        · have hk00 : k0 ≠ 0 := by omega
          simp only [interp, e1, zeros_length, hk00, if_false]
          have hpend1 : s1.g.pendingSend = [] ∨ s1.g.pendingSend = ownPay u dc ds := by rw [p1]; exact hpend
          have hwe : s1.w.e = w1.e := by rw [ww1]
          by_cases hall : h.need ≤ k0
          · rw [if_pos hall]
            have hk0 : k0 = h.need := by omega
            have t : Tr P u h w1.ch (h.next P) (w1.ch.takeIn u k0) := by
              rw [hk0]; exact Tr.readAll P u h w1.ch hw hs3 hwr' (by omega)
            have hinv1 : SysInv P dc ds (mkSys u s1.g (h.next P) s1.w) := by
              rw [ww1]
              exact sysInv_upd P u dc ds s.g s1.g h (h.next P) w1 _ rel.inv
                (sideU P u _ T s1 c1 (h.next P) nwf (ncl.trans hcl) hpend1 _) t
            refine PostU.chain p1 (by rw [hwe]; exact rel.wk) (by rw [hwe]; exact rel.st)
              (ih (h.next P) s1 (by omega) c1 hpend1 hinv1 (by rw [ww1]; exact rel.ok) ?_)
            intro _
            rw [ww1]; exact hen1
          · rw [if_neg hall]
            obtain ⟨pwf, pwork, prc, psn⟩ := part_facts P h hw hs3 hwr' k0 k1 (by omega)
            have t : Tr P u h w1.ch { h with need := h.need - k0 } (w1.ch.takeIn u k0) :=
              Tr.readPart P u h w1.ch hw hs3 hwr' k0 k1 (by omega) k3
            have hinv1 : SysInv P dc ds (mkSys u s1.g { h with need := h.need - k0 } s1.w) := by
              rw [ww1]
              exact sysInv_upd P u dc ds s.g s1.g h _ w1 _ rel.inv
                (sideU P u _ T s1 c1 _ pwf hcl hpend1 _) t
            refine PostU.chain p1 (by rw [hwe]; exact rel.wk) (by rw [hwe]; exact rel.st)
              (ih { h with need := h.need - k0 } s1 (by omega) c1 hpend1 hinv1 (by rw [ww1]; exact rel.ok) ?_)
            intro _
            rw [ww1]; exact hen1
        · omega  -- the peer's program ended with nothing in flight: excluded by `hpos1` (`Enough`)

theorem sslWriteU_spec (C : Cfg) (hC : 1 < C.stepsMax) (P : HsP) (u : Bool) (dc ds : Bytes) (hdc : dc ≠ [])
    (hds : ds ≠ []) (T : Int) (hT : T < 0) (s : St Hs PeerW) (d : Bytes) (hd : d ≠ []) (hc : CalmU T s)
    (hpend : s.g.pendingSend = [] ∨ s.g.pendingSend = ownPay u dc ds)
    (hinv : SysInv P dc ds (mkSys u s.g s.e s.w)) (hok : ProgOk s.w) (hen : s.e.stage < 3 → Enough P s.w) :
    PostU P u dc ds T (fun k _ => k = d.length) s
      (interp (blockWorld C P u dc ds) s ((engine P).sslWrite s.e d)) False := by
  apply hsRunU_spec C hC P u dc ds hdc hds T hT _ False (appWrite d) _ (fuel P) s.e s
    (work_lt_fuel P s.e (sysInv_own P u dc ds _ _ _ hinv).1) hc hpend
    hinv hok hen
  intro s1 h1 c1 hfin hpend1 hinv1 hok1
  obtain ⟨hw1, hcl1⟩ := sysInv_own P u dc ds _ _ _ hinv1
  obtain ⟨s2, e2, c2, _, w2, p2⟩ := bioWrite_block C P u dc ds T hT s1 c1 d
  have hl : d.length ≠ 0 := by simpa using hd
  simp only [appWrite, interp, e2, hl, if_false]
  have hpend2 : s2.g.pendingSend = [] ∨ s2.g.pendingSend = ownPay u dc ds := by rw [p2]; exact hpend1
  have t : Tr P u h1 s1.w.ch h1 (s1.w.ch.addOut u d.length) := Tr.appOut P u h1 s1.w.ch hw1 hfin _
  refine ⟨.done d.length, [], { s2 with e := h1 }, rfl, c2, p2, ?_, ?_, hfin, hcl1, ?_, ?_, rfl⟩
  · show SysInv P dc ds (mkSys u s2.g h1 s2.w)
    rw [w2]
    exact sysInv_upd P u dc ds s1.g s2.g h1 h1 s1.w _ hinv1 (sideU P u _ T s2 c2 h1 hw1 hcl1 hpend2 _) t
  · show ProgOk s2.w; rw [w2]; exact hok1
  · show work P s2.w.e ≤ _; rw [w2]; exact Nat.le_refl _
  · show _ ≤ s2.w.e.stage; rw [w2]; exact Nat.le_refl _

theorem sslReadU_spec (C : Cfg) (hC : 1 < C.stepsMax) (P : HsP) (u : Bool) (dc ds : Bytes) (hdc : dc ≠ [])
    (hds : ds ≠ []) (T : Int) (hT : T < 0) (s : St Hs PeerW) (n : Nat) (hn : 1 ≤ n) (hc : CalmU T s)
    (hpend : s.g.pendingSend = [] ∨ s.g.pendingSend = ownPay u dc ds)
    (hinv : SysInv P dc ds (mkSys u s.g s.e s.w)) (hok : ProgOk s.w) (hen : s.e.stage < 3 → Enough P s.w) :
    PostU P u dc ds T (fun k out => 1 ≤ k ∧ out ≠ []) s
      (interp (blockWorld C P u dc ds) s ((engine P).sslRead s.e n)) True := by
  apply hsRunU_spec C hC P u dc ds hdc hds T hT _ True (appRead n) _ (fuel P) s.e s
    (work_lt_fuel P s.e (sysInv_own P u dc ds _ _ _ hinv).1) hc hpend
    hinv hok hen
  intro s1 h1 c1 hfin hpend1 hinv1 hok1
  obtain ⟨hw1, hcl1⟩ := sysInv_own P u dc ds _ _ _ hinv1
  obtain ⟨w1, rel, hcase⟩ := bioRead_block C hC P u dc ds hdc hds T hT s1 h1 c1 hinv1 hok1 n hn
  rcases hcase with ⟨k0, s2, e2, k1, k2, k3, c2, ee2, ww2, p2⟩ | ⟨hp0, hz, s2, e2, c2, ee2, ww2, p2⟩
  · have hk00 : k0 ≠ 0 := by omega
    simp only [appRead, interp, e2, zeros_length, hk00, if_false]
    have hne := zeros_ne k0 k1
    have hpend2 : s2.g.pendingSend = [] ∨ s2.g.pendingSend = ownPay u dc ds := by rw [p2]; exact hpend1
    have t : Tr P u h1 w1.ch h1 (w1.ch.takeIn u k0) := Tr.appIn P u h1 w1.ch hw1 hfin _
    refine ⟨.done k0, zeros k0, { s2 with e := h1 }, rfl, c2, p2, ?_, ?_, hfin, hcl1, ?_, ?_, ⟨k1, hne⟩⟩
    · show SysInv P dc ds (mkSys u s2.g h1 s2.w)
      rw [ww2]
      exact sysInv_upd P u dc ds s1.g s2.g h1 h1 w1 _ rel.inv (sideU P u _ T s2 c2 h1 hw1 hcl1 hpend2 _) t
    · show ProgOk s2.w; rw [ww2]; exact rel.ok
    · show work P s2.w.e ≤ _; rw [ww2]; exact rel.wk
    · show _ ≤ s2.w.e.stage; rw [ww2]; exact rel.st
  · simp only [appRead, interp, e2, List.length_nil, if_true]
    have hpend2 : s2.g.pendingSend = [] ∨ s2.g.pendingSend = ownPay u dc ds := by rw [p2]; exact hpend1
    refine ⟨.wantRead, [], { s2 with e := h1 }, rfl, c2, p2, ?_, ?_, hfin, hcl1, ?_, ?_, ?_⟩
    · show SysInv P dc ds (mkSys u s2.g h1 s2.w)
      rw [ww2]
      exact sysInv_upd P u dc ds s1.g s2.g h1 h1 w1 w1.ch rel.inv (sideU P u _ T s2 c2 h1 hw1 hcl1 hpend2 _)
        (Tr.refl P u h1 w1.ch hw1)
    · show ProgOk s2.w; rw [ww2]; exact rel.ok
    · show work P s2.w.e ≤ _; rw [ww2]; exact rel.wk
    · show _ ≤ s2.w.e.stage; rw [ww2]; exact rel.st
    · show True ∧ s2.w.prog = [] ∧ s2.w.ch.inb u = 0
      rw [ww2]; exact ⟨trivial, hp0, hz⟩

/-! ### one API call of the blocking side (timeout `T < 0`) -/

/-- the blocking side between calls (no error cached: its calls return only with a result) -/
def ReadyU (d : Bytes) (s : St Hs PeerW) : Prop :=
  s.g.isReadable = false ∧ s.g.isWritable = false ∧ s.g.pendingError = none ∧ s.g.lastError = .none ∧
  (s.g.pendingSend = [] ∨ s.g.pendingSend = d)

/-- what a call of the blocking side has achieved -/
structure DoneU (P : HsP) (u : Bool) (dc ds : Bytes) (s s' : St Hs PeerW) : Prop where
  inv : SysInv P dc ds (mkSys u s'.g s'.e s'.w)
  ok : ProgOk s'.w
  fin : 3 ≤ s'.e.stage
  wk : work P s'.w.e ≤ work P s.w.e
  st : s.w.e.stage ≤ s'.w.e.stage

theorem gateU (C : Cfg) (P : HsP) (u : Bool) (dc ds : Bytes) (T : Int) (s : St Hs PeerW)
    (hr : ReadyU (ownPay u dc ds) s) :
    handleLastError (blockWorld C P u dc ds) (setTimeout s T) = (.ok true, setLastError (setTimeout s T) .none) ∧
    CalmU T (setLastError (setTimeout s T) .none) := by
  obtain ⟨h1, h2, h3, h4, h5⟩ := hr
  refine ⟨?_, rfl, h1, h2, h3, rfl⟩
  simp [handleLastError, setTimeout, h4, handleError]

/-- **`Send(data, T)`, `T < 0`, of the blocking side**: it returns only when the whole buffer has been taken - in
particular only after the handshake of this side is complete -, provided the peer's program is long enough for the
work the peer's engine has left (`Enough`; needed only while this side's handshake is unfinished). -/
theorem sendU_spec (C : Cfg) (hC : 1 < C.stepsMax) (P : HsP) (u : Bool) (dc ds : Bytes) (hdc : dc ≠ [])
    (hds : ds ≠ []) (T : Int) (hT : T < 0) (s : St Hs PeerW) (hr : ReadyU (ownPay u dc ds) s)
    (hinv : SysInv P dc ds (mkSys u s.g s.e s.w)) (hok : ProgOk s.w) (hen : s.e.stage < 3 → Enough P s.w) :
    ∃ s', sendT C (blockWorld C P u dc ds) (engine P) s (ownPay u dc ds) T = (.ok (ownPay u dc ds).length, s') ∧
      ReadyU (ownPay u dc ds) s' ∧ DoneU P u dc ds s s' := by
  have hd : ownPay u dc ds ≠ [] := by cases u <;> simpa [ownPay]
  obtain ⟨hgate, c1⟩ := gateU C P u dc ds T s hr
  obtain ⟨hwf, hcl⟩ := sysInv_own P u dc ds _ _ _ hinv
  simp only [sendT, tlsWrite, hgate]
  generalize hs1 : setLastError (setTimeout s T) .none = s1 at c1
  have e1 : s1.e = s.e := by rw [← hs1]; rfl
  have w1 : s1.w = s.w := by rw [← hs1]; rfl
  have p1 : s1.g.pendingSend = s.g.pendingSend := by rw [← hs1]; rfl
  have hpend1 : s1.g.pendingSend = [] ∨ s1.g.pendingSend = ownPay u dc ds := by rw [p1]; exact hr.2.2.2.2
  have hinv1 : SysInv P dc ds (mkSys u s1.g s1.e s1.w) := by
    rw [e1, w1]
    have := sysInv_upd P u dc ds s.g s1.g s.e s.e s.w s.w.ch hinv (sideU P u _ T s1 c1 s.e hwf hcl hpend1 _)
      (Tr.refl P u s.e s.w.ch hwf)
    exact this
  let GoodU : St Hs PeerW → Prop := fun s' => CalmU T s' ∧ s'.g.pendingSend = [] ∧ DoneU P u dc ds s s'
  -- the first round takes the whole buffer: the engine call never gives up
  have hround : ∀ i', 1 ≤ i' → ∃ j s2, writeRound C (blockWorld C P u dc ds) (engine P) i' (ownPay u dc ds) s1 =
      (.again j [], s2) ∧ GoodU s2 := by
    intro i' hi'
    unfold writeRound
    rw [if_neg (by intro h; exact h.2 (hpend1.imp id (congrArg List.length)))]
    obtain ⟨ans, out, s2, e2, c2, p2, i2, o2, f2, cl2, wk2, st2, a2⟩ :=
      sslWriteU_spec C hC P u dc ds hdc hds T hT s1 _ hd c1 hpend1
        hinv1 (by rw [w1]; exact hok) (by rw [e1, w1]; exact hen)
    rw [e2]
    cases ans with
    | done k =>
      simp only at a2
      have hdrop : (ownPay u dc ds).drop k = [] := by rw [a2]; simp
      have hgood : GoodU (setPending (noteCall (engine P) s2 false (ownPay u dc ds) (.done k)) []) :=
        ⟨c2, rfl, ⟨sysInv_upd P u dc ds s2.g _ s2.e s2.e s2.w s2.w.ch i2
            (sideU P u _ T (setPending (noteCall (engine P) s2 false (ownPay u dc ds) (.done k)) []) c2 s2.e
              (sysInv_own P u dc ds _ _ _ i2).1 cl2 (Or.inl rfl) _)
            (Tr.refl P u s2.e s2.w.ch (sysInv_own P u dc ds _ _ _ i2).1),
          o2, f2, by rw [← w1]; exact wk2, by rw [← w1]; exact st2⟩⟩
      simp only
      by_cases hb : 0 < k ∧ C.fixRoundReset = true
      · rw [if_pos hb, hdrop]; exact ⟨_, _, rfl, hgood⟩
      · rw [if_neg hb, if_neg (by intro h; omega), hdrop]; exact ⟨_, _, rfl, hgood⟩
    | wantRead => exact absurd a2.1 id
    | wantWrite => exact absurd a2 id
    | zeroReturn => exact absurd a2 id
    | syscallErr => exact absurd a2 id
    | sslErr => exact absurd a2 id
  have hloop := writeLoop_rule C (blockWorld C P u dc ds) (engine P)
    (fun i rest s' => (rest = ownPay u dc ds ∧ s' = s1 ∧ 1 < i) ∨ (rest = [] ∧ GoodU s'))
    (fun o s' => o = .ok [] ∧ GoodU s')
    (by intro i rest s' h hex
        rcases h with ⟨h1, _, h3⟩ | ⟨h1, h2⟩
        · rcases hex with h0 | h0
          · omega
          · exact absurd (h1 ▸ h0) hd
        · exact ⟨by rw [h1], h2⟩)
    (by intro i' rest s' o s'' h hne heq
        rcases h with ⟨h1, h2, h3⟩ | ⟨h1, _⟩
        · subst h1; subst h2
          obtain ⟨j, s2, hr, _⟩ := hround i' (by omega)
          rw [hr] at heq; simp at heq
        · exact absurd h1 hne)
    (by intro i' rest s' j rest' s'' h hne heq
        rcases h with ⟨h1, h2, h3⟩ | ⟨h1, _⟩
        · subst h1; subst h2
          obtain ⟨j2, s2, hr, hg⟩ := hround i' (by omega)
          rw [hr] at heq
          simp only [Prod.mk.injEq, Next.again.injEq] at heq
          obtain ⟨⟨_, rfl⟩, rfl⟩ := heq
          exact Or.inr ⟨rfl, hg⟩
        · exact absurd h1 hne)
    C.stepsMax (ownPay u dc ds) s1 (Or.inl ⟨rfl, rfl, hC⟩)
  rcases hw : writeLoop C (blockWorld C P u dc ds) (engine P) C.stepsMax (ownPay u dc ds) s1 with ⟨o, s''⟩
  rw [hw] at hloop
  obtain ⟨ho, hc'', hp'', hdone⟩ := hloop
  simp only at ho
  subst ho
  simp only [List.length_nil, Nat.sub_zero]
  have hnw : s''.g.lastError ≠ .wantWrite := by rw [hc''.2.2.2.2]; simp
  rw [if_neg (by intro h; exact hnw h.2.1)]
  exact ⟨s'', rfl, ⟨hc''.2.1, hc''.2.2.1, hc''.2.2.2.1, hc''.2.2.2.2, Or.inl hp''⟩, hdone⟩

/-- the peer's program has ended while the side waits for application data: the unlimited wait reports "not ready" -/
theorem handleResult_starved (C : Cfg) (P : HsP) (u : Bool) (dc ds : Bytes) (T : Int) (hT : T < 0) (s : St Hs PeerW)
    (hc : CalmU T s) (hp : s.w.prog = []) (hz : s.w.ch.inb u = 0) :
    ∃ s', handleResult (blockWorld C P u dc ds) s .wantRead = (.ok false, s') ∧ s'.e = s.e ∧ s'.w = s.w ∧
      s'.g.lastError = .wantRead ∧ s'.g.isReadable = false ∧ s'.g.isWritable = false ∧ s'.g.pendingError = none ∧
      s'.g.pendingSend = s.g.pendingSend := by
  obtain ⟨h1, h2, h3, h4, h5⟩ := hc
  have hno : ¬ (0 < s.w.ch.inb u) := by omega
  have hw : (blockWorld C P u dc ds).wait s.w .rd T = (false, s.w) := by
    rw [bw_wait_rd, if_neg hno, if_pos hT, hp]
    show (false, { s.w with prog := [] }) = (false, s.w)
    rw [← hp]
  refine ⟨{ s with g := { s.g with lastError := .wantRead, remainingTime := underDeadline T 0 0 } }, ?_, rfl, rfl, rfl,
    h2, h3, h4, rfl⟩
  simp only [handleResult, h4, handleLastError, SslAns.toErr, setLastError, handleError, waitUnder, h1, hw, bw_now]

/-- **`Receive(n, T)`, `T < 0`, of the blocking side**: whatever happens, this side's handshake is complete when the
call is over; the call returns at least one byte - unless the peer's program ended while the call was waiting for
application data (`prog = []`: the observation ends with the call still blocked). -/
theorem recvU_spec (C : Cfg) (hC : 1 < C.stepsMax) (P : HsP) (u : Bool) (dc ds : Bytes) (hdc : dc ≠ [])
    (hds : ds ≠ []) (T : Int) (hT : T < 0) (n : Nat) (hn : 1 ≤ n) (s : St Hs PeerW)
    (hr : ReadyU (ownPay u dc ds) s)
    (hinv : SysInv P dc ds (mkSys u s.g s.e s.w)) (hok : ProgOk s.w) (hen : s.e.stage < 3 → Enough P s.w) :
    DoneU P u dc ds s (receiveT C (blockWorld C P u dc ds) (engine P) s n T).2 ∧
    ((receiveT C (blockWorld C P u dc ds) (engine P) s n T).2.w.prog = [] ∨
     (∃ out, (receiveT C (blockWorld C P u dc ds) (engine P) s n T).1 = .ok out ∧ out ≠ [] ∧
        ReadyU (ownPay u dc ds) (receiveT C (blockWorld C P u dc ds) (engine P) s n T).2)) := by
  obtain ⟨i, hi1⟩ : ∃ i, C.stepsMax = i + 1 := ⟨C.stepsMax - 1, by omega⟩
  obtain ⟨hgate, c1⟩ := gateU C P u dc ds T s hr
  obtain ⟨hwf, hcl⟩ := sysInv_own P u dc ds _ _ _ hinv
  simp only [receiveT, tlsRead, hgate, hi1, readLoop, readRound]
  generalize hs1 : setLastError (setTimeout s T) .none = s1 at c1
  have e1 : s1.e = s.e := by rw [← hs1]; rfl
  have w1 : s1.w = s.w := by rw [← hs1]; rfl
  have p1 : s1.g.pendingSend = s.g.pendingSend := by rw [← hs1]; rfl
  have hpend1 : s1.g.pendingSend = [] ∨ s1.g.pendingSend = ownPay u dc ds := by rw [p1]; exact hr.2.2.2.2
  have hinv1 : SysInv P dc ds (mkSys u s1.g s1.e s1.w) := by
    rw [e1, w1]
    exact sysInv_upd P u dc ds s.g s1.g s.e s.e s.w s.w.ch hinv (sideU P u _ T s1 c1 s.e hwf hcl hpend1 _)
      (Tr.refl P u s.e s.w.ch hwf)
  obtain ⟨ans, out, s2, e2, c2, p2, i2, o2, f2, cl2, wk2, st2, a2⟩ :=
    sslReadU_spec C hC P u dc ds hdc hds T hT s1 n hn c1 hpend1
      hinv1 (by rw [w1]; exact hok) (by rw [e1, w1]; exact hen)
  rw [e2]
  have hwf2 := (sysInv_own P u dc ds _ _ _ i2).1
  have hpend2 : s2.g.pendingSend = [] ∨ s2.g.pendingSend = ownPay u dc ds := by rw [p2]; exact hpend1
  cases ans with
  | done k =>
    obtain ⟨_, hne⟩ := a2
    cases out with
    | nil => exact absurd rfl hne
    | cons b bs =>
      simp only
      refine ⟨⟨?_, o2, f2, by rw [← w1]; exact wk2, by rw [← w1]; exact st2⟩, Or.inr ⟨b :: bs, rfl, by simp, ?_⟩⟩
      · exact sysInv_upd P u dc ds s2.g _ s2.e s2.e s2.w s2.w.ch i2
          (sideU P u _ T (noteCall (engine P) s2 true [] (.done k)) c2 s2.e hwf2 cl2 hpend2 _)
          (Tr.refl P u s2.e s2.w.ch hwf2)
      · exact ⟨c2.2.1, c2.2.2.1, c2.2.2.2.1, c2.2.2.2.2, hpend2⟩
  | wantRead =>
    obtain ⟨_, hp0, hz⟩ := a2
    obtain ⟨s3, e3, ee3, w3, l3, r3, wr3, pe3, p3⟩ :=
      handleResult_starved C P u dc ds T hT (noteCall (engine P) s2 true [] .wantRead) c2 hp0 hz
    simp only [e3]
    have hee3 : s3.e = s2.e := ee3
    have hw3 : s3.w = s2.w := w3
    have hp3 : s3.g.pendingSend = [] ∨ s3.g.pendingSend = ownPay u dc ds := by rw [p3]; exact hpend2
    -- whatever `Receive` leaves in `lastError` on its way out: the engine is finished, so the side invariant does not care
    have hdone : ∀ g : Glue, g.isReadable = false → g.isWritable = false → g.pendingError = none →
        (g.lastError = .none ∨ g.lastError = .wantRead) → (g.pendingSend = [] ∨ g.pendingSend = ownPay u dc ds) →
        DoneU P u dc ds s ⟨g, s3.e, s3.w⟩ := by
      intro g g1 g2 g3 g4 g5
      rw [hee3, hw3]
      exact ⟨sysInv_upd P u dc ds s2.g g s2.e s2.e s2.w s2.w.ch i2
          ⟨g1, g2, g3, cl2, hwf2, g4, (by intro _ hlt; exact absurd (show s2.e.stage < 3 from hlt) (by omega)), g5⟩
          (Tr.refl P u s2.e s2.w.ch hwf2), o2, f2, by rw [← w1]; exact wk2, by rw [← w1]; exact st2⟩
    have hprog : s3.w.prog = [] := by rw [hw3]; exact hp0
    split
    · exact ⟨hdone s3.g r3 wr3 pe3 (Or.inr l3) hp3, Or.inl hprog⟩
    · split
      · exact ⟨hdone _ r3 wr3 pe3 (Or.inl rfl) hp3, Or.inl hprog⟩
      · exact ⟨hdone s3.g r3 wr3 pe3 (Or.inr l3) hp3, Or.inl hprog⟩
  | wantWrite => exact absurd a2 id
  | zeroReturn => exact absurd a2 id
  | syscallErr => exact absurd a2 id
  | sslErr => exact absurd a2 id

/-! ### the composition: one side blocks, the other polls -/

structure SysU where
  /-- the blocking side -/
  g : Glue := {}
  e : Hs
  /-- channels and the polling peer -/
  w : PeerW
  /-- calls of the blocking side that threw or hit an assert -/
  faults : Nat := 0

/-- a step of the composition: the blocking side calls `Send(own payload, T)` / `Receive(n, T)`, `T < 0`; or - while
the blocking side is between calls - the polling peer makes the next call of its program -/
inductive ActU where
  | block (k : Kind)
  | poll
  deriving DecidableEq, Repr

def callOnU (C : Cfg) (P : HsP) (u : Bool) (dc ds : Bytes) (T : Int) (s : St Hs PeerW) : Kind → Bool × St Hs PeerW
  | .send => let r := sendT C (blockWorld C P u dc ds) (engine P) s (ownPay u dc ds) T; (isOk r.1, r.2)
  | .recv n => let r := receiveT C (blockWorld C P u dc ds) (engine P) s n T; (isOk r.1, r.2)

/-- the observation ends with the peer's program: once it is exhausted nothing more happens -/
def SysU.step (C : Cfg) (P : HsP) (u : Bool) (dc ds : Bytes) (T : Int) (y : SysU) (a : ActU) : SysU :=
  match y.w.prog with
  | [] => y
  | k :: rest =>
    match a with
    | .block kb =>
      let r := callOnU C P u dc ds T ⟨y.g, y.e, y.w⟩ kb
      { g := r.2.g, e := r.2.e, w := r.2.w, faults := y.faults + (if r.1 then 0 else 1) }
    | .poll => { y with w := { y.w.poll C P u dc ds k with prog := rest } }

def SysU.run (C : Cfg) (P : HsP) (u : Bool) (dc ds : Bytes) (T : Int) (l : List ActU) (y : SysU) : SysU :=
  l.foldl (SysU.step C P u dc ds T) y

def SysU.init (P : HsP) (u : Bool) (segs : List Nat) (prog : List Kind) : SysU :=
  { e := Hs.init P u, w := { ch := { segs := segs }, e := Hs.init P (!u), prog := prog } }

def ActU.okU : ActU → Prop
  | .block k => k.ok
  | .poll => True

def polls : List ActU → Nat
  | [] => 0
  | .poll :: l => polls l + 1
  | .block _ :: l => polls l

/-- half of `HsP.total`: the work of one engine -/
def HsP.half (P : HsP) : Nat := P.k1 + P.k2 + P.k3 + 3

theorem runU_nil (C : Cfg) (P : HsP) (u : Bool) (dc ds : Bytes) (T : Int) (y : SysU) :
    SysU.run C P u dc ds T [] y = y := rfl
theorem runU_cons (C : Cfg) (P : HsP) (u : Bool) (dc ds : Bytes) (T : Int) (a : ActU) (l : List ActU) (y : SysU) :
    SysU.run C P u dc ds T (a :: l) y = SysU.run C P u dc ds T l (y.step C P u dc ds T a) := rfl
theorem runU_append (C : Cfg) (P : HsP) (u : Bool) (dc ds : Bytes) (T : Int) (l1 l2 : List ActU) (y : SysU) :
    SysU.run C P u dc ds T (l1 ++ l2) y = SysU.run C P u dc ds T l2 (SysU.run C P u dc ds T l1 y) := by
  simp [SysU.run, List.foldl_append]

theorem sysInv_initU (P : HsP) (u : Bool) (dc ds : Bytes) (segs : List Nat) (prog : List Kind) :
    SysInv P dc ds (mkSys u (SysU.init P u segs prog).g (SysU.init P u segs prog).e (SysU.init P u segs prog).w) := by
  have := sysInv_init P dc ds segs
  cases u <;> exact this

/-- the state of the composition between steps: the invariant of `Sys`; and unless the peer's program is exhausted,
the blocking side is between calls with no error cached and none of its calls has failed -/
structure UInv (P : HsP) (u : Bool) (dc ds : Bytes) (y : SysU) : Prop where
  inv : SysInv P dc ds (mkSys u y.g y.e y.w)
  ok : ProgOk y.w
  live : y.w.prog = [] ∨ (ReadyU (ownPay u dc ds) ⟨y.g, y.e, y.w⟩ ∧ y.faults = 0)

theorem exhausted_stays (C : Cfg) (P : HsP) (u : Bool) (dc ds : Bytes) (T : Int) (l : List ActU) (y : SysU)
    (h : y.w.prog = []) : SysU.run C P u dc ds T l y = y := by
  induction l with
  | nil => rfl
  | cons a l ih =>
    rw [runU_cons]
    have : y.step C P u dc ds T a = y := by simp [SysU.step, h]
    rw [this, ih]

/-- one step: the invariant is kept; the peer's work does not grow and, once the blocking side is finished, falls with
every poll; a call of the blocking side leaves that side finished if the peer's program was long enough -/
theorem stepU_spec (C : Cfg) (hC : 1 < C.stepsMax) (P : HsP) (u : Bool) (dc ds : Bytes) (hdc : dc ≠ [])
    (hds : ds ≠ []) (T : Int) (hT : T < 0) (y : SysU) (hy : UInv P u dc ds y) (a : ActU) (ha : a.okU)
    (hen : (∃ kb, a = .block kb) → y.e.stage < 3 → Enough P y.w) :
    UInv P u dc ds (y.step C P u dc ds T a) ∧
    work P (y.step C P u dc ds T a).w.e ≤ work P y.w.e ∧
    y.w.e.stage ≤ (y.step C P u dc ds T a).w.e.stage ∧ (3 ≤ y.e.stage → 3 ≤ (y.step C P u dc ds T a).e.stage) ∧
    (y.w.prog ≠ [] → (∃ kb, a = .block kb) → 3 ≤ (y.step C P u dc ds T a).e.stage) ∧
    (y.w.prog ≠ [] → a = .poll → 3 ≤ y.e.stage → y.w.e.stage < 3 →
      work P (y.step C P u dc ds T a).w.e < work P y.w.e) ∧
    (a = .poll → (y.step C P u dc ds T a).e = y.e ∧ (y.step C P u dc ds T a).w.prog = y.w.prog.tail) := by
  rcases hprog : y.w.prog with _ | ⟨k, rest⟩
  · have : y.step C P u dc ds T a = y := by simp [SysU.step, hprog]
    rw [this]
    exact ⟨hy, Nat.le_refl _, Nat.le_refl _, fun h => h, fun h => absurd rfl h, fun h => absurd rfl h,
      fun _ => ⟨rfl, by rw [hprog]; rfl⟩⟩
  · have hlive : ReadyU (ownPay u dc ds) ⟨y.g, y.e, y.w⟩ ∧ y.faults = 0 := by
      rcases hy.live with h | h
      · rw [hprog] at h; cases h
      · exact h
    cases a with
    | poll =>
      have hstep : y.step C P u dc ds T .poll = { y with w := { y.w.poll C P u dc ds k with prog := rest } } := by
        simp [SysU.step, hprog]
      rw [hstep]
      have hk : k.ok := hy.ok k (by rw [hprog]; exact List.mem_cons_self ..)
      obtain ⟨i1, w1, p1, s1, c1⟩ := poll_spec C hC P u dc ds hdc hds y.g y.e y.w hy.inv k hk
      refine ⟨⟨by dsimp only; rw [mkSys_prog]; exact i1, ?_, Or.inr ⟨?_, hlive.2⟩⟩, w1, s1, fun h => h,
        (by intro _ h; obtain ⟨kb, hkb⟩ := h; cases hkb), ?_, fun _ => ⟨rfl, rfl⟩⟩
      · intro k' hk'
        exact hy.ok k' (by rw [hprog]; exact List.mem_cons_of_mem _ hk')
      · exact hlive.1
      · intro _ _ hfin hpeer
        exact p1 (peer_can P u dc ds _ _ _ hy.inv (Or.inr hpeer) fun hc => by have := hc.1; omega)
    | block kb =>
      have hstep : y.step C P u dc ds T (.block kb) =
          { g := (callOnU C P u dc ds T ⟨y.g, y.e, y.w⟩ kb).2.g, e := (callOnU C P u dc ds T ⟨y.g, y.e, y.w⟩ kb).2.e,
            w := (callOnU C P u dc ds T ⟨y.g, y.e, y.w⟩ kb).2.w,
            faults := y.faults + (if (callOnU C P u dc ds T ⟨y.g, y.e, y.w⟩ kb).1 then 0 else 1) } := by
        simp [SysU.step, hprog]
      rw [hstep]
      have key : DoneU P u dc ds ⟨y.g, y.e, y.w⟩ (callOnU C P u dc ds T ⟨y.g, y.e, y.w⟩ kb).2 ∧
          ((callOnU C P u dc ds T ⟨y.g, y.e, y.w⟩ kb).2.w.prog = [] ∨
            ((callOnU C P u dc ds T ⟨y.g, y.e, y.w⟩ kb).1 = true ∧
              ReadyU (ownPay u dc ds) (callOnU C P u dc ds T ⟨y.g, y.e, y.w⟩ kb).2)) := by
        cases kb with
        | send =>
          obtain ⟨s', e1, r1, d1⟩ := sendU_spec C hC P u dc ds hdc hds T hT ⟨y.g, y.e, y.w⟩ hlive.1 hy.inv hy.ok (hen ⟨_, rfl⟩)
          simp only [callOnU, e1]
          exact ⟨d1, Or.inr ⟨rfl, r1⟩⟩
        | recv n =>
          obtain ⟨d1, r1⟩ := recvU_spec C hC P u dc ds hdc hds T hT n ha ⟨y.g, y.e, y.w⟩ hlive.1 hy.inv hy.ok (hen ⟨_, rfl⟩)
          simp only [callOnU]
          refine ⟨d1, ?_⟩
          rcases r1 with r1 | ⟨out, o1, _, o3⟩
          · exact Or.inl r1
          · exact Or.inr ⟨by rw [o1]; rfl, o3⟩
      obtain ⟨d1, r1⟩ := key
      refine ⟨⟨d1.inv, d1.ok, ?_⟩, d1.wk, d1.st, fun _ => d1.fin, fun _ _ => d1.fin,
        (by intro _ h; cases h), (by intro h; cases h)⟩
      rcases r1 with r1 | ⟨r1, r2⟩
      · exact Or.inl r1
      · exact Or.inr ⟨r2, by dsimp only; rw [r1, hlive.2]; rfl⟩

/-- the peer polls while the blocking side has not called yet -/
theorem run_polls (C : Cfg) (hC : 1 < C.stepsMax) (P : HsP) (u : Bool) (dc ds : Bytes) (hdc : dc ≠ [])
    (hds : ds ≠ []) (T : Int) (hT : T < 0) : ∀ (pre : List ActU) (y : SysU), UInv P u dc ds y →
      (∀ a ∈ pre, a = .poll) →
      UInv P u dc ds (SysU.run C P u dc ds T pre y) ∧ (SysU.run C P u dc ds T pre y).e = y.e ∧
      (SysU.run C P u dc ds T pre y).w.prog = y.w.prog.drop pre.length ∧
      work P (SysU.run C P u dc ds T pre y).w.e ≤ work P y.w.e := by
  intro pre
  induction pre with
  | nil => intro y hy _; exact ⟨hy, rfl, by simp [runU_nil], Nat.le_refl _⟩
  | cons a pre ih =>
    intro y hy hp
    have ha : a = .poll := hp a (List.mem_cons_self ..)
    subst ha
    obtain ⟨i1, w1, _, _, _, _, e1⟩ := stepU_spec C hC P u dc ds hdc hds T hT y hy .poll trivial
      (by intro h; obtain ⟨kb, hkb⟩ := h; cases hkb)
    obtain ⟨ee, ep⟩ := e1 rfl
    obtain ⟨j1, j2, j3, j4⟩ := ih _ i1 (fun b hb => hp b (List.mem_cons_of_mem _ hb))
    rw [runU_cons]
    refine ⟨j1, j2.trans ee, ?_, Nat.le_trans j4 w1⟩
    rw [j3, ep, List.length_cons, List.drop_tail]

/-- once the blocking side is finished: it stays finished, and every poll brings the peer nearer to the end of its
handshake -/
theorem run_after (C : Cfg) (hC : 1 < C.stepsMax) (P : HsP) (u : Bool) (dc ds : Bytes) (hdc : dc ≠ [])
    (hds : ds ≠ []) (T : Int) (hT : T < 0) : ∀ (post : List ActU) (y : SysU), UInv P u dc ds y →
      (∀ a ∈ post, a.okU) → 3 ≤ y.e.stage →
      UInv P u dc ds (SysU.run C P u dc ds T post y) ∧ 3 ≤ (SysU.run C P u dc ds T post y).e.stage ∧
      y.w.e.stage ≤ (SysU.run C P u dc ds T post y).w.e.stage ∧
      ((SysU.run C P u dc ds T post y).w.prog = [] ∨ 3 ≤ (SysU.run C P u dc ds T post y).w.e.stage ∨
        work P (SysU.run C P u dc ds T post y).w.e + polls post ≤ work P y.w.e) := by
  intro post
  induction post with
  | nil => intro y hy _ hf; exact ⟨hy, hf, Nat.le_refl _, Or.inr (Or.inr (by simp [runU_nil, polls]))⟩
  | cons a post ih =>
    intro y hy hok hf
    by_cases hprog : y.w.prog = []
    · rw [exhausted_stays C P u dc ds T _ y hprog]
      exact ⟨hy, hf, Nat.le_refl _, Or.inl hprog⟩
    · obtain ⟨i1, w1, s1, f1, _, p1, _⟩ := stepU_spec C hC P u dc ds hdc hds T hT y hy a (hok a (List.mem_cons_self ..))
        (by intro _ h; omega)
      obtain ⟨j1, j2, j3, j4⟩ := ih _ i1 (fun b hb => hok b (List.mem_cons_of_mem _ hb)) (f1 hf)
      rw [runU_cons]
      refine ⟨j1, j2, Nat.le_trans s1 j3, ?_⟩
      rcases j4 with j4 | j4 | j4
      · exact Or.inl j4
      · exact Or.inr (Or.inl j4)
      · by_cases hpf : 3 ≤ y.w.e.stage
        · exact Or.inr (Or.inl (by omega))
        · right; right
          cases a with
          | poll =>
            have := p1 hprog rfl hf (by omega)
            simp only [polls]; omega
          | block kb => simp only [polls]; omega

theorem work_le_half (P : HsP) (h : Hs) (hw : WF P h) : work P h ≤ P.half := by
  have := work_lt_fuel P h hw
  unfold fuel at this
  unfold HsP.half
  omega

end SockModel.Hs
