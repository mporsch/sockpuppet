import SockModel.Model.ToDosLemmas
/-!
Data-level quiescence of the ToDo model (used by C04): once a ToDo has no entry in the list
(after `Cancel`, or after it ran), no continuation of ANY history invokes it again unless it is
scheduled anew by a `Shift` - the only operation that can give an existing ToDo an entry.

`Quiet id s`: ToDo `id` exists, has no entry, and no task body known to the driver shifts it.
-/
namespace SockModel.ToDos
open SockModel.Deadline

/-- does this management call (re)schedule ToDo `id`? -/
def BodyOp.reschedules (id : Nat) : BodyOp → Bool
  | .shift j _ => j == id
  | .shiftd j _ => j == id
  | _ => false

def bodyQuiet (id : Nat) (b : List BodyOp) : Bool := b.all (fun o => !o.reschedules id)

/-- a user-level operation that neither shifts `id` nor installs a task body that would -/
def Op.quiet (id : Nat) : Op → Bool
  | .new _ _ body => bodyQuiet id body
  | .newIn _ _ body => bodyQuiet id body
  | .newIdle _ body => bodyQuiet id body
  | .call op => !op.reschedules id
  | .clock _ => true
  | .step _ => true

/-- invocations of task `id` in a log -/
def ranOf (id : Nat) (l : List Event) : List Event :=
  l.filter (fun e => match e with | .ran j _ _ _ _ => j == id | _ => false)

structure Quiet (id : Nat) (s : St) : Prop where
  known : id ∈ s.known
  noEntry : id ∉ ids s.todos
  bodies : ∀ p ∈ s.bodies, bodyQuiet id p.2 = true

theorem body_quiet {id : Nat} {s : St} (h : Quiet id s) (j : Nat) : bodyQuiet id (s.body j) = true := by
  unfold St.body
  split
  · rename_i p b hf
    exact h.bodies _ (List.mem_of_find?_eq_some hf)
  · rfl

theorem not_mem_ids_move {l : List Entry} {id j : Nat} (w : Int) (seq : Nat) (hj : j ≠ id) (h : id ∉ ids l) :
    id ∉ ids (move l j w seq) := by
  unfold move
  rw [mem_ids_insert]
  rintro (he | hm)
  · exact hj he.symm
  · exact h (mem_ids_of_remove hm)

theorem quiet_new {id : Nat} {s : St} (h : Quiet id s) {j : Nat} (hk : j ∉ s.known) (w : Int) :
    Quiet id { s with todos := insert s.todos ⟨j, w, s.nextSeq⟩, nextSeq := s.nextSeq + 1, live := j :: s.live,
                      known := j :: s.known } := by
  refine ⟨List.mem_cons_of_mem _ h.known, ?_, h.bodies⟩
  rw [mem_ids_insert]
  rintro (he | hm)
  · exact hk ((show id = j from he) ▸ h.known)
  · exact h.noEntry hm

theorem applyOp_quiet {id : Nat} {s : St} (h : Quiet id s) (op : BodyOp) (hq : op.reschedules id = false) :
    Quiet id (applyOp s op) ∧ (applyOp s op).log = s.log := by
  refine ⟨?_, log_applyOp s op⟩
  have hmove : ∀ j w, BodyOp.reschedules id (.shift j w) = false →
      Quiet id { s with todos := move s.todos j w s.nextSeq, nextSeq := s.nextSeq + 1 } := fun j w hq =>
    ⟨h.known, not_mem_ids_move w _ (by simpa [BodyOp.reschedules] using hq) h.noEntry, h.bodies⟩
  cases op with
  | shift j w => simp only [applyOp]; exact if_ind (fun _ => hmove j w hq) fun _ => h
  | shiftd j ms => simp only [applyOp]; exact if_ind (fun _ => hmove j _ hq) fun _ => h
  | cancel j =>
    simp only [applyOp]
    exact if_ind (fun _ => ⟨h.known, fun hm => h.noEntry (mem_ids_of_remove hm), h.bodies⟩) fun _ => h
  | newAt j w => simp only [applyOp]; exact if_ind (fun _ => h) fun hk => quiet_new h hk w
  | newIn j ms => simp only [applyOp]; exact if_ind (fun _ => h) fun hk => quiet_new h hk _
  | drop j => exact ⟨h.known, h.noEntry, h.bodies⟩
  | adv ns => exact ⟨h.known, h.noEntry, h.bodies⟩
  | stop => exact ⟨h.known, h.noEntry, h.bodies⟩

theorem foldl_applyOp_quiet {id : Nat} {s : St} (h : Quiet id s) (b : List BodyOp) (hb : bodyQuiet id b = true) :
    Quiet id (b.foldl applyOp s) ∧ (b.foldl applyOp s).log = s.log := by
  refine ⟨?_, log_foldl_applyOp s b⟩
  induction b generalizing s with
  | nil => exact h
  | cons o os ih =>
    simp only [bodyQuiet, List.all_cons, Bool.and_eq_true, Bool.not_eq_true'] at hb
    exact ih (applyOp_quiet h o hb.1).1 (by simpa [bodyQuiet] using hb.2)

theorem ranOf_cons_ne {id j : Nat} {w now : Int} {rest : List Entry} {seq : Nat} (l : List Event) (hj : j ≠ id) :
    ranOf id (.ran j w now rest seq :: l) = ranOf id l := by
  simp [ranOf, hj]

theorem afterFront_quiet {id : Nat} {s : St} (h : Quiet id s) {front : Entry} {rest : List Entry}
    (ht : s.todos = front :: rest) (now : Int) :
    Quiet id (afterFront s front rest now) ∧ ranOf id (afterFront s front rest now).log = ranOf id s.log := by
  have hno := h.noEntry
  rw [ht] at hno
  have hrest : id ∉ ids rest := fun hm => hno (List.mem_cons_of_mem _ hm)
  refine ⟨(foldl_applyOp_quiet (s := { s with todos := rest, log := _ }) ⟨h.known, hrest, h.bodies⟩ _
    (body_quiet h front.id)).1, ?_⟩
  rw [afterFront_log]
  exact ranOf_cons_ne _ fun he => hno (he ▸ List.mem_cons_self)

theorem stepTodos_quiet {id : Nat} (fuel : Nat) (d : Deadline) {s : St} (h : Quiet id s) :
    Quiet id (stepTodos fuel d s).2 ∧ ranOf id (stepTodos fuel d s).2.log = ranOf id s.log :=
  stepTodos_state_induct (Q := fun _ s s' => Quiet id s → Quiet id s' ∧ ranOf id s'.log = ranOf id s.log)
    (fun _ _ h => ⟨⟨h.known, h.noEntry, h.bodies⟩, rfl⟩) (fun _ _ h => ⟨h, rfl⟩)
    (fun d _ _ _ _ ht _ ih h =>
      have h1 := afterFront_quiet h ht d.now
      have h2 := ih h1.1
      ⟨h2.1, h2.2.trans h1.2⟩)
    fuel d s h

theorem pollSockets_quiet {id : Nat} (clamp : Bool) (t : Int) {s : St} (h : Quiet id s) :
    Quiet id (pollSockets clamp t s) ∧ ranOf id (pollSockets clamp t s).log = ranOf id s.log := by
  obtain ⟨ms, _, _, e⟩ := pollSockets_frame clamp t s
  rw [e]
  exact ⟨⟨h.known, h.noEntry, h.bodies⟩, rfl⟩

theorem userOp_quiet {id : Nat} (clamp : Bool) (fuel : Nat) {s : St} (h : Quiet id s) (op : Op) (hq : op.quiet id = true) :
    Quiet id (userOp clamp fuel s op) ∧ ranOf id (userOp clamp fuel s op).log = ranOf id s.log := by
  have hbody : ∀ j body, bodyQuiet id body = true → Quiet id { s with bodies := (j, body) :: s.bodies } :=
    fun j body hq => ⟨h.known, h.noEntry, fun p hp => by
      rcases List.mem_cons.mp hp with rfl | hp
      · exact hq
      · exact h.bodies p hp⟩
  cases op with
  | new j w body =>
    simp only [userOp]
    split
    · exact ⟨h, rfl⟩
    · have := applyOp_quiet (hbody j body hq) (.newAt j w) rfl
      exact ⟨this.1, by rw [this.2]⟩
  | newIn j ms body =>
    simp only [userOp]
    split
    · exact ⟨h, rfl⟩
    · have := applyOp_quiet (hbody j body hq) (.newIn j ms) rfl
      exact ⟨this.1, by rw [this.2]⟩
  | newIdle j body =>
    simp only [userOp]
    split
    · exact ⟨h, rfl⟩
    · exact ⟨⟨List.mem_cons_of_mem _ h.known, h.noEntry, (hbody j body hq).bodies⟩, rfl⟩
  | call o =>
    have := applyOp_quiet h o (by simpa [Op.quiet] using hq)
    exact ⟨this.1, by simp only [userOp]; rw [this.2]⟩
  | clock ns =>
    simp only [userOp]
    split
    · exact ⟨⟨h.known, h.noEntry, h.bodies⟩, rfl⟩
    · exact ⟨h, rfl⟩
  | step t =>
    simp only [userOp, step]
    split
    · exact pollSockets_quiet clamp t h
    · have h1 := stepTodos_quiet (id := id) fuel (Deadline.make t s.now) h
      have h2 := pollSockets_quiet clamp (stepTodos fuel (Deadline.make t s.now) s).1 h1.1
      exact ⟨h2.1, h2.2.trans h1.2⟩

/-- any continuation that does not `Shift` the ToDo: it stays without an entry and is never invoked -/
theorem run_quiet {id : Nat} (clamp : Bool) (fuel : Nat) {s : St} (h : Quiet id s) (ops : List Op)
    (hq : ops.all (Op.quiet id) = true) :
    Quiet id (run clamp fuel s ops) ∧ ranOf id (run clamp fuel s ops).log = ranOf id s.log := by
  induction ops generalizing s with
  | nil => exact ⟨h, rfl⟩
  | cons op ops ih =>
    simp only [List.all_cons, Bool.and_eq_true] at hq
    have h1 := userOp_quiet clamp fuel h op hq.1
    have := ih h1.1 hq.2
    simp only [run, List.foldl_cons] at this ⊢
    exact ⟨this.1, this.2.trans h1.2⟩

end SockModel.ToDos
