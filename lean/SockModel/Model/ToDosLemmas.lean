import SockModel.Model.ToDos
/-! Lemmas for C06 / C07: `insert` / `remove` / `move` on the sorted deque, the state invariant `TInv` (sorted, one
entry per ToDo, ties in scheduling order, every logged invocation admissible), and the `StepTodos` loop: the state
after the front task ran (`afterFront`), one round as an equation (`stepTodos_cons`) and the induction principles
(`stepTodos_induct`, `stepTodos_state_induct`) that the step, quiescence and reference-scheduler lemmas go through. -/
namespace SockModel.ToDos
open SockModel.Deadline

theorem if_ind {α : Type} {P : α → Prop} {c : Prop} [Decidable c] {a b : α} (h1 : c → P a) (h2 : ¬ c → P b) :
    P (if c then a else b) := by
  split
  · exact h1 ‹_›
  · exact h2 ‹_›

def Sorted (l : List Entry) : Prop := l.Pairwise (fun a b => a.when ≤ b.when)

def ids (l : List Entry) : List Nat := l.map (·.id)

theorem insert_perm (l : List Entry) (e : Entry) : (insert l e).Perm (e :: l) := by
  induction l with
  | nil => simp [insert]
  | cons y ys ih =>
    unfold insert
    split
    · exact List.Perm.refl _
    · exact (List.Perm.cons y ih).trans (List.Perm.swap _ _ _)

theorem mem_insert {l : List Entry} {e x : Entry} : x ∈ insert l e ↔ x = e ∨ x ∈ l := by
  rw [(insert_perm l e).mem_iff, List.mem_cons]

/-- where `insert` puts the entry in a sorted list: behind everything due no later, before everything later -/
theorem insert_split (l : List Entry) (e : Entry) (hs : Sorted l) :
    ∃ pre post, insert l e = pre ++ e :: post ∧ l = pre ++ post ∧
      (∀ x ∈ pre, x.when ≤ e.when) ∧ (∀ x ∈ post, e.when < x.when) := by
  induction l with
  | nil => exact ⟨[], [], rfl, rfl, by simp, by simp⟩
  | cons y ys ih =>
    have hy := List.pairwise_cons.mp hs
    unfold insert
    split
    · rename_i hlt
      refine ⟨[], y :: ys, rfl, rfl, by simp, fun x hx => ?_⟩
      rcases List.mem_cons.mp hx with rfl | hx
      · exact hlt
      · have := hy.1 x hx; omega
    · rename_i hge
      obtain ⟨pre, post, h1, h2, h3, h4⟩ := ih hy.2
      refine ⟨y :: pre, post, by rw [h1]; rfl, by rw [h2]; rfl, fun x hx => ?_, h4⟩
      rcases List.mem_cons.mp hx with rfl | hx
      · omega
      · exact h3 x hx

theorem insert_pairwise {R : Entry → Entry → Prop} {l : List Entry} (e : Entry) (hs : Sorted l) (h : l.Pairwise R)
    (hpre : ∀ x ∈ l, x.when ≤ e.when → R x e) (hpost : ∀ x ∈ l, e.when < x.when → R e x) :
    (insert l e).Pairwise R := by
  obtain ⟨pre, post, h1, rfl, h3, h4⟩ := insert_split l e hs
  obtain ⟨p1, p2, p3⟩ := List.pairwise_append.mp h
  rw [h1]
  refine List.pairwise_append.mpr ⟨p1, List.pairwise_cons.mpr
    ⟨fun x hx => hpost x (List.mem_append_right _ hx) (h4 x hx), p2⟩, fun a ha b hb => ?_⟩
  rcases List.mem_cons.mp hb with rfl | hb
  · exact hpre a (List.mem_append_left _ ha) (h3 a ha)
  · exact p3 a ha b hb

theorem insert_sorted {l : List Entry} (e : Entry) (h : Sorted l) : Sorted (insert l e) :=
  insert_pairwise e h h (fun _ _ h => h) (fun _ _ h => Int.le_of_lt h)

theorem remove_sublist (l : List Entry) (id : Nat) : (remove l id).Sublist l := by
  induction l with
  | nil => simp [remove]
  | cons y ys ih =>
    unfold remove
    split
    · exact List.sublist_cons_self y ys
    · exact List.Sublist.cons_cons y ih

theorem remove_sorted {l : List Entry} (id : Nat) (h : Sorted l) : Sorted (remove l id) :=
  List.Pairwise.sublist (remove_sublist l id) h

theorem move_sorted {l : List Entry} (id : Nat) (w : Int) (h : Sorted l) : Sorted (move l id w) :=
  insert_sorted _ (remove_sorted id h)

theorem ids_insert_perm (l : List Entry) (e : Entry) : (ids (insert l e)).Perm (e.id :: ids l) :=
  (insert_perm l e).map _

theorem remove_eq_filter {l : List Entry} (id : Nat) (h : (ids l).Nodup) :
    remove l id = l.filter (fun e => e.id ≠ id) := by
  induction l with
  | nil => rfl
  | cons y ys ih =>
    simp only [ids, List.map_cons, List.nodup_cons] at h
    unfold remove
    split
    · rename_i heq
      have hno : ∀ e ∈ ys, e.id ≠ id := by
        intro e he h'
        apply h.1
        rw [heq, ← h']
        exact List.mem_map_of_mem he
      rw [List.filter_cons_of_neg (by simp [heq])]
      exact (List.filter_eq_self.mpr (by intro e he; simpa using hno e he)).symm
    · rename_i hne
      rw [List.filter_cons_of_pos (by simpa using hne), ih h.2]

/-- with one entry per id, `remove` deletes every trace of the id -/
theorem not_mem_ids_remove {l : List Entry} (id : Nat) (h : (ids l).Nodup) : id ∉ ids (remove l id) := by
  rw [remove_eq_filter id h]
  simp [ids]

theorem remove_of_not_mem {l : List Entry} {id : Nat} (h : id ∉ ids l) : remove l id = l := by
  induction l with
  | nil => rfl
  | cons y ys ih =>
    simp only [ids, List.map_cons, List.mem_cons, not_or] at h
    rw [remove, if_neg (fun h' => h.1 h'.symm), ih h.2]

theorem ids_remove_sublist (l : List Entry) (id : Nat) : (ids (remove l id)).Sublist (ids l) :=
  (remove_sublist l id).map _

theorem nodup_ids_remove {l : List Entry} (id : Nat) (h : (ids l).Nodup) : (ids (remove l id)).Nodup :=
  List.Nodup.sublist (ids_remove_sublist l id) h

theorem nodup_ids_insert {l : List Entry} {e : Entry} (h : (ids l).Nodup) (hn : e.id ∉ ids l) :
    (ids (insert l e)).Nodup :=
  (ids_insert_perm l e).nodup_iff.mpr (List.nodup_cons.mpr ⟨hn, h⟩)

theorem nodup_ids_move {l : List Entry} (id : Nat) (w : Int) (h : (ids l).Nodup) : (ids (move l id w)).Nodup :=
  nodup_ids_insert (nodup_ids_remove id h) (not_mem_ids_remove id h)

theorem mem_ids_insert {l : List Entry} {e : Entry} {x : Nat} : x ∈ ids (insert l e) ↔ x = e.id ∨ x ∈ ids l := by
  rw [(ids_insert_perm l e).mem_iff]; simp

theorem mem_ids_of_remove {l : List Entry} {id x : Nat} (h : x ∈ ids (remove l id)) : x ∈ ids l :=
  (ids_remove_sublist l id).subset h

/-- stable insertion: among the entries with the same due time the new one is last -/
theorem insert_stable (l : List Entry) (e : Entry) (h : Sorted l) :
    (insert l e).filter (fun x => x.when = e.when) = l.filter (fun x => x.when = e.when) ++ [e] := by
  obtain ⟨pre, post, h1, rfl, _, h4⟩ := insert_split l e h
  have hpost : post.filter (fun x => x.when = e.when) = [] :=
    List.filter_eq_nil_iff.mpr fun x hx => by have := h4 x hx; simp only [decide_eq_true_eq]; omega
  rw [h1, List.filter_append, List.filter_append, List.filter_cons_of_pos (by simp), hpost, List.append_nil]

/-! ### the state invariant -/

/-- what C06 asks of a logged invocation, one conjunct per clause: never early, due order, the ToDo's only entry was
popped, ties in scheduling order (`Props/C06.lean` projects them in this order) -/
def EvOk : Event → Prop
  | .ran id w now rest seq =>
    w ≤ now ∧ (∀ e ∈ rest, w ≤ e.when) ∧ id ∉ ids rest ∧ (∀ e ∈ rest, e.when = w → seq < e.seq)
  | _ => True

/-- among entries with the same due time, list order is scheduling order -/
def Lex (l : List Entry) : Prop := l.Pairwise (fun a b => a.when = b.when → a.seq < b.seq)

theorem insert_lex {l : List Entry} (e : Entry) (hs : Sorted l) (hl : Lex l) (hnew : ∀ x ∈ l, x.seq < e.seq) :
    Lex (insert l e) :=
  insert_pairwise e hs hl (fun x hx _ _ => hnew x hx) (fun _ _ hlt heq => absurd heq (Int.ne_of_lt hlt))

theorem remove_lex {l : List Entry} (id : Nat) (h : Lex l) : Lex (remove l id) :=
  List.Pairwise.sublist (remove_sublist l id) h

structure TInv (s : St) : Prop where
  sorted : Sorted s.todos
  nodup  : (ids s.todos).Nodup
  known  : ∀ x ∈ ids s.todos, x ∈ s.known
  liveKnown : ∀ x ∈ s.live, x ∈ s.known
  logOk  : ∀ ev ∈ s.log, EvOk ev
  lex    : Lex s.todos
  seqLt  : ∀ e ∈ s.todos, e.seq < s.nextSeq

theorem inv_init : TInv {} :=
  ⟨List.Pairwise.nil, List.nodup_nil, by simp [ids], by simp, by simp, List.Pairwise.nil, by simp⟩

theorem mem_remove {l : List Entry} {id : Nat} {x : Entry} (h : x ∈ remove l id) : x ∈ l :=
  (remove_sublist l id).subset h

theorem inv_remove {s : St} (h : TInv s) (id : Nat) : TInv { s with todos := remove s.todos id } :=
  ⟨remove_sorted id h.sorted, nodup_ids_remove id h.nodup, fun x hx => h.known x (mem_ids_of_remove hx), h.liveKnown,
    h.logOk, remove_lex id h.lex, fun e he => h.seqLt e (mem_remove he)⟩

/-- scheduling a known ToDo that has no entry, under the next sequence number -/
theorem inv_insert {s : St} (h : TInv s) {id : Nat} (w : Int) (hk : id ∈ s.known) (hn : id ∉ ids s.todos) :
    TInv { s with todos := insert s.todos ⟨id, w, s.nextSeq⟩, nextSeq := s.nextSeq + 1 } := by
  refine ⟨insert_sorted _ h.sorted, nodup_ids_insert h.nodup hn, fun x hx => ?_, h.liveKnown, h.logOk,
    insert_lex _ h.sorted h.lex h.seqLt, fun e he => ?_⟩
  · rcases mem_ids_insert.mp hx with rfl | hx
    · exact hk
    · exact h.known x hx
  · rcases mem_insert.mp he with rfl | he
    · exact Nat.lt_succ_self _
    · exact Nat.lt_succ_of_lt (h.seqLt e he)

theorem inv_move {s : St} (h : TInv s) (id : Nat) (w : Int) (hl : id ∈ s.live) :
    TInv { s with todos := move s.todos id w s.nextSeq, nextSeq := s.nextSeq + 1 } :=
  inv_insert (inv_remove h id) w (h.liveKnown id hl) (not_mem_ids_remove id h.nodup)

theorem inv_register {s : St} (h : TInv s) (id : Nat) : TInv { s with live := id :: s.live, known := id :: s.known } :=
  ⟨h.sorted, h.nodup, fun x hx => List.mem_cons_of_mem _ (h.known x hx),
    fun x hx => (List.mem_cons.mp hx).elim (· ▸ List.mem_cons_self) fun hx => List.mem_cons_of_mem _ (h.liveKnown x hx),
    h.logOk, h.lex, h.seqLt⟩

theorem inv_new {s : St} (h : TInv s) (id : Nat) (w : Int) (hk : id ∉ s.known) :
    TInv { s with todos := insert s.todos ⟨id, w, s.nextSeq⟩, nextSeq := s.nextSeq + 1, live := id :: s.live, known := id :: s.known } :=
  inv_insert (inv_register h id) w List.mem_cons_self fun hm => hk (h.known id hm)

theorem inv_applyOp {s : St} (h : TInv s) (op : BodyOp) : TInv (applyOp s op) := by
  cases op with
  | shift id w => simp only [applyOp]; exact if_ind (inv_move h id w) fun _ => h
  | shiftd id ms => simp only [applyOp]; exact if_ind (inv_move h id _) fun _ => h
  | cancel id => simp only [applyOp]; exact if_ind (fun _ => inv_remove h id) fun _ => h
  | newAt id w => simp only [applyOp]; exact if_ind (fun _ => h) (inv_new h id w)
  | newIn id ms => simp only [applyOp]; exact if_ind (fun _ => h) (inv_new h id _)
  | drop id =>
    exact ⟨h.sorted, h.nodup, h.known, fun x hx => h.liveKnown x (List.mem_filter.mp hx).1, h.logOk, h.lex, h.seqLt⟩
  | adv ns => exact ⟨h.sorted, h.nodup, h.known, h.liveKnown, h.logOk, h.lex, h.seqLt⟩
  | stop => exact ⟨h.sorted, h.nodup, h.known, h.liveKnown, h.logOk, h.lex, h.seqLt⟩

theorem inv_foldl_applyOp {s : St} (h : TInv s) (ops : List BodyOp) : TInv (ops.foldl applyOp s) := by
  induction ops generalizing s with
  | nil => exact h
  | cons op ops ih => exact ih (inv_applyOp h op)

/-! ### the `StepTodos` loop -/

theorem log_applyOp (s : St) (op : BodyOp) : (applyOp s op).log = s.log := by
  cases op <;> simp only [applyOp] <;> (try split) <;> rfl

theorem log_foldl_applyOp (s : St) (ops : List BodyOp) : (ops.foldl applyOp s).log = s.log := by
  induction ops generalizing s with
  | nil => rfl
  | cons op ops ih => simp only [List.foldl_cons]; rw [ih, log_applyOp]

/-- the state after `StepTodos` has moved the front entry out of the list and run its task; `now` is the clock
reading of the due test -/
def afterFront (s : St) (front : Entry) (rest : List Entry) (now : Int) : St :=
  (s.body front.id).foldl applyOp
    { s with todos := rest, log := .ran front.id front.when now rest front.seq :: s.log }

theorem afterFront_log (s : St) (front : Entry) (rest : List Entry) (now : Int) :
    (afterFront s front rest now).log = .ran front.id front.when now rest front.seq :: s.log :=
  log_foldl_applyOp _ _

theorem deadline_tick_now (d : Deadline) (now : Int) : (d.tick now).now = now := by
  cases d <;> rfl

theorem deadline_make_now (t now : Int) : (Deadline.make t now).now = now := by
  unfold Deadline.make
  split
  · rfl
  · split <;> rfl

theorem stepTodos_cons (fuel : Nat) (d : Deadline) {s : St} {front : Entry} {rest : List Entry}
    (ht : s.todos = front :: rest) :
    stepTodos (fuel + 1) d s =
      if front.when - d.now > 0 then (minDuration (front.when - d.now) d.remaining, s)
      else if (afterFront s front rest d.now).todos.isEmpty then
        ((d.tick (afterFront s front rest d.now).now).remaining, afterFront s front rest d.now)
      else if (d.tick (afterFront s front rest d.now).now).timeLeft then
        stepTodos fuel (d.tick (afterFront s front rest d.now).now) (afterFront s front rest d.now)
      else (0, afterFront s front rest d.now) := by
  conv => lhs; unfold stepTodos; rw [ht]
  rfl

/-- Induction along the `StepTodos` loop: out of fuel; nothing pending; the front entry not due; the front
task ran and then nothing is pending, or the loop goes on, or the deadline has passed. -/
theorem stepTodos_induct {P : Deadline → St → Int × St → Prop}
    (fuel0 : ∀ d s, P d s (0, { s with log := .fuel :: s.log }))
    (empty : ∀ d s, s.todos = [] → P d s (d.remaining, s))
    (notDue : ∀ d s front rest, s.todos = front :: rest → front.when - d.now > 0 →
      P d s (minDuration (front.when - d.now) d.remaining, s))
    (last : ∀ d s front rest, s.todos = front :: rest → ¬ front.when - d.now > 0 →
      (afterFront s front rest d.now).todos = [] →
      P d s ((d.tick (afterFront s front rest d.now).now).remaining, afterFront s front rest d.now))
    (more : ∀ d s front rest r, s.todos = front :: rest → ¬ front.when - d.now > 0 →
      P (d.tick (afterFront s front rest d.now).now) (afterFront s front rest d.now) r → P d s r)
    (late : ∀ d s front rest, s.todos = front :: rest → ¬ front.when - d.now > 0 →
      P d s (0, afterFront s front rest d.now))
    (fuel : Nat) (d : Deadline) (s : St) : P d s (stepTodos fuel d s) := by
  induction fuel generalizing d s with
  | zero => exact fuel0 d s
  | succ fuel ih =>
    cases ht : s.todos with
    | nil => rw [stepTodos, ht]; exact empty d s ht
    | cons front rest =>
      rw [stepTodos_cons fuel d ht]
      by_cases hdue : front.when - d.now > 0
      · rw [if_pos hdue]; exact notDue d s front rest ht hdue
      · rw [if_neg hdue]
        by_cases hemp : (afterFront s front rest d.now).todos.isEmpty
        · rw [if_pos hemp]; exact last d s front rest ht hdue (List.isEmpty_iff.mp hemp)
        · rw [if_neg hemp]
          by_cases hleft : (d.tick (afterFront s front rest d.now).now).timeLeft
          · rw [if_pos hleft]; exact more d s front rest _ ht hdue (ih _ _)
          · rw [if_neg hleft]; exact late d s front rest ht hdue

/-- the same for statements about the final state alone: it is reached by running due front tasks one after the
other, possibly followed by the out-of-fuel mark -/
theorem stepTodos_state_induct {Q : Deadline → St → St → Prop}
    (fuel0 : ∀ d s, Q d s { s with log := .fuel :: s.log })
    (stay : ∀ d s, Q d s s)
    (ran : ∀ d s front rest s', s.todos = front :: rest → front.when ≤ d.now →
      Q (d.tick (afterFront s front rest d.now).now) (afterFront s front rest d.now) s' → Q d s s')
    (fuel : Nat) (d : Deadline) (s : St) : Q d s (stepTodos fuel d s).2 :=
  stepTodos_induct (P := fun d s r => Q d s r.2) fuel0 (fun d s _ => stay d s) (fun d s _ _ _ _ => stay d s)
    (fun d s front rest ht hdue _ => ran d s front rest _ ht (by omega) (stay _ _))
    (fun d s front rest r ht hdue ih => ran d s front rest _ ht (by omega) ih)
    (fun d s front rest ht hdue => ran d s front rest _ ht (by omega) (stay _ _)) fuel d s

theorem log_stepTodos_suffix (fuel : Nat) (d : Deadline) (s : St) :
    ∃ pre, (stepTodos fuel d s).2.log = pre ++ s.log :=
  stepTodos_state_induct (Q := fun _ s s' => ∃ pre, s'.log = pre ++ s.log)
    (fun _ _ => ⟨[.fuel], rfl⟩) (fun _ _ => ⟨[], rfl⟩)
    (fun d s front rest _ _ _ ⟨pre, hpre⟩ =>
      ⟨pre ++ [.ran front.id front.when d.now rest front.seq], by rw [hpre, afterFront_log, List.append_assoc]; rfl⟩)
    fuel d s

theorem stepTodos_runs_front (fuel : Nat) (d : Deadline) (s : St) (front : Entry) (rest : List Entry)
    (ht : s.todos = front :: rest) (hdue : front.when ≤ d.now) :
    Event.ran front.id front.when d.now rest front.seq ∈ (stepTodos (fuel + 1) d s).2.log := by
  rw [stepTodos_cons fuel d ht, if_neg (by omega)]
  split
  · rw [afterFront_log]; exact List.mem_cons_self
  · split
    · obtain ⟨pre, hpre⟩ := log_stepTodos_suffix fuel (d.tick (afterFront s front rest d.now).now)
        (afterFront s front rest d.now)
      rw [hpre, afterFront_log]
      exact List.mem_append_right _ List.mem_cons_self
    · rw [afterFront_log]; exact List.mem_cons_self

theorem inv_pop {s : St} (h : TInv s) {front : Entry} {rest : List Entry} (ht : s.todos = front :: rest)
    {now : Int} (hdue : front.when ≤ now) :
    TInv { s with todos := rest, log := .ran front.id front.when now rest front.seq :: s.log } := by
  have hs := h.sorted; have hn := h.nodup; have hk := h.known; have hlx := h.lex; have hsq := h.seqLt
  rw [ht] at hs hn hk hlx hsq
  have hs' := List.pairwise_cons.mp hs
  have hlx' := List.pairwise_cons.mp hlx
  simp only [ids, List.map_cons, List.nodup_cons] at hn
  refine ⟨hs'.2, hn.2, fun x hx => hk x (List.mem_cons_of_mem _ hx), h.liveKnown, fun ev hev => ?_, hlx'.2,
    fun e he => hsq e (List.mem_cons_of_mem _ he)⟩
  rcases List.mem_cons.mp hev with rfl | hev
  · exact ⟨hdue, hs'.1, hn.1, fun e he heq => hlx'.1 e he heq.symm⟩
  · exact h.logOk ev hev

theorem inv_afterFront {s : St} (h : TInv s) {front : Entry} {rest : List Entry} (ht : s.todos = front :: rest)
    {now : Int} (hdue : front.when ≤ now) : TInv (afterFront s front rest now) :=
  inv_foldl_applyOp (inv_pop h ht hdue) _

theorem inv_stepTodos (fuel : Nat) (d : Deadline) {s : St} (h : TInv s) : TInv (stepTodos fuel d s).2 := by
  refine stepTodos_state_induct (Q := fun _ s s' => TInv s → TInv s') (fun d s h => ?_) (fun _ _ h => h)
    (fun d s front rest s' ht hdue ih h => ih (inv_afterFront h ht hdue)) fuel d s h
  refine ⟨h.sorted, h.nodup, h.known, h.liveKnown, fun ev hev => ?_, h.lex, h.seqLt⟩
  rcases List.mem_cons.mp hev with rfl | hev
  · trivial
  · exact h.logOk ev hev

/-- the socket wait logs its timeout and changes the pipe or the clock, nothing else -/
theorem pollSockets_frame (clamp : Bool) (t : Int) (s : St) :
    ∃ ms pipe now, pollSockets clamp t s = { s with log := .poll ms :: s.log, pipe := pipe, now := now } := by
  unfold pollSockets
  generalize (if clamp = true then toMsec t else toMsecLegacy t) = ms
  simp only
  split
  · exact ⟨ms, _, _, rfl⟩
  · split <;> exact ⟨ms, _, _, rfl⟩

theorem inv_pollSockets (clamp : Bool) (t : Int) {s : St} (h : TInv s) : TInv (pollSockets clamp t s) := by
  obtain ⟨ms, _, _, e⟩ := pollSockets_frame clamp t s
  rw [e]
  refine ⟨h.sorted, h.nodup, h.known, h.liveKnown, fun ev hev => ?_, h.lex, h.seqLt⟩
  rcases List.mem_cons.mp hev with rfl | hev
  · trivial
  · exact h.logOk ev hev

theorem inv_step (clamp : Bool) (fuel : Nat) (t : Int) {s : St} (h : TInv s) : TInv (step clamp fuel t s) := by
  unfold step
  split
  · exact inv_pollSockets clamp t h
  · exact inv_pollSockets clamp _ (inv_stepTodos fuel _ h)

theorem inv_bodies {s : St} (h : TInv s) (b : List (Nat × List BodyOp)) : TInv { s with bodies := b } :=
  ⟨h.sorted, h.nodup, h.known, h.liveKnown, h.logOk, h.lex, h.seqLt⟩

theorem inv_userOp (clamp : Bool) (fuel : Nat) {s : St} (h : TInv s) (op : Op) : TInv (userOp clamp fuel s op) := by
  cases op with
  | new id w body => simp only [userOp]; exact if_ind (fun _ => h) fun _ => inv_applyOp (inv_bodies h _) _
  | newIn id ms body => simp only [userOp]; exact if_ind (fun _ => h) fun _ => inv_applyOp (inv_bodies h _) _
  | newIdle id body => simp only [userOp]; exact if_ind (fun _ => h) fun _ => inv_register (inv_bodies h ((id, body) :: s.bodies)) id
  | call op => exact inv_applyOp h op
  | clock ns =>
    simp only [userOp]
    exact if_ind (fun _ => ⟨h.sorted, h.nodup, h.known, h.liveKnown, h.logOk, h.lex, h.seqLt⟩) fun _ => h
  | step t => exact inv_step clamp fuel t h

theorem inv_run (clamp : Bool) (fuel : Nat) {s : St} (h : TInv s) (ops : List Op) : TInv (run clamp fuel s ops) := by
  induction ops generalizing s with
  | nil => exact h
  | cons op ops ih => exact ih (inv_userOp clamp fuel h op)

end SockModel.ToDos
