import SockModel.Model.HsLemmas
import SockModel.Model.FairProgress
/-!
Arbitrary schedules of zero-timeout calls on the two-endpoint composition of `Model/HsEngine.lean`
(`Props/C18Hs.lean`, "handshake completion beyond the polling schedule").

A schedule is a list (or an infinite sequence) of `Act`s: which side calls, and whether it calls `Send` (with that
side's payload) or `Receive(size)`.  Nothing is assumed about the order; what a schedule needs in order to complete
the handshake is counted by `progCalls`: the number of calls made by a side that could move its handshake on at
that moment (`CanProg`).  The fairness arguments themselves are those of `Model/FairProgress.lean` (`sysTS`).

Also here, for `Model/HsBlock.lean` and `Model/HsAsyncQ.lean`: the composition seen from one side `u` (`PeerW`, `mkSys`).
-/
namespace SockModel.Hs
open SockModel.Net SockModel.Tls

/-- `Send(payload of the calling side)` or `Receive(size)` -/
inductive Kind where
  | send
  | recv (size : Nat)
  deriving DecidableEq, Repr

/-- one call of a schedule -/
structure Act where
  client : Bool
  kind : Kind
  deriving DecidableEq, Repr

-- the client / the server calls `Send` / `Receive(n)`
abbrev Act.cSend : Act := ⟨true, .send⟩
abbrev Act.cRecv (n : Nat) : Act := ⟨true, .recv n⟩
abbrev Act.sSend : Act := ⟨false, .send⟩
abbrev Act.sRecv (n : Nat) : Act := ⟨false, .recv n⟩

/-- receive sizes are at least 1 (a `Receive` into an empty buffer is outside the property) -/
def Act.ok (a : Act) : Prop :=
  match a.kind with
  | .send => True
  | .recv n => 1 ≤ n

instance (a : Act) : Decidable a.ok := by
  unfold Act.ok
  cases a.kind <;> exact inferInstance

def Act.call (dc ds : Bytes) (a : Act) : Call :=
  match a.kind with
  | .send => .send (if a.client then dc else ds)
  | .recv n => .recv n

/-- perform one call of the schedule -/
def Sys.act (C : Cfg) (P : HsP) (dc ds : Bytes) (y : Sys) (a : Act) : Sys := y.step C P a.client (a.call dc ds)

/-- perform a finite schedule -/
def Sys.run (C : Cfg) (P : HsP) (dc ds : Bytes) (l : List Act) (y : Sys) : Sys := l.foldl (Sys.act C P dc ds) y

/-- the first `k` calls of an infinite schedule -/
def Sys.runTo (C : Cfg) (P : HsP) (dc ds : Bytes) (σ : Nat → Act) (k : Nat) (y : Sys) : Sys :=
  Sys.run C P dc ds ((List.range k).map σ) y

/-- side `client` can move its handshake on: a flight to write, or bytes to read are in flight towards it -/
def Sys.canProg (y : Sys) (client : Bool) : Prop := CanProg client (y.eng client) y.ch

instance (r : Bool) (h : Hs) (w : Chan) : Decidable (CanProg r h w) := by
  unfold CanProg; exact inferInstance

instance (y : Sys) (client : Bool) : Decidable (y.canProg client) := by
  unfold Sys.canProg; exact inferInstance

instance (y : Sys) : Decidable y.bothFinished := by
  unfold Sys.bothFinished; exact inferInstance

/-- the number of calls of the schedule made by a side that could progress when it called -/
def progCalls (C : Cfg) (P : HsP) (dc ds : Bytes) : List Act → Sys → Nat
  | [], _ => 0
  | a :: l, y => (if y.canProg a.client then 1 else 0) + progCalls C P dc ds l (y.act C P dc ds a)

/-- both sides call at least once -/
def BothSides (v : List Act) : Prop := (∃ a ∈ v, a.client = true) ∧ (∃ a ∈ v, a.client = false)

instance (v : List Act) : Decidable (BothSides v) := by
  unfold BothSides; exact inferInstance

/-- **fairness, syntactic form**: every window of `w` consecutive calls of the schedule contains a call of the
client and a call of the server (of whatever kind, in whatever order).  (Windows are counted as `i < length + 1 - w`, a
bounded quantifier, so that instances can be checked by `decide`.) -/
def SideFair (w : Nat) (l : List Act) : Prop :=
  ∀ i, i < l.length + 1 - w → BothSides ((l.drop i).take w)

instance (w : Nat) (l : List Act) : Decidable (SideFair w l) := by
  unfold SideFair; exact inferInstance

/-- **fairness, semantic form** (weaker): whenever the handshake is unfinished after `i` calls, one of the next `w`
calls is made by a side that can progress at that moment.  (Some side always can: `can_progress`.) -/
def ProgFair (C : Cfg) (P : HsP) (dc ds : Bytes) (w : Nat) (l : List Act) (y : Sys) : Prop :=
  ∀ i, i + w ≤ l.length → ¬ (Sys.run C P dc ds (l.take i) y).bothFinished →
    1 ≤ progCalls C P dc ds ((l.drop i).take w) (Sys.run C P dc ds (l.take i) y)

/-- `SideFair` for an infinite schedule -/
def SideFairInf (w : Nat) (σ : Nat → Act) : Prop :=
  ∀ i, (∃ j, j < w ∧ (σ (i + j)).client = true) ∧ (∃ j, j < w ∧ (σ (i + j)).client = false)

/-- the bound: twice the work of one side = the measure `mu` of the initial state -/
def HsP.total (P : HsP) : Nat := 2 * (P.k1 + P.k2 + P.k3 + 3)

/-! ### one call -/

theorem run_nil (C : Cfg) (P : HsP) (dc ds : Bytes) (y : Sys) : Sys.run C P dc ds [] y = y := rfl

theorem run_cons (C : Cfg) (P : HsP) (dc ds : Bytes) (a : Act) (l : List Act) (y : Sys) :
    Sys.run C P dc ds (a :: l) y = Sys.run C P dc ds l (y.act C P dc ds a) := rfl

theorem run_append (C : Cfg) (P : HsP) (dc ds : Bytes) (l1 l2 : List Act) (y : Sys) :
    Sys.run C P dc ds (l1 ++ l2) y = Sys.run C P dc ds l2 (Sys.run C P dc ds l1 y) := by
  simp [Sys.run, List.foldl_append]

theorem mu_init (P : HsP) (segs : List Nat) : mu P (Sys.init P segs) = P.total := by
  simp only [mu, Sys.init, work_init, HsP.total]; omega

theorem work_pos_of_stage (P : HsP) (h : Hs) (hs : h.stage < 3) : 1 ≤ work P h := by
  unfold work
  (repeat' split) <;> omega

theorem work_zero_fin (P : HsP) (h : Hs) (hw : work P h = 0) : 3 ≤ h.stage := by
  by_cases h3 : h.stage < 3
  · have := work_pos_of_stage P h h3; omega
  · omega

theorem mu_zero_fin (P : HsP) (y : Sys) (h : mu P y = 0) : y.bothFinished := by
  unfold mu at h
  exact ⟨work_zero_fin P _ (by omega), work_zero_fin P _ (by omega)⟩

/-- what every call of a schedule does, whoever makes it and whatever it is -/
structure ActRes (P : HsP) (dc ds : Bytes) (y y' : Sys) (a : Act) : Prop where
  inv : SysInv P dc ds y'
  muLe : mu P y' ≤ mu P y
  muLt : y.canProg a.client → mu P y' < mu P y
  stC : y.ec.stage ≤ y'.ec.stage
  stS : y.es.stage ≤ y'.es.stage
  /-- the other side's ability to progress is not taken away -/
  keep : y.canProg (!a.client) → y'.canProg (!a.client)

theorem act_spec (C : Cfg) (hC : 1 < C.stepsMax) (P : HsP) (dc ds : Bytes) (hdc : dc ≠ []) (hds : ds ≠ [])
    (y : Sys) (hinv : SysInv P dc ds y) (a : Act) (ha : a.ok) : ActRes P dc ds y (y.act C P dc ds a) a := by
  have hc : a.call dc ds = .send (ownPay a.client dc ds) ∨ ∃ n, 1 ≤ n ∧ a.call dc ds = .recv n := by
    rcases a with ⟨cl, k⟩
    cases k with
    | send => exact Or.inl rfl
    | recv n => exact Or.inr ⟨n, ha, rfl⟩
  obtain ⟨i1, e1, t1, p1⟩ := step_spec C hC P dc ds y hinv a.client (ownPay_ne hdc hds _) _ hc
  have hst : ∀ b, (y.eng b).stage ≤ ((y.act C P dc ds a).eng b).stage := by
    intro b
    by_cases hb : b = a.client
    · rw [hb]; exact t1.st
    · have : b = !a.client := by revert hb; cases b <;> cases a.client <;> simp
      rw [this, Sys.act, e1]; exact Nat.le_refl _
  have hwk := t1.wk
  refine ⟨i1, ?_, ?_, hst true, hst false, ?_⟩
  · rw [mu_eng P _ a.client, mu_eng P y a.client, Sys.act, e1]; omega
  · intro hp
    have := p1 hp
    rw [mu_eng P _ a.client, mu_eng P y a.client, Sys.act, e1]; omega
  · intro hp
    unfold Sys.canProg Sys.act
    rw [e1]
    exact CanProg.mono hp t1.outLe

/-! ### the composition seen from one side: that side, and a polling peer -/

def Kind.ok : Kind → Prop
  | .send => True
  | .recv n => 1 ≤ n

instance (k : Kind) : Decidable k.ok := by
  cases k <;> unfold Kind.ok <;> exact inferInstance

def Kind.call (d : Bytes) : Kind → Call
  | .send => .send d
  | .recv n => .recv n

/-- the rest of the composition as side `u` sees it: the channels and a polling peer (this is the world of a blocking
side `u`, Model/HsBlock.lean) -/
structure PeerW where
  ch : Chan := {}
  g : Glue := {}
  e : Hs
  /-- the calls the peer is going to make, in order -/
  prog : List Kind := []
  /-- calls of the peer that threw or hit an assert -/
  faults : Nat := 0

/-- the peer makes one call (timeout 0) -/
def PeerW.poll (C : Cfg) (P : HsP) (u : Bool) (dc ds : Bytes) (w : PeerW) (k : Kind) : PeerW :=
  let r := callOn C P (!u) ⟨w.g, w.e, w.ch⟩ (k.call (peerPay u dc ds))
  { w with g := r.2.g, e := r.2.e, ch := r.2.w, faults := w.faults + (if r.1 then 0 else 1) }

/-- the composition as a `Sys`: side `u` with glue `g` and engine `h`, the peer from the world -/
def mkSys (u : Bool) (g : Glue) (h : Hs) (w : PeerW) : Sys :=
  if u then { gc := g, ec := h, gs := w.g, es := w.e, ch := w.ch, faults := w.faults }
  else { gc := w.g, ec := w.e, gs := g, es := h, ch := w.ch, faults := w.faults }

theorem sysInv_mk (P : HsP) (u : Bool) (dc ds : Bytes) (g : Glue) (h : Hs) (w : PeerW) :
    SysInv P dc ds (mkSys u g h w) ↔ InvAt P u dc ds ⟨g, h, w.ch⟩ w.g w.e w.faults := by
  cases u
  · exact sysInv_put P dc ds (mkSys false g h w) false ⟨g, h, w.ch⟩ w.faults
  · exact sysInv_put P dc ds (mkSys true g h w) true ⟨g, h, w.ch⟩ w.faults

theorem sysInv_upd (P : HsP) (u : Bool) (dc ds : Bytes) (g g' : Glue) (h h' : Hs) (w : PeerW) (ch' : Chan)
    (hinv : SysInv P dc ds (mkSys u g h w))
    (hside : SideInv P u (ownPay u dc ds) ⟨g', h', ch'⟩) (ht : Tr P u h w.ch h' ch') :
    SysInv P dc ds (mkSys u g' h' { w with ch := ch' }) :=
  (sysInv_mk P u dc ds g' h' _).mpr (((sysInv_mk P u dc ds g h w).mp hinv).move hside ht)

theorem sysInv_side (P : HsP) (u : Bool) (dc ds : Bytes) (g : Glue) (h : Hs) (w : PeerW)
    (hinv : SysInv P dc ds (mkSys u g h w)) : SideInv P u (ownPay u dc ds) ⟨g, h, w.ch⟩ :=
  ((sysInv_mk P u dc ds g h w).mp hinv).1

theorem sysInv_own (P : HsP) (u : Bool) (dc ds : Bytes) (g : Glue) (h : Hs) (w : PeerW)
    (hinv : SysInv P dc ds (mkSys u g h w)) : WF P h ∧ h.client = u :=
  have hs := sysInv_side P u dc ds g h w hinv
  ⟨hs.2.2.2.2.1, hs.2.2.2.1⟩

/-- no deadlock, seen from side `u`: while the composition is unfinished and side `u` cannot move, its peer can -/
theorem peer_can (P : HsP) (u : Bool) (dc ds : Bytes) (g : Glue) (h : Hs) (w : PeerW)
    (hinv : SysInv P dc ds (mkSys u g h w)) (hnf : h.stage < 3 ∨ w.e.stage < 3) (hno : ¬ CanProg u h w.ch) :
    CanProg (!u) w.e w.ch := by
  have hnf' : ¬ (mkSys u g h w).bothFinished := by
    intro hb
    cases u <;> simp [mkSys, Sys.bothFinished] at hb <;> omega
  rcases can_progress P dc ds _ hinv hnf' with hc | hc <;> cases u
  · exact hc
  · exact absurd hc hno
  · exact absurd hc hno
  · exact hc

theorem mkSys_poll (C : Cfg) (P : HsP) (u : Bool) (dc ds : Bytes) (g : Glue) (h : Hs) (w : PeerW) (k : Kind) :
    mkSys u g h (w.poll C P u dc ds k) = (mkSys u g h w).step C P (!u) (k.call (peerPay u dc ds)) := by
  cases u <;> simp [mkSys, PeerW.poll, Sys.step]

theorem mkSys_prog (u : Bool) (g : Glue) (h : Hs) (w : PeerW) (p : List Kind) :
    mkSys u g h { w with prog := p } = mkSys u g h w := by
  cases u <;> rfl

theorem mkSys_eng (u : Bool) (g : Glue) (h : Hs) (w : PeerW) :
    (mkSys u g h w).eng u = h ∧ (mkSys u g h w).eng (!u) = w.e ∧ (mkSys u g h w).ch = w.ch := by
  cases u <;> simp [mkSys, Sys.eng]

/-- one call of the polling peer -/
theorem poll_spec (C : Cfg) (hC : 1 < C.stepsMax) (P : HsP) (u : Bool) (dc ds : Bytes) (hdc : dc ≠ []) (hds : ds ≠ [])
    (g : Glue) (h : Hs) (w : PeerW) (hinv : SysInv P dc ds (mkSys u g h w)) (k : Kind) (hk : k.ok) :
    SysInv P dc ds (mkSys u g h (w.poll C P u dc ds k)) ∧
    work P (w.poll C P u dc ds k).e ≤ work P w.e ∧
    (CanProg (!u) w.e w.ch → work P (w.poll C P u dc ds k).e < work P w.e) ∧
    w.e.stage ≤ (w.poll C P u dc ds k).e.stage ∧
    w.ch.inb u ≤ (w.poll C P u dc ds k).ch.inb u := by
  have hcall : k.call (peerPay u dc ds) = .send (ownPay (!u) dc ds) ∨ ∃ n, 1 ≤ n ∧ k.call (peerPay u dc ds) = .recv n := by
    cases k with
    | send => left; cases u <;> rfl
    | recv n => exact Or.inr ⟨n, hk, rfl⟩
  obtain ⟨i1, _, t1, p1⟩ := step_spec C hC P dc ds _ hinv (!u) (ownPay_ne hdc hds _) _ hcall
  rw [← mkSys_poll] at i1 t1 p1
  obtain ⟨_, e2, e3⟩ := mkSys_eng u g h w
  obtain ⟨_, e2', e3'⟩ := mkSys_eng u g h (w.poll C P u dc ds k)
  rw [e2, e3, e2', e3'] at t1
  rw [e2, e3, e2'] at p1
  have hio : ∀ c : Chan, c.inb u = c.out (!u) := fun c => by cases u <;> rfl
  exact ⟨i1, t1.wk, p1, t1.st, by rw [hio, hio]; exact t1.outLe⟩

/-! ### a finite schedule -/

theorem progCalls_append (C : Cfg) (P : HsP) (dc ds : Bytes) (l1 l2 : List Act) (y : Sys) :
    progCalls C P dc ds (l1 ++ l2) y = progCalls C P dc ds l1 y + progCalls C P dc ds l2 (Sys.run C P dc ds l1 y) := by
  induction l1 generalizing y with
  | nil => simp [progCalls, run_nil]
  | cons a l ih =>
    simp only [List.cons_append, progCalls, run_cons, ih]
    omega

/-- every schedule: the invariant is kept (so no call throws or asserts), stages only advance, and the measure
falls by at least the number of calls made by a side that could progress -/
theorem run_spec (C : Cfg) (hC : 1 < C.stepsMax) (P : HsP) (dc ds : Bytes) (hdc : dc ≠ []) (hds : ds ≠ []) :
    ∀ (l : List Act) (y : Sys), SysInv P dc ds y → (∀ a ∈ l, a.ok) →
      SysInv P dc ds (Sys.run C P dc ds l y) ∧
      mu P (Sys.run C P dc ds l y) + progCalls C P dc ds l y ≤ mu P y ∧
      y.ec.stage ≤ (Sys.run C P dc ds l y).ec.stage ∧ y.es.stage ≤ (Sys.run C P dc ds l y).es.stage := by
  intro l
  induction l with
  | nil => intro y h _; exact ⟨h, by simp [progCalls, run_nil], Nat.le_refl _, Nat.le_refl _⟩
  | cons a l ih =>
    intro y h hok
    have r := act_spec C hC P dc ds hdc hds y h a (hok a (List.mem_cons_self ..))
    obtain ⟨j1, j2, j3, j4⟩ := ih _ r.inv (fun b hb => hok b (List.mem_cons_of_mem _ hb))
    rw [run_cons]
    refine ⟨j1, ?_, Nat.le_trans r.stC j3, Nat.le_trans r.stS j4⟩
    simp only [progCalls]
    by_cases hp : y.canProg a.client
    · have := r.muLt hp; rw [if_pos hp]; omega
    · have := r.muLe; rw [if_neg hp]; omega

def sysTS (C : Cfg) (hC : 1 < C.stepsMax) (P : HsP) (dc ds : Bytes) (hdc : dc ≠ []) (hds : ds ≠ []) : Fair.TS Sys Act where
  step := Sys.act C P dc ds
  inv := SysInv P dc ds
  mu := mu P
  side a := some a.client
  can y r := y.canProg r
  fin := Sys.bothFinished
  ok := Act.ok
  step_ok := by
    intro y a hy ha
    have r := act_spec C hC P dc ds hdc hds y hy a ha
    refine ⟨r.inv, r.muLe, ?_, ?_, fun hb => ⟨Nat.le_trans hb.1 r.stC, Nat.le_trans hb.2 r.stS⟩⟩
    · intro b hb hp
      cases hb
      exact r.muLt hp
    · intro b hb hp
      have : b = !a.client := by revert hb; cases b <;> cases a.client <;> simp
      subst this
      exact r.keep hp
  live := fun y hy hnf => can_progress P dc ds y hy hnf
  zero := fun y _ h => mu_zero_fin P y h

theorem sideFair_sys (C : Cfg) (hC : 1 < C.stepsMax) (P : HsP) (dc ds : Bytes) (hdc : dc ≠ []) (hds : ds ≠ [])
    (w : Nat) (l : List Act) (hf : SideFair w l) : (sysTS C hC P dc ds hdc hds).SideFair w l := by
  intro i hi
  obtain ⟨⟨a, ha, h1⟩, ⟨b, hb, h2⟩⟩ := hf i (by omega)
  exact ⟨⟨a, ha, congrArg some h1⟩, ⟨b, hb, congrArg some h2⟩⟩

theorem progFair_sys (C : Cfg) (hC : 1 < C.stepsMax) (P : HsP) (dc ds : Bytes) (hdc : dc ≠ []) (hds : ds ≠ [])
    (w : Nat) (l : List Act) (y : Sys) (hinv : SysInv P dc ds y) (hok : ∀ a ∈ l, a.ok)
    (hf : ProgFair C P dc ds w l y) : (sysTS C hC P dc ds hdc hds).Progressive w l y := by
  intro i hi hnf
  have hinv' := (run_spec C hC P dc ds hdc hds (l.take i) y hinv (fun a ha => hok a (List.mem_of_mem_take ha))).1
  have := (run_spec C hC P dc ds hdc hds ((l.drop i).take w) _ hinv'
    (fun a ha => hok a (List.mem_of_mem_drop (List.mem_of_mem_take ha)))).2.1
  have := hf i hi hnf
  show mu P (Sys.run C P dc ds ((l.drop i).take w) (Sys.run C P dc ds (l.take i) y)) < mu P (Sys.run C P dc ds (l.take i) y)
  omega

/-- the windows of a prefix of an infinite schedule -/
theorem sideFair_of_inf (w : Nat) (σ : Nat → Act) (hf : SideFairInf w σ) (k : Nat) :
    SideFair w ((List.range k).map σ) := by
  intro i hi
  simp only [List.length_map, List.length_range] at hi
  have key : ∀ j, j < w → σ (i + j) ∈ (((List.range k).map σ).drop i).take w := by
    intro j hj
    have hlen : j < ((((List.range k).map σ).drop i).take w).length := by
      simp only [List.length_take, List.length_drop, List.length_map, List.length_range]; omega
    have : ((((List.range k).map σ).drop i).take w)[j]'hlen = σ (i + j) := by
      simp [List.getElem_take, List.getElem_drop]
    rw [← this]
    exact List.getElem_mem hlen
  obtain ⟨⟨j1, hj1, hc1⟩, ⟨j2, hj2, hc2⟩⟩ := hf i
  exact ⟨⟨_, key j1 hj1, hc1⟩, ⟨_, key j2 hj2, hc2⟩⟩

/-- calls of side `r` do not touch the other side's engine -/
theorem onlySide_other (C : Cfg) (P : HsP) (dc ds : Bytes) (r : Bool) (l : List Act) (y : Sys) (hl : ∀ a ∈ l, a.client = r) :
    (Sys.run C P dc ds l y).eng (!r) = y.eng (!r) := by
  induction l generalizing y with
  | nil => rfl
  | cons a l ih =>
    rw [run_cons, ih _ (fun b hb => hl b (List.mem_cons_of_mem _ hb)), Sys.act, hl a (List.mem_cons_self ..), step_put, put_eng_other]

end SockModel.Hs
