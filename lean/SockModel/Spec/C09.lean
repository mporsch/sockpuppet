import SockModel.Model.UdpLemmas
/-!
# Spec.C09 - the property as an executable predicate over typed observations, the composed UDP
model, and the proof that the model satisfies the predicate for every history

`specStep` / `specRun` are what `./check C09` evaluates on the IMPLEMENTATION's transcript
(`Drive/C09.lean` parses every op line with its `->` observation lines into one `Obs` and calls exactly
these functions).  The reference book-keeping (`SpecSt`) mentions no model state: it is derived from
the operations the harness performed and the results the implementation reported - per receiver the
datagrams that must still be reported (in order), per async socket the datagrams that must still be
handed to the OS (in order), per async message the letter its future must show.

`sysStep` composes the model functions of `Model/Udp.lean` (`sendTo`, `netStep`, `receiveFrom`, `tqStep`)
into one system of sockets on one driver, and `modelTrace` lists the observations
this model produces for an arbitrary history of operations.  `model_satisfies_spec`: `specRun`
accepts `modelTrace` of every history.  So a `spec` verdict on the implementation is provably a
difference between implementation and model; the oracle is never stricter than the model.
-/
namespace SockModel.Udp
open SockModel.AsyncQ (Bytes Fut upd upd_same upd_other)

/-! ## vocabulary shared by spec, model and driver -/

/-- payload of message `id` (the harness' `Pat`, `harness/scen/udp.cpp`) -/
def pat (id j : Nat) : UInt8 := UInt8.ofNat ((id * 37 + j * 11 + (j / 251) * 3 + 1) % 256)
def content (id size : Nat) : Bytes := (List.range size).map (pat id)
/-- FNV-1a, the hash the harness prints instead of the payload -/
def fnv (bs : Bytes) : UInt64 :=
  bs.foldl (fun h b => (h ^^^ b.toUInt64) * 1099511628211) 14695981039346656037

theorem content_length (id size : Nat) : (content id size).length = size := by simp [content]

inductive Kind where
  | basic | buff | async
  deriving DecidableEq, Repr

def Kind.name : Kind → String
  | .basic => "basic" | .buff => "buff" | .async => "async"

/-- what the harness tells the OS shim to answer to the one `sendto` / wait of a `sendto` line -/
inductive Script where
  | pass | fail (e : Nat) | short (k : Nat) | timeout
  deriving DecidableEq, Repr

structure SockInfo where
  i : Nat
  kind : Kind
  rx : Nat          -- `rxBufSize` of the buffered / async level (0 = taken from SO_RCVBUF)
  deriving DecidableEq, Repr

def noLimit : Nat := 2 ^ 40
def maxPayload (fam : Nat) : Nat := if fam = 6 then 65527 else 65507
/-- bytes of room of a receive on socket `s`: the caller's `size` (basic) or `rxBufSize` -/
def room (s : SockInfo) (size : Nat) : Nat :=
  if s.kind = .basic then size else if s.rx = 0 then noLimit else s.rx

def futLetter : Fut → Char
  | .none => '?' | .pending => 'p' | .value => 'v' | .exn => 'e' | .broken => 'b'

def sameSet (a b : List Nat) : Bool := a.all b.contains && b.all a.contains && a.length == b.length

/-! ## typed observations -/

/-- result of a synchronous `SendTo` -/
inductive SendObs where
  | ret (n : Nat)
  | throwSystem (errno : Nat)
  | throwLogic
  | other (msg : String)        -- anything else (the text is the verdict message)
  deriving DecidableEq, Repr

/-- reported source of a datagram: ordinal of a bound socket, or something unknown -/
inductive Src where
  | ord (n : Nat)
  | unknown (txt : String)
  deriving DecidableEq, Repr

instance : ToString Src := ⟨fun | .ord n => toString n | .unknown t => t⟩

/-- the `st fut=... ret=...` line: letter of every async future (in `SendTo` order), message ids
whose buffer is back in the pool -/
structure StObs where
  futs : List Char
  ret : List Nat
  deriving DecidableEq, Repr

/-- result of the one `sendto` of a `DriverSendTo` as seen at the libc boundary -/
inductive SysRes where
  | full                 -- returned the length it was given
  | fail                 -- returned -1
  | other (txt : String)
  deriving DecidableEq, Repr

/-- what one `Driver::Step(0)` did -/
inductive StepEv where
  | nothing
  | recv (i len hash : Nat) (src : Src)       -- receive handler of socket `i` ran
  | sendto (i len : Nat) (res : SysRes)       -- socket `i` issued one `sendto` of `len` bytes
  | many                                      -- more than one socket task
  | threw (txt : String)
  deriving DecidableEq, Repr

inductive RecvObs where
  | got (len hash : Nat) (src : Src)
  | none
  | skipped                                   -- unlimited receive not attempted: socket not readable
  | failed (txt : String)
  deriving DecidableEq, Repr

/-- one operation of the harness together with what the implementation was observed to do -/
inductive Obs where
  | fam (f : Nat)
  | sock (i : Nat) (kind : Kind) (rx : Nat)
  | sendto (i j m len : Nat) (t : Int) (sc : Script) (r : SendObs)
  | asendNoBuf                                              -- harness pool empty: no `SendTo` happened
  | asend (i j m len : Nat) (st : StObs)
  | step (ev : StepEv) (st : StObs)
  | recv (i size : Nat) (t : Int) (r : RecvObs)
  | destroy (i : Nat) (st : StObs)
  | abort (txt : String)                                    -- crash / hang
  deriving DecidableEq, Repr

/-! ## the property on the observations -/

structure SpecSt where
  fam : Nat := 4
  socks : List SockInfo := []
  /-- per receiver: datagrams `(payload, sender)` still to be reported, in order -/
  expect : Nat → List (Bytes × Nat) := fun _ => []
  /-- async message id ↦ the letter its future must show -/
  status : List (Nat × Char) := []
  /-- per async socket: queued `(message id, len, dst)`, oldest first -/
  pendq : Nat → List (Nat × Nat × Nat) := fun _ => []

def SpecSt.sock (s : SpecSt) (i : Nat) : Option SockInfo := s.socks.find? (·.i = i)
def SpecSt.letters (s : SpecSt) : List Char := s.status.map (·.2)
def SpecSt.resolvedIds (s : SpecSt) : List Nat := (s.status.filter (·.2 ≠ 'p')).map (·.1)
def SpecSt.deliver (s : SpecSt) (src dst : Nat) (p : Bytes) : SpecSt :=
  { s with expect := updL s.expect dst (s.expect dst ++ [(p, src)]) }
def setLetter (st : List (Nat × Char)) (m : Nat) (c : Char) : List (Nat × Char) :=
  st.map fun x => if x.1 = m then (x.1, c) else x

/-- "SendTo returns the full size, or 0 only when a limited timeout expired, never a partial
count" (and throws exactly when the OS failed).  `.ok sent`: did a datagram leave? -/
def specSendTo (fam len : Nat) (t : Int) (sc : Script) : SendObs → Except String Bool
  | .ret n =>
    if sc = .timeout ∧ t ≥ 0 then
      (if n = 0 then .ok false else .error s!"SendTo returned {n} although its wait timed out")
    else if n = len then .ok true
    else if n = 0 then .error s!"SendTo({len} bytes, timeout {t}) returned 0 although the wait did not time out"
    else .error s!"SendTo({len} bytes) returned the partial count {n}"
  | .throwSystem e =>
    match sc with
    | .fail e' => if e = e' then .ok false else .error s!"SendTo reports errno {e}, the OS failed with {e'}"
    | _ =>
      if len > maxPayload fam ∧ e = 90 then .ok false
      else .error s!"SendTo({len} bytes) threw system_error {e} although the OS accepted the datagram"
  | .throwLogic =>
    match sc with
    | .short k =>
      if k < len ∧ ¬ len > maxPayload fam then .ok true
      else .error "logic_error although sendto returned the full size"
    | _ => .error "SendTo threw logic_error"
  | .other msg => .error msg

/-- the state line: "a future has a value iff its datagram was handed to the OS ..." -/
def specState (s : SpecSt) (st : StObs) : Option String :=
  if st.futs ≠ s.letters then
    some s!"futures are {String.ofList st.futs}, expected {String.ofList s.letters} (a future has a value iff its datagram was handed to the OS, an exception iff its sendto failed, later ones not held up)"
  else if ¬ sameSet st.ret s.resolvedIds then
    some s!"buffers back in the pool {st.ret} differ from the resolved futures {s.resolvedIds}"
  else none

/-- a report `(len, hash, src)` of receiver `i` with `room` bytes of room against the next expected datagram -/
def specReport (s : SpecSt) (i room len hash : Nat) (src : Src) : Except String SpecSt :=
  match s.expect i with
  | [] => .error s!"socket {i} reports a datagram ({len} bytes from {src}) although none is outstanding (duplicate or invented)"
  | (p, sender) :: rest =>
    let want := p.take room
    if len ≠ want.length ∨ hash ≠ (fnv want).toNat then
      .error s!"socket {i} reports {len} bytes (hash {hash}); the next datagram sent to it has {p.length} bytes, with {room} bytes of room the report must be its first {want.length} bytes (hash {fnv want})"
    else if src ≠ .ord sender then
      .error s!"socket {i} reports source {src}, the datagram was sent by socket {sender}"
    else .ok { s with expect := updL s.expect i rest }

def specEv (s : SpecSt) : StepEv → Except String SpecSt
  | .threw txt => .error s!"Step threw ({txt}); a failed datagram must only affect its own future"
  | .many => .error "more than one socket task in one step"
  | .nothing =>
    -- "later datagrams are not held up": nothing may be left to do
    match (s.socks.filter (·.kind = .async)).find? (fun k => !(s.expect k.i).isEmpty || !(s.pendq k.i).isEmpty) with
    | some k => .error s!"Step did nothing although socket {k.i} has a datagram to {if (s.expect k.i).isEmpty then "send (held up)" else "receive"}"
    | none => .ok s
  | .recv i len hash src =>
    match s.sock i with
    | none => .error s!"unknown socket {i}"
    | some k => specReport s i (room k 0) len hash src
  | .sendto i len res =>
    match s.pendq i with
    | [] => .error s!"socket {i} issued a sendto although nothing is queued"
    | (m, mlen, dst) :: more =>
      if mlen ≠ len then .error s!"socket {i} sent {len} bytes, its oldest queued datagram has {mlen} (order / boundaries)"
      else
        match res with
        | .other txt => .error s!"sendto returned {txt}"
        | .full =>
          .ok ({ s with pendq := updL s.pendq i more, status := setLetter s.status m 'v' }.deliver i dst (content m len))
        | .fail => .ok { s with pendq := updL s.pendq i more, status := setLetter s.status m 'e' }

def specRecv (s : SpecSt) (i size : Nat) (t : Int) (r : RecvObs) : Except String SpecSt :=
  match s.sock i with
  | none => .error s!"unknown socket {i}"
  | some k =>
    match r with
    | .got len hash src => specReport s i (room k size) len hash src
    | .none =>
      if ¬ (s.expect i).isEmpty then
        .error s!"socket {i} reports nothing although {(s.expect i).length} datagram(s) sent to it are outstanding (loss)"
      else if t < 0 then .error "an unlimited ReceiveFrom returned nullopt"
      else .ok s
    | .skipped =>
      if ¬ (s.expect i).isEmpty then
        .error s!"socket {i} is not readable although {(s.expect i).length} datagram(s) sent to it are outstanding (loss)"
      else .ok s
    | .failed txt => .error s!"ReceiveFrom failed: {txt}"

def withState (s : SpecSt) (st : StObs) : Except String SpecSt :=
  match specState s st with
  | some msg => .error msg
  | none => .ok s

def specStep (s : SpecSt) : Obs → Except String SpecSt
  | .abort txt => .error txt
  | .fam f => .ok { s with fam := f }
  | .sock i kind rx => .ok { s with socks := s.socks ++ [⟨i, kind, rx⟩] }
  | .sendto i j m len t sc r =>
    match specSendTo s.fam len t sc r with
    | .error msg => .error msg
    | .ok sent => .ok (if sent then s.deliver i j (content m len) else s)
  | .asendNoBuf => .ok s
  | .asend i j m len st =>
    withState { s with status := s.status ++ [(m, 'p')], pendq := updL s.pendq i (s.pendq i ++ [(m, len, j)]) } st
  | .step ev st =>
    match specEv s ev with
    | .error msg => .error msg
    | .ok s' => withState s' st
  | .recv i size t r => specRecv s i size t r
  | .destroy i st =>
    let dead := (s.pendq i).map (·.1)
    withState { s with socks := s.socks.filter (·.i ≠ i), pendq := updL s.pendq i [], expect := updL s.expect i [],
                       status := s.status.map (fun x => if dead.contains x.1 then (x.1, 'b') else x) } st

def specRun (s : SpecSt) : List Obs → Except String SpecSt
  | [] => .ok s
  | o :: os => match specStep s o with | .ok s' => specRun s' os | .error e => .error e

/-! ## the composed model: sockets of the three API levels on one driver

State = the datagram network (`Net`), one `SendToQ` (`TQ`) per socket ordinal, the live sockets in
registration order and the async message ids in `SendTo` order.  An operation that the harness would
not perform (`can` in `harness/scen/udp.cpp`: unknown / destroyed socket, synchronous call on an async
socket, re-used message id; additionally: a socket ordinal is never re-used) changes nothing and
produces no observation. -/

structure Sys where
  fam : Nat := 4
  socks : List SockInfo := []       -- live sockets, registration order
  gone : List Nat := []             -- ordinals of destroyed sockets
  net : Net := {}
  tq : Nat → TQ := fun _ => {}
  ids : List (Nat × Nat) := []      -- (message id, async socket) in `SendTo` order

inductive Op where
  | fam (f : Nat)
  | sock (i : Nat) (kind : Kind) (rx : Nat)
  /-- `SendTo(payload m of len bytes, address of j, timeout t)` on socket `i`, OS scripted with `sc` -/
  | sendto (i j m len : Nat) (t : Int) (sc : Script)
  /-- async `SendTo`; `nobuf`: the harness has no buffer left (environment's choice) -/
  | asend (i j m len : Nat) (nobuf : Bool)
  /-- `Driver::Step(0)`; `osFail`: answer of the OS to a `sendto` issued in this step, if any -/
  | step (osFail : Bool)
  | recv (i size : Nat) (t : Int)
  | destroy (i : Nat)
  deriving Repr

def updT (f : Nat → TQ) (i : Nat) (v : TQ) : Nat → TQ := fun x => if x = i then v else f x

/-- OS answers determined by the script and by the kernel's size limit (`EMSGSIZE`) -/
def osWait (sc : Script) : WaitAns := if sc = .timeout then .timedOut else .ready
def osSend (fam len : Nat) : Script → SendAns
  | .fail _ => .fail
  | .short k => if len > maxPayload fam then .fail else .accept (min k len)
  | _ => if len > maxPayload fam then .fail else .accept len
def osErrno : Script → Nat
  | .fail e => e
  | _ => 90

def Sys.sock (s : Sys) (i : Nat) : Option SockInfo := s.socks.find? (·.i = i)
def Sys.letters (s : Sys) : List Char := s.ids.map fun x => futLetter ((s.tq x.2).fut x.1)
/-- message ids whose buffer went back to the pool (`TQ.returned`), in `SendTo` order -/
def Sys.ret (s : Sys) : List Nat := (s.ids.filter fun x => (s.tq x.2).returned.contains x.1).map (·.1)
def Sys.st (s : Sys) : StObs := ⟨s.letters, s.ret⟩
/-- the socket the driver serves in this step: first async socket in registration order with an
event (readable: a datagram is queued; writable: `POLLOUT` armed) -/
def Sys.pick (s : Sys) : Option SockInfo :=
  (s.socks.filter (·.kind = .async)).find? (fun k => !(s.net.chan k.i).isEmpty || (s.tq k.i).armed)

def sendObsOf (sc : Script) : SendRes → SendObs
  | .ret n => .ret n
  | .logicError => .throwLogic
  | .systemError => .throwSystem (osErrno sc)

def reportObs (r : Report) : Nat × Nat × Src := (r.payload.length, (fnv r.payload).toNat, .ord r.src)

def sysStep (s : Sys) : Op → Sys × List Obs
  | .fam f => if s.socks = [] then ({ s with fam := f }, [.fam f]) else (s, [])
  | .sock i kind rx =>
    if (s.sock i).isSome ∨ i ∈ s.gone then (s, [])
    else ({ s with socks := s.socks ++ [⟨i, kind, rx⟩] }, [.sock i kind rx])
  | .sendto i j m len t sc =>
    match s.sock i, s.sock j with
    | some k, some _ =>
      if k.kind = .async then (s, [])
      else
        let r := sendTo len t (osWait sc) (osSend s.fam len sc)
        (if r.2 then { s with net := netStep s.net (.deliver i j (content m len)) } else s,
         [.sendto i j m len t sc (sendObsOf sc r.1)])
    | _, _ => (s, [])
  | .asend i j m len nobuf =>
    match s.sock i, s.sock j with
    | some k, some _ =>
      if k.kind ≠ .async ∨ m ∈ s.ids.map (·.1) then (s, [])
      else if nobuf then (s, [.asendNoBuf])
      else
        let s' := { s with tq := updT s.tq i (tqStep (s.tq i) (.enq m (content m len) j)), ids := s.ids ++ [(m, i)] }
        (s', [.asend i j m len s'.st])
    | _, _ => (s, [])
  | .step osFail =>
    match s.pick with
    | none => (s, [.step .nothing s.st])
    | some k =>
      match s.net.chan k.i with
      | d :: _ =>
        let rep := receiveFrom d (room k 0)
        let s' := { s with net := netStep s.net (.recv k.i (room k 0)) }
        (s', [.step (.recv k.i rep.payload.length (fnv rep.payload).toNat (.ord rep.src)) s'.st])
      | [] =>
        match (s.tq k.i).q with
        | [] => (s, [.step .nothing s.st])     -- unreachable: armed implies a queued element (`TInv.armedInv`)
        | e :: _ =>
          let s' := { s with tq := updT s.tq k.i (tqStep (s.tq k.i) (.writable (if osFail then .fail else .ok))),
                             net := if osFail then s.net else netStep s.net (.deliver k.i e.dst e.payload) }
          (s', [.step (.sendto k.i e.payload.length (if osFail then .fail else .full)) s'.st])
  | .recv i size t =>
    match s.sock i with
    | none => (s, [])
    | some k =>
      if k.kind = .async then (s, [])
      else
        match s.net.chan i with
        | [] => (s, [.recv i size t (if t < 0 then .skipped else .none)])
        | d :: _ =>
          let rep := receiveFrom d (room k size)
          ({ s with net := netStep s.net (.recv i (room k size)) },
           [.recv i size t (.got rep.payload.length (fnv rep.payload).toNat (.ord rep.src))])
  | .destroy i =>
    match s.sock i with
    | none => (s, [])
    | some _ =>
      let s' := { s with socks := s.socks.filter (·.i ≠ i), gone := i :: s.gone,
                         tq := updT s.tq i (tqStep (s.tq i) .destroy) }
      (s', [.destroy i s'.st])

/-- the observations the MODEL produces for a history -/
def modelTrace (s : Sys) : List Op → List Obs
  | [] => []
  | op :: ops => (sysStep s op).2 ++ modelTrace (sysStep s op).1 ops

/-! ## the model satisfies the spec -/

@[simp] theorem updT_same (f : Nat → TQ) (i : Nat) (v : TQ) : updT f i v i = v := by simp [updT]
theorem updT_other (f : Nat → TQ) (i : Nat) (v : TQ) (x : Nat) (h : x ≠ i) : updT f i v x = f x := by
  simp [updT, h]

/-- model → observer: a datagram queued in the network as the pair the observer expects to be reported -/
def dg (d : Dgram) : Bytes × Nat := (d.payload, d.src)
/-- observer → model: the observer's `(message id, len, dst)` as the element the `SendToQ` holds -/
def el (x : Nat × Nat × Nat) : TElem := ⟨x.1, content x.1 x.2.1, x.2.2⟩

/-- what the observer's book-keeping knows about the model state -/
structure Rel (m : Sys) (s : SpecSt) : Prop where
  fam : s.fam = m.fam
  socks : s.socks = m.socks
  expect : ∀ i, i ∉ m.gone → s.expect i = (m.net.chan i).map dg
  pendq : ∀ i, (m.tq i).q = (s.pendq i).map el
  status : s.status = m.ids.map (fun x => (x.1, futLetter ((m.tq x.2).fut x.1)))

/-- invariant of the composed model (every reachable state) -/
structure SInv (m : Sys) : Prop where
  tinv : ∀ i, TInv (m.tq i)
  live : ∀ k ∈ m.socks, k.i ∉ m.gone
  destr : ∀ i, (m.tq i).destroyed = true → i ∈ m.gone
  nodupSocks : (m.socks.map (·.i)).Nodup
  nodupIds : (m.ids.map (·.1)).Nodup
  own : ∀ i, ∀ e ∈ (m.tq i).enqd, (e.id, i) ∈ m.ids
  idsFut : ∀ x ∈ m.ids, (m.tq x.2).fut x.1 ≠ .none

theorem rel_init : Rel {} {} := ⟨rfl, rfl, fun _ _ => rfl, fun _ => rfl, rfl⟩
theorem sinv_init : SInv {} := by
  refine ⟨fun _ => tInv_init, ?_, ?_, List.nodup_nil, List.nodup_nil, ?_, ?_⟩
  · intro k hk; cases hk
  · intro i h; cases h
  · intro i e he; cases he
  · intro x hx; cases hx

theorem sameSet_refl (a : List Nat) : sameSet a a = true := by
  simp [sameSet]

theorem sock_mem {m : Sys} {i : Nat} {k : SockInfo} (h : m.sock i = some k) : k ∈ m.socks ∧ k.i = i := by
  unfold Sys.sock at h
  exact ⟨List.mem_of_find?_eq_some h, by simpa using List.find?_some h⟩

theorem letter_p {f : Fut} (hf : f ≠ .none) : (futLetter f ≠ 'p') = (f.resolved = true) := by
  cases f <;> simp [futLetter, Fut.resolved] at hf ⊢

theorem state_ok {m : Sys} {s : SpecSt} (inv : SInv m) (rel : Rel m s) : specState s m.st = none := by
  have h1 : s.letters = m.letters := by
    simp [SpecSt.letters, Sys.letters, rel.status, List.map_map, Function.comp_def]
  have h2 : s.resolvedIds = m.ret := by
    simp only [SpecSt.resolvedIds, Sys.ret, rel.status, List.filter_map, List.map_map]
    congr 1
    apply List.filter_congr
    intro x hx
    have hl := letter_p (inv.idsFut x hx)
    rw [← (inv.tinv x.2).returned_iff x.1] at hl
    simp [← hl]
  simp only [specState, Sys.st, h1, h2, ne_eq, not_true_eq_false, if_false, sameSet_refl]

theorem withState_ok {m : Sys} {s : SpecSt} (inv : SInv m) (rel : Rel m s) : withState s m.st = .ok s := by
  simp [withState, state_ok inv rel]


theorem sinv_net {m : Sys} (inv : SInv m) (n : Net) : SInv { m with net := n } := { inv with }

theorem rel_deliver {m : Sys} {s : SpecSt} (rel : Rel m s) (i j : Nat) (p : Bytes) :
    Rel { m with net := netStep m.net (.deliver i j p) } (s.deliver i j p) := by
  refine { rel with expect := ?_ }
  intro x hx
  simp only [SpecSt.deliver, netStep]
  by_cases h : x = j
  · subst h; simp [rel.expect x hx, dg]
  · rw [updL_other _ _ _ _ h, updL_other _ _ _ _ h]; exact rel.expect x hx

theorem pendq_upd {m : Sys} {s : SpecSt} (rel : Rel m s) (i : Nat) {tq' : TQ} {l : List (Nat × Nat × Nat)}
    (h : tq'.q = l.map el) (x : Nat) : (updT m.tq i tq' x).q = (updL s.pendq i l x).map el := by
  by_cases hx : x = i
  · rw [hx, updT_same, updL_same, h]
  · rw [updT_other _ _ _ _ hx, updL_other _ _ _ _ hx]; exact rel.pendq x

theorem report_ok {m : Sys} {s : SpecSt} (rel : Rel m s) {i : Nat} (hi : i ∉ m.gone) {d : Dgram} {rest : List Dgram}
    (hc : m.net.chan i = d :: rest) (rm : Nat) :
    ∃ s', specReport s i rm (receiveFrom d rm).payload.length (fnv (receiveFrom d rm).payload).toNat (.ord (receiveFrom d rm).src) = .ok s' ∧
      Rel { m with net := netStep m.net (.recv i rm) } s' := by
  have he : s.expect i = (d.payload, d.src) :: rest.map dg := by rw [rel.expect i hi, hc]; rfl
  refine ⟨{ s with expect := updL s.expect i (rest.map dg) }, ?_, ?_⟩
  · simp [specReport, he, receiveFrom]
  · refine { rel with expect := ?_ }
    intro x hx
    simp only [netStep, hc]
    by_cases h : x = i
    · subst h; simp
    · rw [updL_other _ _ _ _ h, updL_other _ _ _ _ h]; exact rel.expect x hx

theorem sendTo_spec (fam len : Nat) (t : Int) (sc : Script) :
    specSendTo fam len t sc (sendObsOf sc (sendTo len t (osWait sc) (osSend fam len sc)).1)
      = .ok (sendTo len t (osWait sc) (osSend fam len sc)).2 := by
  cases sc with
  | fail e => simp [sendTo, sendNow, osWait, osSend, sendObsOf, specSendTo, osErrno]
  | pass =>
    by_cases hbig : len > maxPayload fam <;>
      simp [sendTo, sendNow, osWait, osSend, sendObsOf, specSendTo, osErrno, hbig]
  | timeout =>
    by_cases ht : 0 ≤ t
    · simp [sendTo, osWait, sendObsOf, specSendTo, ht]
    · by_cases hbig : len > maxPayload fam <;>
        simp [sendTo, sendNow, osWait, osSend, sendObsOf, specSendTo, osErrno, hbig, ht]
  | short k =>
    by_cases hbig : len > maxPayload fam
    · simp [sendTo, sendNow, osWait, osSend, sendObsOf, specSendTo, osErrno, hbig]
    · by_cases hk : k < len
      · have : min k len ≠ len := by omega
        simp [sendTo, sendNow, osWait, osSend, sendObsOf, specSendTo, hbig, hk, this]
      · have : min k len = len := by omega
        simp [sendTo, sendNow, osWait, osSend, sendObsOf, specSendTo, hbig, this]

theorem specRun_single {s s' : SpecSt} {o : Obs} (h : specStep s o = .ok s') : specRun s [o] = .ok s' := by
  simp [specRun, h]

theorem sock_of_mem {m : Sys} (inv : SInv m) {k : SockInfo} (hk : k ∈ m.socks) : m.sock k.i = some k :=
  find_of_mem_nodup (key := fun x : SockInfo => x.i) inv.nodupSocks hk

theorem spec_sock {m : Sys} {s : SpecSt} (rel : Rel m s) (i : Nat) : s.sock i = m.sock i := by
  simp [SpecSt.sock, Sys.sock, rel.socks]

theorem live_tq {m : Sys} (inv : SInv m) {k : SockInfo} (hk : k ∈ m.socks) : (m.tq k.i).destroyed = false := by
  cases hd : (m.tq k.i).destroyed with
  | false => rfl
  | true => exact absurd (inv.destr _ hd) (inv.live k hk)

theorem tinv_upd {m : Sys} (inv : SInv m) (i : Nat) (a : TAct) (x : Nat) :
    TInv (updT m.tq i (tqStep (m.tq i) a) x) := by
  by_cases h : x = i
  · subst h; rw [updT_same]; exact tInv_step (inv.tinv x) a
  · rw [updT_other _ _ _ _ h]; exact inv.tinv x

theorem fut_upd_ne {m : Sys} (i : Nat) (a : TAct) (x : Nat × Nat) (h : (m.tq x.2).fut x.1 ≠ .none) :
    (updT m.tq i (tqStep (m.tq i) a) x.2).fut x.1 ≠ .none := by
  by_cases hx : x.2 = i
  · rw [hx, updT_same]; rw [hx] at h; exact (tq_frame _ a).2.2 _ h
  · rw [updT_other _ _ _ _ hx]; exact h

/-- the invariant survives an action `a` on the queue of socket `i`, whatever happens to the socket lists, the
registered ids and the network at the same time, under the side conditions that tie those to `a` -/
theorem sinv_act {m m' : Sys} (inv : SInv m) (i : Nat) (a : TAct) (htq : m'.tq = updT m.tq i (tqStep (m.tq i) a))
    (live : ∀ k ∈ m'.socks, k.i ∉ m'.gone) (hgone : ∀ x ∈ m.gone, x ∈ m'.gone) (hdes : a = .destroy → i ∈ m'.gone)
    (nodupSocks : (m'.socks.map (·.i)).Nodup) (nodupIds : (m'.ids.map (·.1)).Nodup)
    (hids : ∀ x ∈ m.ids, x ∈ m'.ids) (henq : ∀ id p dst, a = .enq id p dst → (id, i) ∈ m'.ids)
    (hnew : ∀ x ∈ m'.ids, x ∉ m.ids → (m'.tq x.2).fut x.1 ≠ .none) : SInv m' := by
  refine ⟨fun x => by rw [htq]; exact tinv_upd inv i a x, live, ?_, nodupSocks, nodupIds, ?_, ?_⟩
  · intro x hx
    rw [htq] at hx
    by_cases hxi : x = i
    · rw [hxi, updT_same] at hx
      rcases (tq_frame _ a).1 hx with h | h
      · rw [hxi]; exact hgone i (inv.destr i h)
      · rw [hxi]; exact hdes h
    · rw [updT_other _ _ _ _ hxi] at hx; exact hgone x (inv.destr x hx)
  · intro x e he
    rw [htq] at he
    by_cases hxi : x = i
    · rw [hxi, updT_same] at he
      rcases (tq_frame _ a).2.1 e he with h | ⟨p, dst, h⟩
      · rw [hxi]; exact hids _ (inv.own i e h)
      · rw [hxi]; exact henq _ p dst h
    · rw [updT_other _ _ _ _ hxi] at he; exact hids _ (inv.own x e he)
  · intro x hx
    by_cases hold : x ∈ m.ids
    · rw [htq]; exact fut_upd_ne i a x (inv.idsFut x hold)
    · exact hnew x hx hold

/-- the queue of a live socket is non-empty iff `POLLOUT` is armed iff the observer has a pending entry -/
theorem armed_iff {m : Sys} {s : SpecSt} (inv : SInv m) (rel : Rel m s) {k : SockInfo} (hk : k ∈ m.socks) :
    (m.tq k.i).armed = !(s.pendq k.i).isEmpty := by
  rw [Bool.eq_iff_iff, (inv.tinv k.i).armedInv (live_tq inv hk), rel.pendq k.i]
  cases s.pendq k.i <;> simp

theorem expect_empty {m : Sys} {s : SpecSt} (inv : SInv m) (rel : Rel m s) {k : SockInfo} (hk : k ∈ m.socks) :
    (s.expect k.i).isEmpty = (m.net.chan k.i).isEmpty := by
  rw [rel.expect k.i (inv.live k hk)]; simp


theorem step_fam {m : Sys} {s : SpecSt} (inv : SInv m) (rel : Rel m s) (f : Nat) :
    ∃ s', specRun s (sysStep m (.fam f)).2 = .ok s' ∧ Rel (sysStep m (.fam f)).1 s' ∧ SInv (sysStep m (.fam f)).1 := by
  simp only [sysStep]
  split
  · exact ⟨{ s with fam := f }, rfl, { rel with fam := rfl }, { inv with }⟩
  · exact ⟨s, rfl, rel, inv⟩

theorem step_sock {m : Sys} {s : SpecSt} (inv : SInv m) (rel : Rel m s) (i : Nat) (kind : Kind) (rx : Nat) :
    ∃ s', specRun s (sysStep m (.sock i kind rx)).2 = .ok s' ∧ Rel (sysStep m (.sock i kind rx)).1 s' ∧
      SInv (sysStep m (.sock i kind rx)).1 := by
  simp only [sysStep]
  split
  · exact ⟨s, rfl, rel, inv⟩
  · rename_i hc
    simp only [not_or] at hc
    have hnone : ∀ k ∈ m.socks, k.i ≠ i := by
      intro k hk he
      have := sock_of_mem inv hk
      rw [he] at this
      rw [this] at hc; simp at hc
    refine ⟨{ s with socks := s.socks ++ [⟨i, kind, rx⟩] }, rfl,
      { rel with socks := by simp [rel.socks] }, ?_⟩
    refine { inv with live := ?_, nodupSocks := ?_ }
    · intro k hk
      simp only [List.mem_append, List.mem_singleton] at hk
      rcases hk with hk | rfl
      · exact inv.live k hk
      · exact hc.2
    · simp only [List.map_append, List.map_cons, List.map_nil]
      refine nodup_snoc inv.nodupSocks (fun ha => ?_)
      obtain ⟨k, hk, hki⟩ := List.mem_map.mp ha
      exact hnone k hk hki

theorem step_sendto {m : Sys} {s : SpecSt} (inv : SInv m) (rel : Rel m s) (i j mm len : Nat) (t : Int) (sc : Script) :
    ∃ s', specRun s (sysStep m (.sendto i j mm len t sc)).2 = .ok s' ∧ Rel (sysStep m (.sendto i j mm len t sc)).1 s' ∧
      SInv (sysStep m (.sendto i j mm len t sc)).1 := by
  simp only [sysStep]
  split
  · split
    · exact ⟨s, rfl, rel, inv⟩
    · have hs := sendTo_spec m.fam len t sc
      cases hd : (sendTo len t (osWait sc) (osSend m.fam len sc)).2 with
      | false =>
        rw [hd] at hs
        refine ⟨s, ?_, by simpa using rel, by simpa using inv⟩
        apply specRun_single
        simp [specStep, rel.fam, hs]
      | true =>
        rw [hd] at hs
        refine ⟨s.deliver i j (content mm len), ?_, by simpa using rel_deliver rel i j _, by simpa using sinv_net inv _⟩
        apply specRun_single
        simp [specStep, rel.fam, hs]
  · exact ⟨s, rfl, rel, inv⟩

theorem step_recv {m : Sys} {s : SpecSt} (inv : SInv m) (rel : Rel m s) (i size : Nat) (t : Int) :
    ∃ s', specRun s (sysStep m (.recv i size t)).2 = .ok s' ∧ Rel (sysStep m (.recv i size t)).1 s' ∧
      SInv (sysStep m (.recv i size t)).1 := by
  simp only [sysStep]
  split
  · exact ⟨s, rfl, rel, inv⟩
  · rename_i k hk
    have hmem := sock_mem hk
    have hgone : i ∉ m.gone := by have := inv.live k hmem.1; rwa [hmem.2] at this
    split
    · exact ⟨s, rfl, rel, inv⟩
    · split
      · rename_i hc
        have he : s.expect i = [] := by rw [rel.expect i hgone, hc]; rfl
        refine ⟨s, ?_, rel, inv⟩
        apply specRun_single
        by_cases ht : t < 0 <;> simp [specStep, specRecv, spec_sock rel, hk, he, ht]
      · rename_i d rest hc
        obtain ⟨s', h1, h2⟩ := report_ok rel hgone hc (room k size)
        refine ⟨s', ?_, h2, sinv_net inv _⟩
        apply specRun_single
        simp only [specStep, specRecv, spec_sock rel, hk]
        exact h1


/-- an id that is not registered has no future in any queue -/
theorem fut_none_of_fresh {m : Sys} (inv : SInv m) {mm : Nat} (h : mm ∉ m.ids.map (·.1)) (i : Nat) :
    (m.tq i).fut mm = .none := by
  apply (inv.tinv i).futn
  intro hm
  obtain ⟨e, he, rfl⟩ := List.mem_map.mp hm
  exact h (List.mem_map_of_mem (f := (·.1)) (inv.own i e he))

theorem step_asend {m : Sys} {s : SpecSt} (inv : SInv m) (rel : Rel m s) (i j mm len : Nat) (nobuf : Bool) :
    ∃ s', specRun s (sysStep m (.asend i j mm len nobuf)).2 = .ok s' ∧ Rel (sysStep m (.asend i j mm len nobuf)).1 s' ∧
      SInv (sysStep m (.asend i j mm len nobuf)).1 := by
  simp only [sysStep]
  split
  · rename_i k k' hk hk'
    split
    · exact ⟨s, rfl, rel, inv⟩
    · rename_i hc
      simp only [not_or, Decidable.not_not] at hc
      obtain ⟨_, hfresh⟩ := hc
      split
      · exact ⟨s, rfl, rel, inv⟩
      · have hmem := sock_mem hk
        have hdes : (m.tq i).destroyed = false := by have := live_tq inv hmem.1; rwa [hmem.2] at this
        have hnone := fut_none_of_fresh inv hfresh i
        have htq := tq_enq (content mm len) j hdes hnone
        -- the new model and observer states
        let m' : Sys := { m with tq := updT m.tq i (tqStep (m.tq i) (.enq mm (content mm len) j)), ids := m.ids ++ [(mm, i)] }
        let s1 : SpecSt := { s with status := s.status ++ [(mm, 'p')], pendq := updL s.pendq i (s.pendq i ++ [(mm, len, j)]) }
        have hfut_old : ∀ x ∈ m.ids, (m'.tq x.2).fut x.1 = (m.tq x.2).fut x.1 := by
          intro x hx
          have hne : x.1 ≠ mm := by intro he; apply hfresh; rw [← he]; exact List.mem_map_of_mem (f := (·.1)) hx
          show (updT m.tq i _ x.2).fut x.1 = _
          by_cases hxi : x.2 = i
          · rw [hxi, updT_same, htq]; exact upd_other _ _ _ _ hne
          · rw [updT_other _ _ _ _ hxi]
        have rel' : Rel m' s1 := by
          refine { rel with pendq := ?_, status := ?_ }
          · exact pendq_upd rel i (by rw [htq]; simp [rel.pendq i, el])
          · show s.status ++ [(mm, 'p')] = (m.ids ++ [(mm, i)]).map _
            rw [List.map_append, rel.status]
            congr 1
            · apply List.map_congr_left
              intro x hx
              rw [hfut_old x hx]
            · show _ = [(mm, futLetter ((updT m.tq i _ i).fut mm))]
              rw [updT_same, htq]; simp [futLetter]
        have inv' : SInv m' := by
          refine sinv_act inv i _ rfl inv.live (fun _ h => h) (fun h => nomatch h) inv.nodupSocks ?_
            (fun _ h => List.mem_append_left _ h) ?_ ?_
          · show ((m.ids ++ [(mm, i)]).map (·.1)).Nodup
            rw [List.map_append]; exact nodup_snoc inv.nodupIds hfresh
          · intro id p dst h
            cases h
            exact List.mem_append_right _ (List.mem_singleton.mpr rfl)
          · intro x hx hold
            rcases List.mem_append.mp (show x ∈ m.ids ++ [(mm, i)] from hx) with h | h
            · exact absurd h hold
            · rw [List.mem_singleton.mp h]
              show (updT m.tq i _ i).fut mm ≠ .none
              rw [updT_same, htq]; simp
        refine ⟨s1, ?_, rel', inv'⟩
        apply specRun_single
        simp only [specStep]
        exact withState_ok inv' rel'
  · exact ⟨s, rfl, rel, inv⟩


theorem q_ids {m : Sys} {s : SpecSt} (rel : Rel m s) (i : Nat) : (m.tq i).q.map (·.id) = (s.pendq i).map (·.1) := by
  rw [rel.pendq i, List.map_map]; rfl

theorem q_owned {m : Sys} (inv : SInv m) {i : Nat} {e : TElem} (he : e ∈ (m.tq i).q) : (e.id, i) ∈ m.ids := by
  apply inv.own i e
  rw [(inv.tinv i).enqd]; exact List.mem_append_right _ he

/-- letters after the queue of socket `i` was replaced by `tq'`: an id queued at `i` is registered for `i` only, so
relabelling the ids in `P` (all queued at `i`) as `tq'` does gives the new status -/
theorem status_upd {m : Sys} {s : SpecSt} (inv : SInv m) (rel : Rel m s) (i : Nat) (tq' : TQ) (P : Nat → Prop)
    [DecidablePred P] (c : Char) (hP : ∀ id, P id → id ∈ (m.tq i).q.map (·.id))
    (hfut : ∀ id, futLetter (tq'.fut id) = if P id then c else futLetter ((m.tq i).fut id)) :
    s.status.map (fun x => if P x.1 then (x.1, c) else x) =
      m.ids.map fun x => (x.1, futLetter ((updT m.tq i tq' x.2).fut x.1)) := by
  rw [rel.status, List.map_map]
  apply List.map_congr_left
  intro x hx
  simp only [Function.comp_def]
  by_cases hxi : x.2 = i
  · rw [hxi, updT_same, hfut]; split <;> rfl
  · rw [updT_other _ _ _ _ hxi, if_neg]
    intro hp
    obtain ⟨e, he, hex⟩ := List.mem_map.mp (hP _ hp)
    have h1 := q_owned inv he
    rw [hex] at h1
    exact hxi (Prod.mk.inj (nodup_map_inj (f := fun p : Nat × Nat => p.1) inv.nodupIds hx h1 rfl)).2

theorem step_destroy {m : Sys} {s : SpecSt} (inv : SInv m) (rel : Rel m s) (i : Nat) :
    ∃ s', specRun s (sysStep m (.destroy i)).2 = .ok s' ∧ Rel (sysStep m (.destroy i)).1 s' ∧
      SInv (sysStep m (.destroy i)).1 := by
  simp only [sysStep]
  split
  · exact ⟨s, rfl, rel, inv⟩
  · rename_i k hk
    have hmem := sock_mem hk
    have hdes : (m.tq i).destroyed = false := by have := live_tq inv hmem.1; rwa [hmem.2] at this
    obtain ⟨hq', hd', hf'⟩ := tq_destroy hdes
    let m' : Sys := { m with socks := m.socks.filter (·.i ≠ i), gone := i :: m.gone,
                             tq := updT m.tq i (tqStep (m.tq i) .destroy) }
    let s1 : SpecSt := { s with socks := s.socks.filter (·.i ≠ i), pendq := updL s.pendq i [], expect := updL s.expect i [],
                                status := s.status.map (fun x => if ((s.pendq i).map (·.1)).contains x.1 then (x.1, 'b') else x) }
    have rel' : Rel m' s1 := by
      refine ⟨rel.fam, ?_, ?_, ?_, ?_⟩
      · show s.socks.filter _ = m.socks.filter _
        rw [rel.socks]
      · intro x hx
        have hx' : x ∉ i :: m.gone := hx
        simp only [List.mem_cons, not_or] at hx'
        show updL s.expect i [] x = _
        rw [updL_other _ _ _ _ hx'.1]; exact rel.expect x hx'.2
      · exact pendq_upd rel i hq'
      · refine status_upd inv rel i _ (fun id => ((s.pendq i).map (·.1)).contains id = true) 'b' ?_ ?_
        · intro id hid
          rw [q_ids rel i]; simpa using hid
        · intro id
          rw [hf', ← q_ids rel i]
          by_cases hp : (m.tq i).fut id = .pending
          · simp [hp, ((inv.tinv i).ledger.pending_iff id).mp hp, futLetter]
          · simp [hp, mt ((inv.tinv i).ledger.pending_iff id).mpr hp]
    have inv' : SInv m' := by
      refine sinv_act inv i _ rfl ?_ (fun _ h => List.mem_cons_of_mem _ h) (fun _ => List.mem_cons_self)
        ?_ inv.nodupIds (fun _ h => h) (fun _ _ _ h => nomatch h) (fun x hx hold => absurd hx hold)
      · intro k' hk'
        have hk2 := List.mem_filter.mp (show k' ∈ m.socks.filter (·.i ≠ i) from hk')
        show k'.i ∉ i :: m.gone
        simp only [List.mem_cons, not_or]
        exact ⟨by simpa using hk2.2, inv.live k' hk2.1⟩
      · show ((m.socks.filter (·.i ≠ i)).map (·.i)).Nodup
        exact List.Nodup.sublist (List.Sublist.map _ List.filter_sublist) inv.nodupSocks
    refine ⟨s1, ?_, rel', inv'⟩
    apply specRun_single
    simp only [specStep]
    exact withState_ok inv' rel'


theorem pick_mem {m : Sys} {k : SockInfo} (h : m.pick = some k) :
    k ∈ m.socks ∧ (!(m.net.chan k.i).isEmpty || (m.tq k.i).armed) = true := by
  unfold Sys.pick at h
  have h1 := List.mem_of_find?_eq_some h
  have h2 := List.find?_some h
  exact ⟨(List.mem_filter.mp h1).1, h2⟩

theorem step_step {m : Sys} {s : SpecSt} (inv : SInv m) (rel : Rel m s) (osFail : Bool) :
    ∃ s', specRun s (sysStep m (.step osFail)).2 = .ok s' ∧ Rel (sysStep m (.step osFail)).1 s' ∧
      SInv (sysStep m (.step osFail)).1 := by
  simp only [sysStep]
  split
  · -- no socket has an event: the observer must have nothing outstanding on any async socket
    rename_i hpick
    refine ⟨s, ?_, rel, inv⟩
    apply specRun_single
    have hnone : (s.socks.filter (·.kind = .async)).find? (fun k => !(s.expect k.i).isEmpty || !(s.pendq k.i).isEmpty) = none := by
      rw [List.find?_eq_none]
      intro k hk
      rw [rel.socks] at hk
      have hks := (List.mem_filter.mp hk).1
      have hp := List.find?_eq_none.mp hpick k hk
      rw [expect_empty inv rel hks, ← armed_iff inv rel hks]
      exact hp
    simp only [specStep, specEv, hnone]
    exact withState_ok inv rel
  · rename_i k hpick
    obtain ⟨hks, hev⟩ := pick_mem hpick
    have hgone := inv.live k hks
    have hsock : s.sock k.i = some k := by rw [spec_sock rel]; exact sock_of_mem inv hks
    split
    · -- readable: the receive handler runs
      rename_i d rest hc
      obtain ⟨s', h1, h2⟩ := report_ok rel hgone hc (room k 0)
      have inv' := sinv_net inv (netStep m.net (.recv k.i (room k 0)))
      refine ⟨s', ?_, h2, inv'⟩
      apply specRun_single
      simp only [specStep, specEv, hsock, h1]
      exact withState_ok inv' h2
    · rename_i hc
      have harm : (m.tq k.i).armed = true := by simpa [hc] using hev
      have hdes := live_tq inv hks
      split
      · rename_i hq
        exact absurd hq (((inv.tinv k.i).armedInv hdes).mp harm)
      · -- writable: one `sendto` of the oldest queued datagram
        rename_i e erest hq
        have hpq := rel.pendq k.i
        rw [hq] at hpq
        cases hp : s.pendq k.i with
        | nil => rw [hp] at hpq; cases hpq
        | cons x more =>
          obtain ⟨mm, mlen, dst⟩ := x
          rw [hp] at hpq
          simp only [List.map_cons, List.cons.injEq] at hpq
          obtain ⟨he, hrest⟩ := hpq
          have heid : e.id = mm := by rw [he]; rfl
          have hedst : e.dst = dst := by rw [he]; rfl
          have hepl : e.payload = content mm mlen := by rw [he]; rfl
          have hlen : e.payload.length = mlen := by rw [hepl, content_length]
          have hw := tq_writable hdes harm hq (if osFail then .fail else .ok)
          have hq' := congrArg TQ.q hw
          have hf' := congrArg TQ.fut hw
          dsimp only at hq' hf'
          let tq' := updT m.tq k.i (tqStep (m.tq k.i) (.writable (if osFail then .fail else .ok)))
          let lt : Char := if osFail then 'e' else 'v'
          -- observer and model after the queue / future update, before the delivery
          let m1 : Sys := { m with tq := tq' }
          let s1 : SpecSt := { s with pendq := updL s.pendq k.i more, status := setLetter s.status mm lt }
          have rel1 : Rel m1 s1 := by
            refine { rel with pendq := ?_, status := ?_ }
            · exact pendq_upd rel k.i (hq'.trans hrest)
            · refine status_upd inv rel k.i _ (· = mm) lt ?_ ?_
              · intro id hid
                rw [hid, hq, ← heid]; exact List.mem_cons_self
              · intro id
                rw [hf', heid]
                by_cases hid : id = mm
                · rw [hid, upd_same, if_pos rfl]; cases osFail <;> rfl
                · rw [upd_other _ _ _ _ hid, if_neg hid]
          have inv1 : SInv m1 :=
            sinv_act inv k.i _ rfl inv.live (fun _ h => h) (fun h => nomatch h) inv.nodupSocks inv.nodupIds
              (fun _ h => h) (fun _ _ _ h => nomatch h) (fun x hx hold => absurd hx hold)
          cases osFail with
          | true =>
            refine ⟨s1, ?_, rel1, inv1⟩
            apply specRun_single
            simp only [specStep, specEv, hp, hlen, ne_eq, not_true_eq_false, if_false]
            exact withState_ok inv1 rel1
          | false =>
            have rel2 := rel_deliver rel1 k.i e.dst e.payload
            have inv2 := sinv_net inv1 (netStep m.net (.deliver k.i e.dst e.payload))
            refine ⟨s1.deliver k.i e.dst e.payload, ?_, rel2, inv2⟩
            apply specRun_single
            simp only [specStep, specEv, hp, hlen, ne_eq, not_true_eq_false, if_false]
            simp only [Bool.false_eq_true, if_false]
            rw [← hedst, ← hepl]
            exact withState_ok inv2 rel2


/-- one operation: the spec accepts the model's observations and relation + invariant are re-established -/
theorem spec_step_ok {m : Sys} {s : SpecSt} (inv : SInv m) (rel : Rel m s) (op : Op) :
    ∃ s', specRun s (sysStep m op).2 = .ok s' ∧ Rel (sysStep m op).1 s' ∧ SInv (sysStep m op).1 := by
  cases op with
  | fam f => exact step_fam inv rel f
  | sock i kind rx => exact step_sock inv rel i kind rx
  | sendto i j mm len t sc => exact step_sendto inv rel i j mm len t sc
  | asend i j mm len nobuf => exact step_asend inv rel i j mm len nobuf
  | step osFail => exact step_step inv rel osFail
  | recv i size t => exact step_recv inv rel i size t
  | destroy i => exact step_destroy inv rel i

theorem specRun_append (s : SpecSt) (a b : List Obs) :
    specRun s (a ++ b) = match specRun s a with | .ok s' => specRun s' b | .error e => .error e := by
  induction a generalizing s with
  | nil => rfl
  | cons o os ih =>
    simp only [List.cons_append, specRun]
    cases specStep s o with
    | ok s' => exact ih s'
    | error e => rfl

/-- **The property predicate that `./check C09` evaluates on the implementation is a theorem of the
model.**  For every history - any list, of any length, of `fam` / socket creation (three API levels,
any `rxBufSize`) / synchronous `SendTo` (any sender, receiver, size, timeout, OS script) / asynchronous
`SendTo` / `Driver::Step` (any OS answer to its `sendto`) / `ReceiveFrom` (any size, timeout) / socket
destruction operations with arbitrary arguments, operations the harness would not perform being
no-ops - the observations of the composed model are accepted by every clause of `specStep`: results
of `SendTo` (full size, 0 only after an expired limited wait, errno of the failed `sendto`,
`logic_error` only for a short count), every report = the prefix that fits of the oldest outstanding
datagram with its sender (nothing invented, duplicated, lost or reordered, empty datagrams included),
no `nullopt` from an unlimited receive or while something is outstanding, one socket task per step,
the async socket sends its oldest queued datagram with its length, a step does nothing only if
nothing is outstanding (not held up by a failed one), every future shows the letter it must and the
buffers back in the pool are those of the resolved futures.  No hypothesis. -/
theorem model_satisfies_spec (history : List Op) : ∃ s, specRun {} (modelTrace {} history) = .ok s := by
  suffices H : ∀ (m : Sys) (s : SpecSt), SInv m → Rel m s → ∃ s', specRun s (modelTrace m history) = .ok s' from
    H {} {} sinv_init rel_init
  induction history with
  | nil => intro m s _ _; exact ⟨s, rfl⟩
  | cons op ops ih =>
    intro m s inv rel
    obtain ⟨s1, h1, rel1, inv1⟩ := spec_step_ok inv rel op
    obtain ⟨s2, h2⟩ := ih _ s1 inv1 rel1
    refine ⟨s2, ?_⟩
    simp only [modelTrace]
    rw [specRun_append, h1]
    exact h2

/-! ### a concrete history (all three levels; truncation, empty datagram, time-out, short count, errno, a failed
async element followed by a sent one, a broken promise, refused operations) and what the model
observes; evaluated by the kernel -/

def demoHistory : List Op :=
  [.fam 4, .sock 1 .async 7, .sock 2 .basic 0, .sock 3 .buff 100,
   .asend 1 2 1 3 false, .asend 1 2 2 5 false, .asend 1 3 3 0 false, .asend 1 2 1 5 false, .asend 1 2 9 1 true,
   .sendto 2 1 4 10 (-1) .pass, .sendto 3 2 5 17 50 .timeout, .sendto 2 3 6 9 0 (.short 4), .sendto 3 3 7 1 0 (.fail 105),
   .step false, .step false, .step true, .step false, .step false,
   .recv 2 2 0, .recv 2 100 (-1), .recv 2 100 5, .recv 3 0 0, .recv 3 0 0, .recv 1 5 0,
   .asend 1 3 8 2 false, .destroy 1, .sock 1 .basic 0, .step false, .destroy 2, .recv 2 1 0]

example : (modelTrace {} demoHistory).length = 26 := by decide +kernel

example : (modelTrace {} demoHistory).drop 12 =
    [.step (.recv 1 7 2962951841184519493 (.ord 2)) ⟨['p', 'p', 'p'], []⟩,
     .step (.sendto 1 3 .full) ⟨['v', 'p', 'p'], [1]⟩,
     .step (.sendto 1 5 .fail) ⟨['v', 'e', 'p'], [1, 2]⟩,
     .step (.sendto 1 0 .full) ⟨['v', 'e', 'v'], [1, 2, 3]⟩,
     .step .nothing ⟨['v', 'e', 'v'], [1, 2, 3]⟩,
     .recv 2 2 0 (.got 2 558177006538808824 (.ord 1)),
     .recv 2 100 (-1) .skipped,
     .recv 2 100 5 .none,
     .recv 3 0 0 (.got 9 17964257846755983942 (.ord 2)),
     .recv 3 0 0 (.got 0 14695981039346656037 (.ord 1)),
     .asend 1 3 8 2 ⟨['v', 'e', 'v', 'p'], [1, 2, 3]⟩,
     .destroy 1 ⟨['v', 'e', 'v', 'b'], [1, 2, 3, 8]⟩,
     .step .nothing ⟨['v', 'e', 'v', 'b'], [1, 2, 3, 8]⟩,
     .destroy 2 ⟨['v', 'e', 'v', 'b'], [1, 2, 3, 8]⟩] := by decide +kernel

/-- the spec run on this trace ends with the expected letters and nothing outstanding -/
example : (match specRun {} (modelTrace {} demoHistory) with
    | .ok s => (s.status, s.expect 2, s.pendq 1)
    | .error _ => ([], [], [])) = ([(1, 'v'), (2, 'e'), (3, 'v'), (8, 'b')], [], []) := by decide +kernel

/-- the predicate is not vacuous: a duplicated report is rejected -/
example : (match specRun {} [.sock 1 .basic 0, .sock 2 .basic 0, .sendto 1 2 1 0 0 .pass (.ret 0),
      .recv 2 5 0 (.got 0 14695981039346656037 (.ord 1)), .recv 2 5 0 (.got 0 14695981039346656037 (.ord 1))] with
    | .ok _ => true | .error _ => false) = false := by decide +kernel

end SockModel.Udp
