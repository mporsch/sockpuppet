import SockModel.Model.LifecycleLogLemmas
/-!
# Spec.C17 - the property as an executable predicate over typed observations, and the proof that
the lifecycle model satisfies it for every history

`specStep` / `specRun` / `specEnd` are what `./check C17` evaluates on the IMPLEMENTATION's transcript
(`Drive/C17.lean` only parses the lines into `Obs` and calls these very functions).  They mention no
model state: only the operation that was requested and what the implementation was seen to do.
Clauses (message texts as they appear in replays):

* no crash (sanitizer report / assertion / signal) at any point of the history;
* no handler (`recv`, `recvfrom`, `conn`, `disc`) of a socket runs after the socket was destroyed
  (explicitly, inside its own disconnect handler, or at the end of the history);
* a future is reported at most once and never as `pending` once its socket is gone;
* after every operation, every future of a destroyed socket has been reported (value / exception /
  broken promise) - none is left dangling;
* the history runs to its end.

`model_satisfies_spec` shows that the model (`Model/Lifecycle.lean`, the functions `legalOp`, `exec`,
`run` as they are) can never be flagged by the predicate - for every history of any length, where an
operation that breaks a usage rule is refused (`skipped`) exactly as the harness refuses it.  A flag on
the implementation is therefore a genuine difference between implementation and model, and the clauses
are consequences of the model for all histories.
-/
namespace SockModel.Lifecycle

/-! ### typed observations -/

/-- the handlers of a socket -/
inductive HKind where | recv | recvFrom | conn | disc
  deriving DecidableEq, Repr

/-- the word the harness prints for a handler invocation -/
def HKind.name : HKind → String
  | .recv => "recv" | .recvFrom => "recvfrom" | .conn => "conn" | .disc => "disc"

/-- state of a future as reported by the harness (`other` = any other word) -/
inductive FutObs where | pending | value | exn | broken | other
  deriving DecidableEq, Repr

/-- one `-> …` line -/
inductive Item where
  /-- the process running the history died (sanitizer / assertion / signal): `crash <what>` -/
  | crash (what : String)
  /-- `fut <id> <state>` -/
  | fut (id : Nat) (st : FutObs)
  /-- `recv i` / `recvfrom i` / `conn i` / `disc i`: a handler of socket `i` was invoked -/
  | handler (k : HKind) (i : Nat)
  /-- `todo t`: the task of ToDo `t` ran -/
  | todo (t : Nat)
  /-- `throw …`: the operation left with an exception -/
  | threw
  /-- `skipped`: the harness refused the operation (it would break a usage rule) -/
  | skipped
  /-- `done`: the history ran to its end -/
  | done
  /-- anything else -/
  | other
  deriving DecidableEq, Repr

/-- one line of the history together with what the implementation was seen to do -/
inductive Obs where
  /-- an operation line (`line` = its text, used in messages only) -/
  | op (line : String) (op : Op) (items : List Item)
  /-- the `end` line: the harness destroys whatever is left -/
  | fin (line : String) (items : List Item)
  /-- a `-> crash <what>` line where an operation was expected (the harness died between cases) -/
  | stray (what : String)
  deriving Repr

/-! ### the predicate -/

/-- observation-only bookkeeping for the property -/
structure SpecSt where
  dead : List Nat := []                 -- sockets known to be destroyed
  futOf : List (Nat × Nat) := []        -- future id ↦ socket
  resolved : List Nat := []             -- futures reported so far
  nfut : Nat := 0                       -- futures handed out so far
  selfDestroy : List Nat := []          -- sockets whose disconnect handler destroys them
  socks : List Nat := []                -- sockets created so far (destroyed by the harness at the end)
  ended : Bool := false

def observe1 (sp : SpecSt) : Item → Except String SpecSt
  | .crash w => .error ("crash: " ++ w)
  | .fut id st =>
    if st = .pending then .error s!"future {id} is still pending after its socket was destroyed (dangling)"
    else if sp.resolved.contains id then .error s!"future {id} reported twice"
    else .ok { sp with resolved := id :: sp.resolved }
  | .handler k i =>
    if sp.dead.contains i then .error s!"handler '{k.name}' of socket {i} invoked after the socket was destroyed"
    else if k = .disc ∧ sp.selfDestroy.contains i then .ok { sp with dead := i :: sp.dead }
    else .ok sp
  | _ => .ok sp

/-- the observations of one operation, in order -/
def observe (sp : SpecSt) : List Item → Except String SpecSt
  | [] => .ok sp
  | it :: rest =>
    match observe1 sp it with
    | .ok sp' => observe sp' rest
    | .error e => .error e

/-- after the observations of an op: every future of a destroyed socket must have been reported -/
def checkDangling (sp : SpecSt) : Option String :=
  match sp.futOf.find? (fun (id, s) => sp.dead.contains s && !sp.resolved.contains id) with
  | some (id, s) => some s!"future {id} of destroyed socket {s} was not released (neither value, exception nor broken promise)"
  | none => none

def addNew (l : List Nat) (x : Nat) : List Nat := if l.contains x then l else l ++ [x]

/-- what the request itself tells the observer -/
def SpecSt.request (sp : SpecSt) (op : Op) (items : List Item) : SpecSt :=
  match op with
  | .send i => if items.any (· == .threw) then sp else
      { sp with futOf := (sp.nfut, i) :: sp.futOf, nfut := sp.nfut + 1 }
  -- a received buffer handed back to `Send` of its own socket: a future is created, like `send`
  | .echo i => if items.any (· == .threw) then sp else
      { sp with futOf := (sp.nfut, i) :: sp.futOf, nfut := sp.nfut + 1 }
  | .destroySock i => { sp with dead := i :: sp.dead }
  | .mkSock i _ _ onDisc _ _ =>
    { sp with socks := addNew sp.socks i,
              selfDestroy := if onDisc then i :: sp.selfDestroy else sp.selfDestroy }
  | _ => sp

def finish (sp1 : SpecSt) (items : List Item) : Except String SpecSt :=
  match observe sp1 items with
  | .error e => .error e
  | .ok sp2 =>
    match checkDangling sp2 with
    | some msg => .error msg
    | none => .ok sp2

def after (line : String) : Except String SpecSt → Except String SpecSt
  | .ok s => .ok s
  | .error msg => .error s!"after '{line}': {msg}"

def specStep (sp : SpecSt) : Obs → Except String SpecSt
  | .stray w => .error ("crash: " ++ w)
  | .op line op items =>
    -- a refused operation was not performed: nothing to check (that the refusal is right is correspondence)
    if items = [.skipped] then .ok sp else after line (finish (sp.request op items) items)
  | .fin line items =>
    if items = [.skipped] then .ok sp
    else after line (finish { sp with dead := sp.socks ++ sp.dead, ended := true } items)

def specRun (sp : SpecSt) : List Obs → Except String SpecSt
  | [] => .ok sp
  | o :: os =>
    match specStep sp o with
    | .ok sp' => specRun sp' os
    | .error e => .error e

/-- when the transcript is exhausted -/
def specEnd (sp : SpecSt) : Except String Unit :=
  if sp.ended then .ok () else .error "history did not run to its end (harness died without a report)"

/-- the whole predicate -/
def specCheck (tr : List Obs) : Except String Unit :=
  match specRun {} tr with
  | .ok sp => specEnd sp
  | .error e => .error e

/-! ### the observations of the MODEL -/

/-- the model next to the lists the harness keeps: what was created, in creation order (without repetition) -/
structure Sys where
  st : St := {}
  socks : List Nat := []
  todos : List Nat := []
  drvs : List Nat := []

def Sys.record (m : Sys) (op : Op) (s' : St) : Sys :=
  match op with
  | .mkSock i .. => { m with st := s', socks := addNew m.socks i }
  | .mkTodo t .. => { m with st := s', todos := addNew m.todos t }
  | .mkDriver d => { m with st := s', drvs := addNew m.drvs d }
  | _ => { m with st := s' }

/-- the sort key of a logged future event: its id (only future events are sorted) -/
def futKey : Ev → Nat
  | .fut id _ => id
  | _ => 0

def insertEv (e : Ev) : List Ev → List Ev
  | [] => [e]
  | x :: xs => if futKey e ≤ futKey x then e :: x :: xs else x :: insertEv e xs

/-- insertion sort by future id -/
def sortEvs : List Ev → List Ev
  | [] => []
  | e :: es => insertEv e (sortEvs es)

/-- what the model logs between two states, in the order the harness reports: handler invocations as they
happen and then the futures that became ready in order of their ids -/
def modelEvents (s s' : St) : List Ev :=
  let raw := (s'.log.take (s'.log.length - s.log.length)).reverse
  raw.filter (fun e => !isFutEv e) ++ sortEvs (raw.filter isFutEv)

/-- `accept id`: the kernel accepts the write of send `id` to a peer that has already closed (model outcome
`either`: value or exception) -/
def evItem (accept : Nat → Bool) : Ev → Item
  | .recv i => .handler .recv i
  | .recvFrom i => .handler .recvFrom i
  | .conn i => .handler .conn i
  | .disc i => .handler .disc i
  | .todo t => .todo t
  | .fut id st => .fut id (match st with
      | .pending => .pending | .value => .value | .exn => .exn | .broken => .broken
      | .either => if accept id then .value else .exn)

/-- undefined behaviour of the C++ is what the sanitizers report as a crash -/
def modelItems (accept : Nat → Bool) (s s' : St) : List Item :=
  match s'.ub with
  | some why => [.crash why]
  | none => (modelEvents s s').map (evItem accept)

def b01 (b : Bool) : String := if b then "1" else "0"

/-- the line of the protocol for an operation -/
def opLine : Op → String
  | .mkDriver d => s!"driver {d}"
  | .destroyDriver d => s!"ddriver {d}"
  | .step d => s!"step {d}"
  | .mkSock i k d a b c =>
    s!"sock {i} {match k with | .tcp => "tcp" | .udp => "udp" | .acc => "acc"} {d} {b01 a} {b01 b} {b01 c}"
  | .send i => s!"send {i}"
  | .echo i => s!"echo {i}"
  | .release i => s!"release {i}"
  | .destroySock i => s!"dsock {i}"
  | .peerSend i => s!"psend {i}"
  | .peerClose i => s!"pclose {i}"
  | .peerReset i => s!"preset {i}"
  | .peerConnect i => s!"pconn {i}"
  | .sendFail i => s!"sendfail {i}"
  | .mkTodo t d s => s!"todo {t} {d} {b01 s}"
  | .cancel t => s!"cancel {t}"
  | .shift t => s!"shift {t}"
  | .dropTodo t => s!"droptodo {t}"
  | .destroyPool => "dpool"

/-- one operation of a history: refused (as the harness refuses it) when it breaks a usage rule, performed by
the model's `exec` otherwise -/
def modelObs (accept : Nat → Bool) (m : Sys) (op : Op) : Sys × Obs :=
  if legalOp m.st op then
    (m.record op (exec .fixed m.st op), .op (opLine op) op (modelItems accept m.st (exec .fixed m.st op)))
  else (m, .op (opLine op) op [.skipped])

/-- futures the harness finds unresolved after it destroyed everything -/
def pendingItems (s : St) : List Item :=
  ((List.range s.nfut).filter s.isPending).map fun id => Item.fut id .pending

/-- the end of a history: everything that is left is destroyed (`implicitEnd`, performed by the model's `run`) -/
def modelEnd (accept : Nat → Bool) (m : Sys) : Obs :=
  let s' := run .fixed m.st (implicitEnd m.st m.socks m.todos m.drvs)
  .fin "end" (modelItems accept m.st s' ++ pendingItems s' ++ [.done])

/-- the observations the MODEL produces for a history (any list of operations, legal or not) -/
def modelTrace (accept : Nat → Bool) (m : Sys) : List Op → List Obs
  | [] => [modelEnd accept m]
  | op :: ops => (modelObs accept m op).2 :: modelTrace accept (modelObs accept m op).1 ops

/-! ### the model satisfies the predicate -/

theorem observe_append (sp : SpecSt) (a b : List Item) :
    observe sp (a ++ b) = match observe sp a with | .ok sp' => observe sp' b | .error e => .error e := by
  induction a generalizing sp with
  | nil => rfl
  | cons it rest ih =>
    simp only [List.cons_append, observe]
    cases observe1 sp it with
    | ok sp' => exact ih sp'
    | error e => rfl

theorem insertEv_perm (e : Ev) (l : List Ev) : (insertEv e l).Perm (e :: l) := by
  induction l with
  | nil => exact List.Perm.refl _
  | cons x xs ih =>
    unfold insertEv
    split
    · exact List.Perm.refl _
    · exact ((List.Perm.cons x ih).trans (List.Perm.swap e x xs))

theorem sortEvs_perm (l : List Ev) : (sortEvs l).Perm l := by
  induction l with
  | nil => exact List.Perm.refl _
  | cons e es ih => exact (insertEv_perm e _).trans (List.Perm.cons e ih)

theorem evItem_fut_ne_pending (accept : Nat → Bool) (id : Nat) (st : Fut) (h : st ≠ .pending) :
    ∃ st', evItem accept (.fut id st) = .fut id st' ∧ st' ≠ .pending := by
  cases st with
  | pending => exact absurd rfl h
  | value => exact ⟨.value, rfl, by simp⟩
  | exn => exact ⟨.exn, rfl, by simp⟩
  | broken => exact ⟨.broken, rfl, by simp⟩
  | either =>
    cases ha : accept id
    · exact ⟨.exn, by simp [evItem, ha], by simp⟩
    · exact ⟨.value, by simp [evItem, ha], by simp⟩

/-- reports of futures that are resolved, distinct and new are accepted and recorded -/
theorem observe_futs (accept : Nat → Bool) : ∀ (L : List Ev) (sp : SpecSt),
    (∀ e ∈ L, ∃ id st, e = .fut id st ∧ st ≠ .pending ∧ id ∉ sp.resolved) → (L.filterMap futId?).Nodup →
    ∃ R, observe sp (L.map (evItem accept)) = .ok { sp with resolved := R } ∧
      ∀ id, id ∈ R ↔ id ∈ sp.resolved ∨ id ∈ L.filterMap futId? := by
  intro L
  induction L with
  | nil => intro sp _ _; exact ⟨sp.resolved, rfl, by simp⟩
  | cons e es ih =>
    intro sp hall hnd
    obtain ⟨id, st, rfl, hst, hnew⟩ := hall _ List.mem_cons_self
    obtain ⟨st', hit, hst'⟩ := evItem_fut_ne_pending accept id st hst
    have hnd' : (id :: es.filterMap futId?).Nodup := by simpa [List.filterMap_cons, futId?] using hnd
    obtain ⟨hidnot, hndes⟩ := List.nodup_cons.mp hnd'
    have hall' : ∀ e ∈ es, ∃ id' st, e = .fut id' st ∧ st ≠ .pending ∧ id' ∉ ({ sp with resolved := id :: sp.resolved } : SpecSt).resolved := by
      intro e he
      obtain ⟨id', st2, rfl, h2, h3⟩ := hall e (List.mem_cons_of_mem _ he)
      refine ⟨id', st2, rfl, h2, ?_⟩
      simp only [List.mem_cons, not_or]
      refine ⟨?_, h3⟩
      intro heq; subst heq
      exact hidnot (mem_futIds.mpr ⟨st2, he⟩)
    obtain ⟨R, hR, hmem⟩ := ih { sp with resolved := id :: sp.resolved } hall' hndes
    refine ⟨R, ?_, ?_⟩
    · simp only [List.map_cons, observe, hit, observe1, hst', ↓reduceIte]
      have : sp.resolved.contains id = false := by simpa using hnew
      simp only [this, Bool.false_eq_true, ↓reduceIte]
      exact hR
    · intro j
      rw [hmem j]
      simp only [List.mem_cons, List.filterMap_cons, futId?]
      constructor
      · rintro ((h | h) | h)
        · exact .inr (.inl h)
        · exact .inl h
        · exact .inr (.inr h)
      · rintro (h | h | h)
        · exact .inl (.inr h)
        · exact .inl (.inl h)
        · exact .inr h

theorem checkDangling_none (sp : SpecSt) (h : ∀ id i, (id, i) ∈ sp.futOf → i ∈ sp.dead → id ∈ sp.resolved) :
    checkDangling sp = none := by
  unfold checkDangling
  have : sp.futOf.find? (fun (id, s) => sp.dead.contains s && !sp.resolved.contains id) = none := by
    rw [List.find?_eq_none]
    rintro ⟨id, i⟩ hm
    simp only [Bool.and_eq_true, List.contains_eq_mem, decide_eq_true_eq, Bool.not_eq_eq_eq_not, Bool.not_true,
      decide_eq_false_iff_not, not_and, Decidable.not_not]
    exact h id i hm
  rw [this]

theorem modelEvents_of_grow {s s' : St} {D : List Ev} (h : s'.log = D ++ s.log) :
    modelEvents s s' = (hEvents D).reverse ++ sortEvs (D.filter isFutEv).reverse := by
  unfold modelEvents
  simp only [h, List.length_append, Nat.add_sub_cancel, List.take_left', hEvents, List.filter_reverse]

theorem futs_disjoint {D L : List Ev} (hnd : ((D ++ L).filterMap futId?).Nodup) {id : Nat} {st st0 : Fut}
    (h1 : Ev.fut id st ∈ D) (h2 : Ev.fut id st0 ∈ L) : False := by
  rw [List.filterMap_append] at hnd
  exact (List.nodup_append.mp hnd).2.2 id (mem_futIds.mpr ⟨st, h1⟩) id (mem_futIds.mpr ⟨st0, h2⟩) rfl

/-- the core of every step: once the handler reports of a transition have been accepted, the reports of
the futures it resolved are accepted too, and afterwards no future of a dead socket is unreported -/
theorem finish_ok (accept : Nat → Bool) {s s' : St} {D : List Ev} {sp1 sp1' : SpecSt}
    (hgrow : s'.log = D ++ s.log) (hub : s'.ub = none) (hlog : LogInv s') (hfinv : FInv s')
    (hres : ∀ id, id ∈ sp1.resolved ↔ ∃ st, Ev.fut id st ∈ s.log)
    (hfutOf : ∀ id i, (id, i) ∈ sp1.futOf → ∃ st, s'.futs id = some (i, st))
    (hh : observe sp1 ((hEvents D).reverse.map (evItem accept)) = .ok sp1')
    (hh1 : sp1'.resolved = sp1.resolved) (hh2 : sp1'.futOf = sp1.futOf)
    (hdead : ∀ i ∈ sp1'.dead, (s'.sock i).alive = false) :
    ∃ R, finish sp1 (modelItems accept s s') = .ok { sp1' with resolved := R } ∧
      ∀ id, id ∈ R ↔ ∃ st, Ev.fut id st ∈ s'.log := by
  have hnd := hlog.nodup
  rw [hgrow] at hnd
  have hF : ∀ e ∈ sortEvs (D.filter isFutEv).reverse, ∃ id st, e = .fut id st ∧ st ≠ .pending ∧ id ∉ sp1'.resolved := by
    intro e he
    have he' : e ∈ (D.filter isFutEv).reverse := (sortEvs_perm _).mem_iff.mp he
    simp only [List.mem_reverse, List.mem_filter] at he'
    obtain ⟨heD, hef⟩ := he'
    cases e with
    | fut id st =>
      refine ⟨id, st, rfl, (hlog.sound id st (by rw [hgrow]; exact List.mem_append_left _ heD)).1, ?_⟩
      rw [hh1, hres]
      rintro ⟨st0, h0⟩
      exact futs_disjoint hnd heD h0
    | _ => simp [isFutEv] at hef
  have hFnd : ((sortEvs (D.filter isFutEv).reverse).filterMap futId?).Nodup := by
    have hp : ((sortEvs (D.filter isFutEv).reverse).filterMap futId?).Perm ((D.filter isFutEv).filterMap futId?) :=
      ((sortEvs_perm _).trans (List.reverse_perm _)).filterMap _
    rw [hp.nodup_iff]
    rw [List.filterMap_append] at hnd
    exact ((List.filter_sublist (l := D) (p := isFutEv)).filterMap futId?).nodup (List.nodup_append.mp hnd).1
  obtain ⟨R, hR, hmem⟩ := observe_futs accept _ sp1' hF hFnd
  have hRlog : ∀ id, id ∈ R ↔ ∃ st, Ev.fut id st ∈ s'.log := by
    intro id
    rw [hmem, hh1, hres, hgrow]
    constructor
    · rintro (⟨st, h⟩ | h)
      · exact ⟨st, List.mem_append_right _ h⟩
      · obtain ⟨st, hst⟩ := mem_futIds.mp h
        have := (sortEvs_perm _).mem_iff.mp hst
        simp only [List.mem_reverse, List.mem_filter] at this
        exact ⟨st, List.mem_append_left _ this.1⟩
    · rintro ⟨st, h⟩
      rcases List.mem_append.mp h with h | h
      · right
        apply mem_futIds.mpr
        refine ⟨st, (sortEvs_perm _).mem_iff.mpr ?_⟩
        simp only [List.mem_reverse, List.mem_filter]
        exact ⟨h, rfl⟩
      · exact .inl ⟨st, h⟩
  refine ⟨R, ?_, hRlog⟩
  unfold finish modelItems
  rw [hub]
  simp only
  rw [modelEvents_of_grow hgrow, List.map_append, observe_append, hh]
  simp only
  rw [hR]
  simp only
  rw [checkDangling_none]
  intro id i hm hd
  simp only at hm hd ⊢
  rw [hh2] at hm
  obtain ⟨st, hst⟩ := hfutOf id i hm
  have hal := hdead i hd
  have hne : st ≠ .pending := by
    intro e; subst e
    have := (hfinv.fd id i hst).1
    rw [hal] at this; cases this
  exact (hRlog id).mpr ⟨st, hlog.complete id i st hst hne⟩

/-- what relates the observer's book-keeping to the model state -/
structure Rel (m : Sys) (sp : SpecSt) : Prop where
  linv : LInv m.st
  finv : FInv m.st
  loginv : LogInv m.st
  nfut : sp.nfut = m.st.nfut
  futOf : ∀ id i, (id, i) ∈ sp.futOf → ∃ st, m.st.futs id = some (i, st)
  res : ∀ id, id ∈ sp.resolved ↔ ∃ st, Ev.fut id st ∈ m.st.log
  dead : ∀ i ∈ sp.dead, (m.st.sock i).present = true ∧ (m.st.sock i).alive = false
  selfD : ∀ i ∈ sp.selfDestroy, (m.st.sock i).present = true ∧ (m.st.sock i).onDisc = true
  socks : sp.socks = m.socks
  cover : ∀ i, (m.st.sock i).alive = true → i ∈ m.socks
  nd : m.socks.Nodup ∧ m.todos.Nodup ∧ m.drvs.Nodup

theorem rel_init : Rel {} {} :=
  { linv := LInv.init, finv := FInv.init, loginv := LogInv.init, nfut := rfl
    futOf := fun _ _ h => (by cases h)
    res := fun _ => ⟨fun h => (by cases h), fun ⟨_, h⟩ => (by cases h)⟩
    dead := fun _ h => (by cases h)
    selfD := fun _ h => (by cases h)
    socks := rfl
    cover := fun _ h => by simp at h
    nd := ⟨List.nodup_nil, List.nodup_nil, List.nodup_nil⟩ }

theorem addNew_nodup {l : List Nat} (h : l.Nodup) (x : Nat) : (addNew l x).Nodup := nodup_addIfNew h

theorem mem_addNew {l : List Nat} {x y : Nat} : y ∈ addNew l x ↔ y ∈ l ∨ y = x := mem_addIfNew

theorem record_st (m : Sys) (op : Op) (s' : St) : (m.record op s').st = s' := by
  cases op <;> rfl

theorem record_nd (m : Sys) (op : Op) (s' : St) (h : m.socks.Nodup ∧ m.todos.Nodup ∧ m.drvs.Nodup) :
    (m.record op s').socks.Nodup ∧ (m.record op s').todos.Nodup ∧ (m.record op s').drvs.Nodup := by
  unfold Sys.record
  split
  · exact ⟨addNew_nodup h.1 _, h.2.1, h.2.2⟩
  · exact ⟨h.1, addNew_nodup h.2.1 _, h.2.2⟩
  · exact ⟨h.1, h.2.1, addNew_nodup h.2.2 _⟩
  · exact h

theorem record_socks (m : Sys) (op : Op) (s' : St) (h : ∀ i k d a b c, op ≠ .mkSock i k d a b c) :
    (m.record op s').socks = m.socks := by
  cases op <;> first | rfl | exact absurd rfl (h _ _ _ _ _ _)

theorem modelItems_no_skipped (accept : Nat → Bool) (s s' : St) : modelItems accept s s' ≠ [.skipped] := by
  unfold modelItems
  split
  · simp
  · intro h
    have hm : Item.skipped ∈ (modelEvents s s').map (evItem accept) := by rw [h]; simp
    obtain ⟨e, _, he⟩ := List.mem_map.mp hm
    cases e <;> simp [evItem] at he

/-- a transition that keeps socket identities (`Tr`), once its handler reports have been accepted -/
theorem rel_tr (accept : Nat → Bool) {m m' : Sys} {s' : St} {sp : SpecSt} {H : List Ev} {d1 dead' : List Nat}
    (hrel : Rel m sp) (hst : m'.st = s') (htr : Tr m.st s' H) (hL : LInv s') (hF : FInv s') (hG : LogInv s')
    (hsocks : m'.socks = m.socks) (hnd : m'.socks.Nodup ∧ m'.todos.Nodup ∧ m'.drvs.Nodup)
    (hh : observe { sp with dead := d1 } (H.reverse.map (evItem accept)) = .ok { sp with dead := dead' })
    (hdead : ∀ i ∈ dead', (m.st.sock i).present = true ∧ (s'.sock i).alive = false) :
    ∃ sp2, finish { sp with dead := d1 } (modelItems accept m.st s') = .ok sp2 ∧ Rel m' sp2 := by
  subst hst
  obtain ⟨D, hgrow, hH⟩ := htr.grow
  subst hH
  have hfutOf : ∀ id i, (id, i) ∈ sp.futOf → ∃ st, m'.st.futs id = some (i, st) := fun id i hm =>
    (hrel.futOf id i hm).elim fun st hst => htr.futs id i st hst
  obtain ⟨R, hfin, hR⟩ := finish_ok accept (sp1 := { sp with dead := d1 }) (sp1' := { sp with dead := dead' }) hgrow hL.ub hG hF
    hrel.res hfutOf hh rfl rfl (fun i hi => (hdead i hi).2)
  exact ⟨_, hfin,
    { linv := hL, finv := hF, loginv := hG, res := hR, futOf := hfutOf, nd := hnd
      nfut := hrel.nfut.trans htr.nfut.symm
      dead := fun i hi => ⟨(htr.frame i).1.trans (hdead i hi).1, (hdead i hi).2⟩
      selfD := fun i hi => ⟨(htr.frame i).1.trans (hrel.selfD i hi).1, (htr.frame i).2.1.trans (hrel.selfD i hi).2⟩
      socks := hrel.socks.trans hsocks.symm
      cover := fun i hi => hsocks ▸ hrel.cover i ((htr.frame i).2.2 hi) }⟩

theorem after_ok {line : String} {r : Except String SpecSt} {sp : SpecSt} (h : r = .ok sp) : after line r = .ok sp := by
  subst h; rfl

theorem observe_todo (accept : Nat → Bool) (sp : SpecSt) {Ht : List Ev} (Hs : List Ev) (hT : Ht = [] ∨ ∃ t, Ht = [.todo t]) :
    observe sp ((Hs ++ Ht).reverse.map (evItem accept)) = observe sp (Hs.reverse.map (evItem accept)) := by
  rcases hT with rfl | ⟨t, rfl⟩
  · rw [List.append_nil]
  · rw [List.reverse_append]; rfl

/-- a legal `Send` or echo: the observer notes a new future of socket `i`, the model has queued it -/
theorem newFut_ok (accept : Nat → Bool) {m : Sys} {sp : SpecSt} (hrel : Rel m sp) {op : Op} {i : Nat}
    (hop : op = .send i ∨ op = .echo i) (hl : legalOp m.st op = true) :
    ∃ sp', after (opLine op) (finish (sp.request op (modelItems accept m.st (exec .fixed m.st op)))
      (modelItems accept m.st (exec .fixed m.st op))) = .ok sp' ∧ Rel (m.record op (exec .fixed m.st op)) sp' := by
  have hL' := hrel.linv.exec op hl
  have hF' := hrel.finv.exec .fixed op
  have hG' := hrel.loginv.exec hrel.linv op
  obtain ⟨hlog, hframe, hnf, hfuts⟩ := exec_newFut hrel.linv.ub hop hl
  have hrec : m.record op (exec .fixed m.st op) = { m with st := exec .fixed m.st op } := by
    rcases hop with rfl | rfl <;> rfl
  rw [hrec]
  generalize exec .fixed m.st op = s' at *
  have hitems : modelItems accept m.st s' = [] := by
    unfold modelItems
    rw [hL'.ub]
    simp only [modelEvents_of_grow (D := []) hlog]
    rfl
  have hreq : sp.request op [] = { sp with futOf := (sp.nfut, i) :: sp.futOf, nfut := sp.nfut + 1 } := by
    rcases hop with rfl | rfl <;> rfl
  rw [hitems, hreq]
  have hfutOf : ∀ id j, (id, j) ∈ (sp.nfut, i) :: sp.futOf → ∃ st, s'.futs id = some (j, st) := by
    intro id j hm
    rw [hfuts]
    rcases List.mem_cons.mp hm with heq | hm
    · cases heq
      exact ⟨.pending, by rw [if_pos hrel.nfut]⟩
    · obtain ⟨st, hst⟩ := hrel.futOf id j hm
      have hlt : id < m.st.nfut := hrel.linv.nf id (by rw [hst]; simp)
      exact ⟨st, by rw [if_neg (by omega)]; exact hst⟩
  have hdeadS : ∀ j ∈ sp.dead, (s'.sock j).present = true ∧ (s'.sock j).alive = false := fun j hj => by
    rw [(hframe j).1, (hframe j).2.2]; exact hrel.dead j hj
  obtain ⟨R, hfin, hR⟩ := finish_ok accept (sp1 := { sp with futOf := (sp.nfut, i) :: sp.futOf, nfut := sp.nfut + 1 })
    (sp1' := { sp with futOf := (sp.nfut, i) :: sp.futOf, nfut := sp.nfut + 1 }) (D := []) hlog hL'.ub hG' hF'
    hrel.res hfutOf rfl rfl rfl (fun j hj => (hdeadS j hj).2)
  rw [hitems] at hfin
  refine ⟨_, after_ok hfin, ?_⟩
  exact
    { linv := hL', finv := hF', loginv := hG', futOf := hfutOf, res := hR, dead := hdeadS, socks := hrel.socks, nd := hrel.nd
      nfut := (congrArg (· + 1) hrel.nfut).trans hnf.symm
      selfD := fun j hj => by
        show (s'.sock j).present = true ∧ (s'.sock j).onDisc = true
        rw [(hframe j).1, (hframe j).2.1]; exact hrel.selfD j hj
      cover := fun j hj => by
        have hj' : (s'.sock j).alive = true := hj
        rw [(hframe j).2.2] at hj'
        exact hrel.cover j hj' }

/-- one operation of the history: the spec accepts what the model does, and the relation is re-established -/
theorem step_ok (accept : Nat → Bool) {m : Sys} {sp : SpecSt} (hrel : Rel m sp) (op : Op) :
    ∃ sp', specStep sp (modelObs accept m op).2 = .ok sp' ∧ Rel (modelObs accept m op).1 sp' := by
  unfold modelObs
  by_cases hl : legalOp m.st op = true
  case neg =>
    rw [if_neg hl]
    exact ⟨sp, by simp [specStep], hrel⟩
  rw [if_pos hl]
  have hub := hrel.linv.ub
  have hL' := hrel.linv.exec op hl
  have hF' := hrel.finv.exec .fixed op
  have hG' := hrel.loginv.exec hrel.linv op
  simp only [specStep, modelItems_no_skipped, ↓reduceIte]
  have hdeadKeep : ∀ {s' : St} {H : List Ev}, Tr m.st s' H → ∀ i ∈ sp.dead, (m.st.sock i).present = true ∧ (s'.sock i).alive = false := by
    intro s' H htr i hi
    exact ⟨(hrel.dead i hi).1, htr.dead (hrel.dead i hi).2⟩
  by_cases hplain : plainOp op = true
  · -- the operations that keep socket identities and add no handler event
    have htr := Tr.exec_plain m.st op hplain
    have plain : ∀ (dead' : List Nat), sp.request op (modelItems accept m.st (exec .fixed m.st op)) = { sp with dead := dead' } →
        (∀ i ∈ dead', (m.st.sock i).present = true ∧ ((exec .fixed m.st op).sock i).alive = false) →
        ∃ sp', after (opLine op) (finish (sp.request op (modelItems accept m.st (exec .fixed m.st op)))
          (modelItems accept m.st (exec .fixed m.st op))) = .ok sp' ∧ Rel (m.record op (exec .fixed m.st op)) sp' := by
      intro dead' hreq hdead
      rw [hreq]
      have hsocks : (m.record op (exec .fixed m.st op)).socks = m.socks :=
        record_socks m op _ (by intro i k d a b c e; subst e; cases hplain)
      obtain ⟨sp2, hfin, hrel2⟩ := rel_tr accept (d1 := dead') (dead' := dead') hrel (record_st m op _) htr hL' hF' hG'
        hsocks (record_nd m op _ hrel.nd) rfl hdead
      exact ⟨sp2, after_ok hfin, hrel2⟩
    by_cases hds : ∃ i, op = .destroySock i
    · obtain ⟨i, rfl⟩ := hds
      apply plain (i :: sp.dead) rfl
      intro j hj
      rcases List.mem_cons.mp hj with rfl | hj
      · have hal : (m.st.sock j).alive = true := by
          simp only [legalOp, Bool.and_eq_true] at hl; exact hl.1
        refine ⟨hrel.linv.sockPresent j hal, ?_⟩
        rw [exec_destroySock hub hl]; exact destroySockObj_dead _ _
      · exact hdeadKeep htr j hj
    · apply plain sp.dead
      · -- the request of such an operation tells the observer nothing
        unfold SpecSt.request
        split
        · cases hplain
        · cases hplain
        · exact absurd ⟨_, rfl⟩ hds
        · cases hplain
        · rfl
      · exact hdeadKeep htr
  cases op with
  | step d =>
    rw [exec_step hub hl] at hL' hF' hG' ⊢
    obtain ⟨Ht, Hs, htr, hT, hS⟩ := Tr.step m.st d
    have hreq : sp.request (.step d) (modelItems accept m.st (m.st.step d)) = sp := rfl
    rw [hreq]
    -- the handler reports
    have hhand : ∃ dead', observe sp ((Hs ++ Ht).reverse.map (evItem accept)) = .ok { sp with dead := dead' } ∧
        ∀ i ∈ dead', (m.st.sock i).present = true ∧ ((m.st.step d).sock i).alive = false := by
      rw [observe_todo accept sp Hs hT]
      have hkeep := hdeadKeep htr
      rcases hS with rfl | ⟨i, hal, hS⟩
      · exact ⟨sp.dead, rfl, hkeep⟩
      · -- a socket that is alive is not known as destroyed
        have hnd : i ∉ sp.dead := by
          intro hc
          have := (hrel.dead i hc).2
          rw [hal] at this; cases this
        rcases hS with rfl | rfl | rfl | rfl | ⟨rfl, hdisc⟩
        · exact ⟨sp.dead, rfl, hkeep⟩
        · exact ⟨sp.dead, by simp [observe, observe1, evItem, hnd], hkeep⟩
        · exact ⟨sp.dead, by simp [observe, observe1, evItem, hnd], hkeep⟩
        · exact ⟨sp.dead, by simp [observe, observe1, evItem, hnd], hkeep⟩
        · by_cases hsd : i ∈ sp.selfDestroy
          · refine ⟨i :: sp.dead, by simp [observe, observe1, evItem, hnd, hsd], ?_⟩
            intro j hj
            rcases List.mem_cons.mp hj with rfl | hj
            · exact ⟨hrel.linv.sockPresent j hal, hdisc (hrel.selfD j hsd).2⟩
            · exact hkeep j hj
          · exact ⟨sp.dead, by simp [observe, observe1, evItem, hnd, hsd], hkeep⟩
    obtain ⟨dead', hobs, hdead⟩ := hhand
    obtain ⟨sp2, hfin, hrel2⟩ := rel_tr accept (m' := m.record (.step d) (m.st.step d)) (d1 := sp.dead) (dead' := dead') hrel
      rfl htr hL' hF' hG' rfl hrel.nd hobs hdead
    exact ⟨sp2, after_ok hfin, hrel2⟩
  | send i => exact newFut_ok accept hrel (.inl rfl) hl
  | echo i => exact newFut_ok accept hrel (.inr rfl) hl
  | mkSock i k d a b c =>
    generalize hs' : exec .fixed m.st (.mkSock i k d a b c) = s' at *
    obtain ⟨hlog, hfuts, hnf, hother, hpres, halive, hod, hnp⟩ := exec_mkSock hub hl hs'
    -- the sockets the observer knows of are present, hence other than `i`, and keep their record
    have hkeep : ∀ j, (m.st.sock j).present = true → s'.sock j = m.st.sock j := fun j hp =>
      hother j (fun e => by rw [e, hnp] at hp; cases hp)
    have hfutOf : ∀ id j, (id, j) ∈ sp.futOf → ∃ st, s'.futs id = some (j, st) := fun id j hm => by
      rw [hfuts]; exact hrel.futOf id j hm
    have hdeadS : ∀ j ∈ sp.dead, (s'.sock j).present = true ∧ (s'.sock j).alive = false := fun j hj => by
      rw [hkeep j (hrel.dead j hj).1]; exact hrel.dead j hj
    obtain ⟨R, hfin, hR⟩ := finish_ok accept (sp1 := sp.request (.mkSock i k d a b c) (modelItems accept m.st s'))
      (sp1' := sp.request (.mkSock i k d a b c) (modelItems accept m.st s')) (D := []) hlog hL'.ub hG' hF' hrel.res hfutOf
      rfl rfl rfl (fun j hj => (hdeadS j hj).2)
    refine ⟨_, after_ok hfin, ?_⟩
    exact
      { linv := hL', finv := hF', loginv := hG', res := hR, dead := hdeadS, futOf := hfutOf
        nfut := hrel.nfut.trans hnf.symm
        selfD := fun j hj => by
          have hold : j ∈ sp.selfDestroy → (s'.sock j).present = true ∧ (s'.sock j).onDisc = true := fun hm => by
            rw [hkeep j (hrel.selfD j hm).1]; exact hrel.selfD j hm
          have hj' : j ∈ (if a = true then i :: sp.selfDestroy else sp.selfDestroy) := hj
          split at hj'
          · rename_i ha
            rcases List.mem_cons.mp hj' with rfl | hm
            · exact ⟨hpres, hod.trans ha⟩
            · exact hold hm
          · exact hold hj'
        socks := congrArg (addNew · i) hrel.socks
        cover := fun j hj => mem_addNew.mpr (by
          by_cases hji : j = i
          · exact .inr hji
          · have hj' : (s'.sock j).alive = true := hj
            rw [hother j hji] at hj'
            exact .inl (hrel.cover j hj'))
        nd := ⟨addNew_nodup hrel.nd.1 i, hrel.nd.2.1, hrel.nd.2.2⟩ }
  | _ => exact absurd rfl hplain

theorem finish_done (sp : SpecSt) (A : List Item) : finish sp (A ++ [.done]) = finish sp A := by
  unfold finish
  rw [observe_append]
  cases observe sp A with
  | ok sp' => rfl
  | error e => rfl

/-- the end of the history: what the harness destroys is a legal continuation for the model, which then has no
socket alive and no future pending; the spec accepts its reports -/
theorem end_ok (accept : Nat → Bool) {m : Sys} {sp : SpecSt} (hrel : Rel m sp) :
    ∃ sp', specStep sp (modelEnd accept m) = .ok sp' ∧ sp'.ended = true := by
  obtain ⟨hleg, hplain, hdead, hpend⟩ := end_legal hrel.linv hrel.finv hrel.nd hrel.cover
  have hL' := hrel.linv.run _ hleg
  have hF' := hrel.finv.run .fixed (implicitEnd m.st m.socks m.todos m.drvs)
  have hG' := hrel.loginv.run hrel.linv _ hleg
  have htr := Tr.run_plain _ m.st hplain
  obtain ⟨D, hgrow, hH⟩ := htr.grow
  have hpi : pendingItems (run .fixed m.st (implicitEnd m.st m.socks m.todos m.drvs)) = [] := by
    unfold pendingItems
    rw [List.map_eq_nil_iff, List.filter_eq_nil_iff]
    intro j _
    rw [hpend j]; simp
  unfold modelEnd
  simp only [specStep, hpi, List.append_nil]
  rw [if_neg (by
    intro h
    have : Item.done ∈ [Item.skipped] := by rw [← h]; simp
    simp at this)]
  rw [finish_done]
  obtain ⟨R, hfin, _⟩ := finish_ok accept (sp1 := { sp with dead := sp.socks ++ sp.dead, ended := true })
    (sp1' := { sp with dead := sp.socks ++ sp.dead, ended := true }) hgrow hL'.ub hG' hF' hrel.res
    (by
      intro id i hm
      obtain ⟨st, hst⟩ := hrel.futOf id i hm
      exact htr.futs id i st hst)
    (by rw [hH]; rfl) rfl rfl (fun i _ => hdead i)
  exact ⟨_, after_ok hfin, rfl⟩

theorem model_satisfies_spec_from (accept : Nat → Bool) : ∀ (history : List Op) (m : Sys) (sp : SpecSt), Rel m sp →
    ∃ s, specRun sp (modelTrace accept m history) = .ok s ∧ s.ended = true := by
  intro history
  induction history with
  | nil =>
    intro m sp hrel
    obtain ⟨sp', h1, h2⟩ := end_ok accept hrel
    exact ⟨sp', by simp only [modelTrace, specRun, h1], h2⟩
  | cons op ops ih =>
    intro m sp hrel
    obtain ⟨sp', h1, hrel'⟩ := step_ok accept hrel op
    obtain ⟨s, h2, h3⟩ := ih _ sp' hrel'
    exact ⟨s, by simp only [modelTrace, specRun, h1]; exact h2, h3⟩

/-- **The property predicate that `./check C17` evaluates on the implementation is a theorem of the model.**
For every history - any list of operations of any length over any number of drivers, sockets and ToDos, legal
or not: an operation that breaks a usage rule (`legalOp`) is refused, as the harness refuses it - and every way
the kernel may treat writes to a peer that has closed (`accept`), the observations the model produces (handler
invocations and future states logged by `exec`, a crash where the model reaches undefined behaviour, and at the
end the destruction of everything that is left followed by the futures still pending) are accepted by every
clause of the spec: no crash, no handler of a destroyed socket, no future reported twice or pending, no future
of a destroyed socket unreported after any operation, and the history runs to its end. -/
theorem model_satisfies_spec (accept : Nat → Bool) (history : List Op) :
    ∃ s, specRun {} (modelTrace accept {} history) = .ok s ∧ specEnd s = .ok () := by
  obtain ⟨s, h1, h2⟩ := model_satisfies_spec_from accept history {} {} rel_init
  exact ⟨s, h1, by simp [specEnd, h2]⟩

theorem model_passes_check (accept : Nat → Bool) (history : List Op) :
    specCheck (modelTrace accept {} history) = .ok () := by
  obtain ⟨s, h1, h2⟩ := model_satisfies_spec accept history
  simp only [specCheck, h1, h2]

/-! ### non-vacuity -/

/-- a concrete history with everything in it: a peer that closes, a disconnect handler that destroys its socket
with a send pending (broken promise), a send on the destroyed socket (refused), a UDP send resolved by a step, a
ToDo, the driver destroyed before its sockets, and the implicit destruction at the end -/
def demoHistory : List Op :=
  [.mkDriver 0, .mkSock 0 .tcp 0 true false false, .mkSock 1 .udp 0 false false false, .mkTodo 1 0 true,
   .send 0, .peerClose 0, .step 0, .send 0, .send 1, .step 0, .send 1, .destroyDriver 0, .step 0, .shift 1]

example : (modelTrace (fun _ => true) {} demoHistory).length = 15 := rfl

/-- the step that runs the ToDo and the disconnect handler, which destroys socket 0 and breaks its promise -/
example : (modelTrace (fun _ => true) {} demoHistory)[6]? =
    some (.op "step 0" (.step 0) [.todo 1, .handler .disc 0, .fut 0 .broken]) := by rfl

/-- `Send` on the destroyed socket is refused, as in the harness -/
example : (modelTrace (fun _ => true) {} demoHistory)[7]? = some (.op "send 0" (.send 0) [.skipped]) := by rfl

/-- at the end the UDP socket dies with its second send pending: broken promise, nothing left pending -/
example : (modelTrace (fun _ => true) {} demoHistory)[14]? = some (.fin "end" [.fut 2 .broken, .done]) := by rfl

example : specCheck (modelTrace (fun _ => true) {} demoHistory) = .ok () := by rfl

/-- the echo idiom: socket destroyed with an echoed receive buffer queued -/
example : modelTrace (fun _ => true) {}
      [.mkDriver 0, .mkSock 0 .tcp 0 false true false, .peerSend 0, .step 0, .echo 0, .echo 0, .destroySock 0] =
    [.op "driver 0" (.mkDriver 0) [], .op "sock 0 tcp 0 0 1 0" (.mkSock 0 .tcp 0 false true false) [],
     .op "psend 0" (.peerSend 0) [], .op "step 0" (.step 0) [.handler .recv 0], .op "echo 0" (.echo 0) [],
     .op "echo 0" (.echo 0) [.skipped], .op "dsock 0" (.destroySock 0) [.fut 0 .broken], .fin "end" [.done]] := by rfl

/-- lets the kernel evaluate the test vectors below that end in an error message -/
local instance {α : Type} (x : Except String α) (msg : String) : Decidable (x = .error msg) :=
  match x with
  | .error e => if h : e = msg then .isTrue (h ▸ rfl) else .isFalse fun h' => h (Except.error.inj h')
  | .ok _ => .isFalse fun h' => nomatch h'

/-- the spec rejects a handler that runs after its socket was destroyed ... -/
example : specRun {} [.op "sock 0 tcp 0 0 0 0" (.mkSock 0 .tcp 0 false false false) [],
      .op "dsock 0" (.destroySock 0) [], .op "step 0" (.step 0) [.handler .recv 0]] =
    .error "after 'step 0': handler 'recv' of socket 0 invoked after the socket was destroyed" := by decide +kernel

/-- ... a future left dangling when its socket is destroyed ... -/
example : specRun {} [.op "send 0" (.send 0) [], .op "dsock 0" (.destroySock 0) []] =
    .error "after 'dsock 0': future 0 of destroyed socket 0 was not released (neither value, exception nor broken promise)" := by
  decide +kernel

/-- ... a future still pending at the end, a crash, and a history that does not reach its end -/
example : specRun {} [.op "send 0" (.send 0) [], .fin "end" [.fut 0 .pending, .done]] =
    .error "after 'end': future 0 is still pending after its socket was destroyed (dangling)" := by decide +kernel
example : specRun {} [.op "cancel 1" (.cancel 1) [.crash "signal 6"]] = .error "after 'cancel 1': crash: signal 6" := by rfl
example : specCheck [.op "step 0" (.step 0) []] =
    .error "history did not run to its end (harness died without a report)" := by rfl

end SockModel.Lifecycle
