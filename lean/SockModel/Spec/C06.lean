import SockModel.Model.ToDosLemmas
import SockModel.Basic.ListLemmas
/-!
# Spec.C06 - the reference scheduler the check evaluates on the implementation, and the proof that
the model satisfies it for every history

The reference state knows nothing about the deque: it is a *bag* of `(id, due time, scheduling
sequence number)`.  From the op lines (and from the bodies of the tasks reported as run) it derives
what is pending; for every task invocation the implementation reports (`ran id at now`) it demands:
the task is scheduled at all (exactly once per scheduling, nothing after Cancel), `now ≥ due`
(never early), and no other pending task is due earlier or equally due but scheduled earlier
(due order, ties in scheduling order).  `./check C06` runs exactly these functions on the
implementation's transcript (`Drive/C06.lean` opens this namespace).

`model_accepted`: replaying the MODEL's own invocations through this checker never fails, for every
history of any length, every task body, every clock.  (The step-level clauses about the socket wait
are the C07 theorems `step_bounded`, `step_not_past_todo`, `step_full_wait`, and promptness is `prompt`.)
-/
namespace SockModel.ToDos.RefSched
open SockModel.ToDos SockModel.Deadline

structure Pending where
  id : Nat
  when : Int
  seq : Nat
  deriving DecidableEq, Repr

structure SpSt where
  pend : List Pending := []
  seq : Nat := 0
  now : Int := 0
  live : List Nat := []
  known : List Nat := []
  bodies : List (Nat × List BodyOp) := []

def SpSt.sched (sp : SpSt) (id : Nat) (w : Int) : SpSt :=
  { sp with pend := sp.pend.filter (·.id ≠ id) ++ [⟨id, w, sp.seq⟩], seq := sp.seq + 1 }

def SpSt.apply (sp : SpSt) : BodyOp → SpSt
  | .shift id w => if sp.live.contains id then sp.sched id w else sp
  | .shiftd id ms => if sp.live.contains id then sp.sched id (sp.now + ms * nsPerMs) else sp
  | .cancel id => if sp.live.contains id then { sp with pend := sp.pend.filter (·.id ≠ id) } else sp
  | .newAt id w => if sp.known.contains id then sp else
      { (sp.sched id w) with live := id :: sp.live, known := id :: sp.known }
  | .newIn id ms => if sp.known.contains id then sp else
      { (sp.sched id (sp.now + ms * nsPerMs)) with live := id :: sp.live, known := id :: sp.known }
  | .drop id => { sp with live := sp.live.filter (· ≠ id) }
  | .adv ns => { sp with now := sp.now + ns }
  | .stop => sp

/-- the implementation reports `ran id at now` -/
def SpSt.ran (sp : SpSt) (id : Nat) (now : Int) : Except String SpSt :=
  match sp.pend.find? (·.id = id) with
  | none => .error s!"task {id} invoked although it is not scheduled (twice / after Cancel)"
  | some p =>
    if now < p.when then .error s!"task {id} invoked at {now}, before its due time {p.when}"
    else
      match sp.pend.find? (fun q => q.when < p.when ∨ (q.when = p.when ∧ q.seq < p.seq)) with
      | some q => .error s!"task {id} (due {p.when}) invoked before task {q.id} (due {q.when}, scheduled earlier)"
      | none =>
        let sp := { sp with pend := sp.pend.filter (·.id ≠ id), now := now }
        let body := match sp.bodies.find? (·.1 = id) with | some (_, b) => b | none => []
        .ok (body.foldl SpSt.apply sp)

def SpSt.user (sp : SpSt) : Op → SpSt
  | .new id w body => if sp.known.contains id then sp else
      ({ sp with bodies := (id, body) :: sp.bodies }).apply (.newAt id w)
  | .newIn id ms body => if sp.known.contains id then sp else
      ({ sp with bodies := (id, body) :: sp.bodies }).apply (.newIn id ms)
  | .newIdle id body => if sp.known.contains id then sp else
      { sp with bodies := (id, body) :: sp.bodies, live := id :: sp.live, known := id :: sp.known }
  | .call op => sp.apply op
  | .clock ns => if ns ≥ sp.now then { sp with now := ns } else sp
  | .step _ => sp

/-! ## the model satisfies the reference scheduler -/

def key (e : Entry) : Pending := ⟨e.id, e.when, e.seq⟩

/-- simulation relation between model state and reference state -/
structure R (m : St) (sp : SpSt) : Prop where
  pend : sp.pend.Perm (m.todos.map key)
  seq : sp.seq = m.nextSeq
  now : sp.now = m.now
  live : sp.live = m.live
  known : sp.known = m.known
  bodies : sp.bodies = m.bodies

/-- the guards of the reference scheduler (`contains`) are the guards of the model (`∈`) -/
theorem R.mem_live {m : St} {sp : SpSt} (r : R m sp) (id : Nat) : (sp.live.contains id = true) = (id ∈ m.live) := by
  rw [List.contains_iff_mem, r.live]

theorem R.mem_known {m : St} {sp : SpSt} (r : R m sp) (id : Nat) : (sp.known.contains id = true) = (id ∈ m.known) := by
  rw [List.contains_iff_mem, r.known]

theorem R_cancel {m : St} {sp : SpSt} (inv : TInv m) (r : R m sp) (id : Nat) :
    R { m with todos := remove m.todos id } { sp with pend := sp.pend.filter (·.id ≠ id) } := by
  refine ⟨?_, r.seq, r.now, r.live, r.known, r.bodies⟩
  have : (m.todos.map key).filter (fun p => p.id ≠ id) = (m.todos.filter (fun e => e.id ≠ id)).map key :=
    List.filter_map
  simp only
  rw [remove_eq_filter id inv.nodup, ← this]
  exact r.pend.filter _

/-- scheduling (construction with a due time, Shift): out of the bag, then in again at the end -/
theorem R_sched {m : St} {sp : SpSt} (inv : TInv m) (r : R m sp) (id : Nat) (w : Int) :
    R { m with todos := move m.todos id w m.nextSeq, nextSeq := m.nextSeq + 1 } (sp.sched id w) := by
  refine ⟨?_, by simp [SpSt.sched, r.seq], r.now, r.live, r.known, r.bodies⟩
  simp only [SpSt.sched, move, r.seq]
  exact (List.perm_append_singleton _ _).trans
    ((List.Perm.cons _ (R_cancel inv r id).pend).trans ((insert_perm (remove m.todos id) ⟨id, w, m.nextSeq⟩).map key).symm)

theorem R_new {m : St} {sp : SpSt} (inv : TInv m) (r : R m sp) (id : Nat) (w : Int) (h : id ∉ m.known) :
    R { m with todos := insert m.todos ⟨id, w, m.nextSeq⟩, nextSeq := m.nextSeq + 1, live := id :: m.live,
               known := id :: m.known }
      { (sp.sched id w) with live := id :: sp.live, known := id :: sp.known } := by
  have := R_sched inv r id w
  rw [move, remove_of_not_mem fun hm => h (inv.known id hm)] at this
  exact ⟨this.pend, this.seq, this.now, by simp [r.live], by simp [r.known], this.bodies⟩

theorem R_ite {c : Prop} [Decidable c] {m m' : St} {sp sp' : SpSt} (h1 : c → R m sp) (h2 : ¬ c → R m' sp') :
    R (if c then m else m') (if c then sp else sp') := by
  split
  · exact h1 ‹_›
  · exact h2 ‹_›

theorem R_apply {m : St} {sp : SpSt} (inv : TInv m) (r : R m sp) (op : BodyOp) : R (applyOp m op) (sp.apply op) := by
  cases op with
  | shift id w => simp only [applyOp, SpSt.apply, r.mem_live]; exact R_ite (fun _ => R_sched inv r id w) fun _ => r
  | shiftd id ms => simp only [applyOp, SpSt.apply, r.mem_live, r.now]; exact R_ite (fun _ => R_sched inv r id _) fun _ => r
  | cancel id => simp only [applyOp, SpSt.apply, r.mem_live]; exact R_ite (fun _ => R_cancel inv r id) fun _ => r
  | newAt id w => simp only [applyOp, SpSt.apply, r.mem_known]; exact R_ite (fun _ => r) (R_new inv r id w)
  | newIn id ms => simp only [applyOp, SpSt.apply, r.mem_known, r.now]; exact R_ite (fun _ => r) (R_new inv r id _)
  | drop id => exact ⟨r.pend, r.seq, r.now, by simp [applyOp, SpSt.apply, r.live], r.known, r.bodies⟩
  | adv ns => exact ⟨r.pend, r.seq, by simp [applyOp, SpSt.apply, r.now], r.live, r.known, r.bodies⟩
  | stop => exact ⟨r.pend, r.seq, r.now, r.live, r.known, r.bodies⟩

theorem R_foldl {m : St} {sp : SpSt} (inv : TInv m) (r : R m sp) (ops : List BodyOp) :
    R (ops.foldl applyOp m) (ops.foldl SpSt.apply sp) := by
  induction ops generalizing m sp with
  | nil => exact r
  | cons op ops ih => exact ih (inv_applyOp inv op) (R_apply inv r op)

theorem ids_key (l : List Entry) : (l.map key).map (·.id) = ids l := by
  simp [ids, key, List.map_map, Function.comp_def]

/-- one invocation by the model is accepted by the reference scheduler, and the relation is
re-established after the task body ran on both sides -/
theorem ran_accepted {m : St} {sp : SpSt} (inv : TInv m) (r : R m sp) {front : Entry} {rest : List Entry}
    (ht : m.todos = front :: rest) (hdue : front.when ≤ m.now) :
    ∃ sp', sp.ran front.id m.now = .ok sp' ∧ R (afterFront m front rest m.now) sp' := by
  obtain ⟨_, hmin, _, htie⟩ := (inv_pop inv ht hdue).logOk _ List.mem_cons_self
  have hperm := r.pend
  rw [ht] at hperm
  have hndp : (sp.pend.map (·.id)).Nodup :=
    (hperm.map (·.id)).nodup_iff.mpr (by rw [ids_key, ← ht]; exact inv.nodup)
  have hfind : sp.pend.find? (fun p => p.id = front.id) = some (key front) :=
    find_of_mem_nodup (key := fun p : Pending => p.id) hndp (hperm.mem_iff.mpr List.mem_cons_self)
  -- the front of the sorted, tie-ordered list is the minimum of the bag
  have hnone : sp.pend.find? (fun q => q.when < (key front).when ∨ (q.when = (key front).when ∧ q.seq < (key front).seq)) = none := by
    apply List.find?_eq_none.mpr
    intro q hq hbad0
    have hbad : q.when < front.when ∨ (q.when = front.when ∧ q.seq < front.seq) := of_decide_eq_true hbad0
    rcases List.mem_cons.mp (hperm.mem_iff.mp hq) with rfl | hq'
    · simp only [key] at hbad; omega
    · obtain ⟨e, he, rfl⟩ := List.mem_map.mp hq'
      have h1 := hmin e he
      have h2 := htie e he
      simp only [key] at hbad
      omega
  -- taking the invoked task out of the bag is `Cancel` of the front entry
  have hrest : (sp.pend.filter (fun p => p.id ≠ front.id)).Perm (rest.map key) := by
    have := (R_cancel inv r front.id).pend
    rwa [ht, remove, if_pos rfl] at this
  have r1 : R { m with todos := rest, log := .ran front.id front.when m.now rest front.seq :: m.log }
      { sp with pend := sp.pend.filter (·.id ≠ front.id), now := m.now } :=
    ⟨hrest, r.seq, rfl, r.live, r.known, r.bodies⟩
  refine ⟨_, ?_, R_foldl (inv_pop inv ht hdue) r1 (m.body front.id)⟩
  unfold SpSt.ran
  rw [hfind]
  simp only
  rw [if_neg (by simp only [key]; omega), hnone]
  simp only [r.bodies, St.body]
  rfl

/-- the task invocations of a log segment, oldest first -/
def ransOf (evs : List Event) : List (Nat × Int) :=
  evs.reverse.filterMap fun | .ran id _ now _ _ => some (id, now) | _ => none

def replayRans (sp : SpSt) : List (Nat × Int) → Except String SpSt
  | [] => .ok sp
  | (id, now) :: rest => match sp.ran id now with | .ok sp' => replayRans sp' rest | .error e => .error e

theorem replayRans_append (sp : SpSt) (a b : List (Nat × Int)) :
    replayRans sp (a ++ b) = match replayRans sp a with | .ok sp' => replayRans sp' b | .error e => .error e := by
  induction a generalizing sp with
  | nil => rfl
  | cons x xs ih =>
    obtain ⟨id, now⟩ := x
    simp only [List.cons_append, replayRans]
    cases sp.ran id now with
    | ok sp' => exact ih sp'
    | error e => rfl

theorem ransOf_snoc_ran (pre : List Event) (id : Nat) (w now : Int) (rest : List Entry) (seq : Nat) :
    ransOf (pre ++ [.ran id w now rest seq]) = (id, now) :: ransOf pre := by
  simp [ransOf]

/-- the `StepTodos` loop: every invocation it makes is accepted -/
theorem stepTodos_accepted (fuel : Nat) (d : Deadline) (m : St) (sp : SpSt) (inv : TInv m) (r : R m sp)
    (hd : d.now = m.now) :
    ∃ pre sp', (stepTodos fuel d m).2.log = pre ++ m.log ∧ replayRans sp (ransOf pre) = .ok sp' ∧
      R (stepTodos fuel d m).2 sp' := by
  refine stepTodos_state_induct (Q := fun d m s' => ∀ sp, TInv m → R m sp → d.now = m.now →
      ∃ pre sp', s'.log = pre ++ m.log ∧ replayRans sp (ransOf pre) = .ok sp' ∧ R s' sp')
    (fun _ _ sp _ r _ => ⟨[.fuel], sp, rfl, rfl, ⟨r.pend, r.seq, r.now, r.live, r.known, r.bodies⟩⟩)
    (fun _ _ sp _ r _ => ⟨[], sp, rfl, rfl, r⟩) ?_ fuel d m sp inv r hd
  intro d m front rest s' ht hdue ih sp inv r hd
  rw [hd] at hdue ih
  obtain ⟨sp1, hran, r1⟩ := ran_accepted inv r ht hdue
  obtain ⟨pre, sp', hlog, hrep, r'⟩ := ih sp1 (inv_afterFront inv ht hdue) r1 (deadline_tick_now ..)
  refine ⟨pre ++ [.ran front.id front.when m.now rest front.seq], sp', ?_, ?_, r'⟩
  · rw [hlog, afterFront_log, List.append_assoc]; rfl
  · rw [ransOf_snoc_ran]
    simp only [replayRans, hran, hrep]

/-- replay a whole history: non-step ops update the reference state from the op line, a step feeds
the model's own invocations (in order) to the checker -/
def replay (clamp : Bool) (fuel : Nat) : St → SpSt → List Op → Except String SpSt
  | _, sp, [] => .ok sp
  | m, sp, op :: ops =>
    let m' := userOp clamp fuel m op
    match op with
    | .step _ =>
      match replayRans sp (ransOf (m'.log.take (m'.log.length - m.log.length))) with
      | .ok sp' => replay clamp fuel m' { sp' with now := m'.now } ops
      | .error e => .error e
    | _ => replay clamp fuel m' (sp.user op) ops

theorem R_user {m : St} {sp : SpSt} (clamp : Bool) (fuel : Nat) (inv : TInv m) (r : R m sp) (op : Op)
    (hns : ∀ t, op ≠ .step t) : R (userOp clamp fuel m op) (sp.user op) := by
  have hbody : ∀ id body, R { m with bodies := (id, body) :: m.bodies } { sp with bodies := (id, body) :: sp.bodies } :=
    fun id body => ⟨r.pend, r.seq, r.now, r.live, r.known, congrArg (List.cons (id, body)) r.bodies⟩
  cases op with
  | new id w body =>
    simp only [userOp, SpSt.user, r.mem_known]
    exact R_ite (fun _ => r) fun _ => R_apply (inv_bodies inv _) (hbody id body) _
  | newIn id ms body =>
    simp only [userOp, SpSt.user, r.mem_known]
    exact R_ite (fun _ => r) fun _ => R_apply (inv_bodies inv _) (hbody id body) _
  | newIdle id body =>
    simp only [userOp, SpSt.user, r.mem_known]
    exact R_ite (fun _ => r) fun _ => ⟨r.pend, r.seq, r.now, by simp [r.live], by simp [r.known], by simp [r.bodies]⟩
  | call op => exact R_apply inv r op
  | clock ns =>
    simp only [userOp, SpSt.user, r.now]
    exact R_ite (fun _ => ⟨r.pend, r.seq, rfl, r.live, r.known, r.bodies⟩) fun _ => r
  | step t => exact absurd rfl (hns t)

theorem R_pollSockets {m : St} {sp : SpSt} (clamp : Bool) (t : Int) (r : R m sp) :
    R (pollSockets clamp t m) { sp with now := (pollSockets clamp t m).now } := by
  obtain ⟨_, _, _, e⟩ := pollSockets_frame clamp t m
  rw [e]
  exact ⟨r.pend, r.seq, rfl, r.live, r.known, r.bodies⟩

/-- **the reference scheduler that `./check C06` evaluates on the implementation accepts the model**:
for every history of construct / Shift / Cancel / drop / clock / Step operations with arbitrary task
bodies, every task invocation the model makes is (1) of a task that is scheduled, (2) not before its
due time, (3) the minimum of the pending bag by (due time, scheduling order). -/
theorem model_accepted (clamp : Bool) (fuel : Nat) (ops : List Op) :
    ∃ sp, replay clamp fuel {} {} ops = .ok sp := by
  suffices H : ∀ (m : St) (sp : SpSt), TInv m → R m sp → ∃ sp', replay clamp fuel m sp ops = .ok sp' from
    H {} {} inv_init ⟨List.Perm.refl _, rfl, rfl, rfl, rfl, rfl⟩
  induction ops with
  | nil => intro m sp _ _; exact ⟨sp, rfl⟩
  | cons op ops ih =>
    intro m sp inv r
    have inv' := inv_userOp clamp fuel inv op
    cases op with
    | step t =>
      -- the log segment of the step is `poll :: pre`, where `pre` is what the `StepTodos` loop logged (if it ran)
      have hstep : ∃ ms pre sp', (userOp clamp fuel m (.step t)).log = .poll ms :: pre ++ m.log ∧
          replayRans sp (ransOf pre) = .ok sp' ∧
          R (userOp clamp fuel m (.step t)) { sp' with now := (userOp clamp fuel m (.step t)).now } := by
        simp only [userOp, step]
        split
        · obtain ⟨ms, _, _, e⟩ := pollSockets_frame clamp t m
          exact ⟨ms, [], sp, by rw [e]; rfl, rfl, R_pollSockets clamp t r⟩
        · obtain ⟨pre, sp1, hlog, hrep, r1⟩ :=
            stepTodos_accepted fuel (Deadline.make t m.now) m sp inv r (deadline_make_now t m.now)
          obtain ⟨ms, _, _, e⟩ := pollSockets_frame clamp (stepTodos fuel (Deadline.make t m.now) m).1
            (stepTodos fuel (Deadline.make t m.now) m).2
          exact ⟨ms, pre, sp1, by rw [e]; exact congrArg (List.cons _) hlog, hrep, R_pollSockets clamp _ r1⟩
      obtain ⟨ms, pre, sp', hlog, h1, r'⟩ := hstep
      have hseg : (userOp clamp fuel m (.step t)).log.take ((userOp clamp fuel m (.step t)).log.length - m.log.length)
          = .poll ms :: pre := by
        rw [hlog]
        exact List.take_left' (by simp only [List.length_append]; omega)
      have hr : ransOf (.poll ms :: pre) = ransOf pre := by simp [ransOf]
      simp only [replay, hseg, hr, h1]
      exact ih _ _ inv' r'
    | _ => exact ih _ _ inv' (R_user clamp fuel inv r _ (by intro t h; cases h))

end SockModel.ToDos.RefSched
