import SockModel.Basic
import SockModel.Model.SendLoopLemmas
/-!
# Spec.C01 - the property as an executable predicate over typed observations, and the proof that the
model satisfies it for every history

`specStep` / `specRun` are what `./check C01` evaluates on the IMPLEMENTATION's transcript
(`Drive/C01.lean` parses every op line with its `-> sys ...` / `-> ret ...` / `-> throw ...` /
`-> peer ...` / `-> pgot ...` lines into one `Obs` and calls these very functions).  The predicate
mentions no model state: its book-keeping `SpecSt` is what an outside observer of the API can keep
(the bytes the `Send` calls account for as length + rolling FNV-1a hash, the bytes the peer sent that
no `Receive` has reported yet, whether / how the peer closed, the datagrams exchanged with the UDP peer).

`sysStep` / `modelTrace` are the observations the MODEL produces for a history: the very functions
`send`, `receive`, `sendTo`, `receiveFrom`, `acceptT` of `Model/SendLoop.lean` (nothing is re-defined)
run on arbitrary scripted `poll` / `send` answers, composed with the environment assumption A-TCP / A-UDP
(`Sys`: a connected pair is one FIFO byte queue per direction, `recv` hands over a non-empty prefix of
what is queued and reports end-of-stream only when the queue is empty and the peer closed; a datagram
socket hands over the oldest queued datagram).  The environment's state is driven by the model's own
*system calls* (bytes the kernel accepted / handed over), the observer's by the *API results*; that the
two never disagree is the content of `model_satisfies_spec`.
-/
namespace SockModel.Spec.C01
open SockModel SockModel.SendLoop SockModel.Deadline

/-! ## payload hash (FNV-1a 64, as printed by the harness) -/

def fnvStep (h : UInt64) (b : UInt8) : UInt64 := (h ^^^ b.toUInt64) * 1099511628211
def fnvInit : UInt64 := 1469598103934665603
def fnvHex (h : UInt64) : String :=
  let n := h.toNat
  String.ofList ((List.range 16).reverse.map fun i => hexDigit ((n / 16 ^ i) % 16))
def fnv (bs : Bytes) : String := fnvHex (bs.foldl fnvStep fnvInit)

/-! ## typed observations -/

/-- result of one intercepted `recv` / `recvfrom` / `accept` -/
inductive RecvObs where
  | got (n : Nat)
  | eof
  | fail (errno : Nat)
  deriving Repr, DecidableEq

/-- one intercepted system call on the socket under test (`-> sys ...`), with its result -/
inductive SysObs where
  | poll (t : Int) (a : PollAns)
  | send (len : Nat) (a : SendAns) (nosignal : Bool)
  | recv (size : Nat) (a : RecvObs)
  deriving Repr, DecidableEq

/-- the exception that left the call (`-> throw ...`) -/
inductive Thrown where
  | system (errno : Nat)
  | logic
  | closed
  | other (text : String)      -- the whole line as printed
  deriving Repr, DecidableEq

def Thrown.text : Thrown → String
  | .system e => s!"throw system {e}"
  | .logic => "throw logic"
  | .closed => "throw closed"
  | .other t => t

/-- a numeral as printed, or any other text -/
inductive Tok where
  | num (n : Nat)
  | text (s : String)
  deriving Repr, DecidableEq

instance : ToString Tok := ⟨fun | .num n => toString n | .text s => s⟩

/-- the result line of a call -/
inductive Ret where
  | none                                   -- `ret none`
  | count (n : Nat)                        -- `ret n`
  | data (n : Option Nat) (h : String)     -- `ret n hash` (`n = none`: not a numeral)
  | threw (x : Thrown)
  | bad                                    -- `ret <not a numeral>`
  | missing                                -- anything else
  deriving Repr, DecidableEq

/-- one operation line of the transcript with what the implementation was seen to do -/
inductive OpObs where
  | send (data : Bytes) (T : Int) (r : Ret)
  | psend (data : Bytes)
  | pclose
  | pshutwr
  | prst
  | recv (size : Nat) (T : Int) (r : Ret)
  /-- `sync`: `-> peer n hash` = everything the raw peer has obtained so far -/
  | sync (n : Tok) (h : String)
  | sendto (data : Bytes) (T : Int) (r : Ret)
  /-- `precv`: `-> pgot n hash` (`none`: the peer obtained nothing / no such line) -/
  | precv (g : Option (Option Nat × String))
  | pdgram (data : Bytes)
  | recvfrom (size : Nat) (T : Int) (r : Ret)
  | listen (T : Int) (r : Ret)
  /-- scenario set-up and scripting lines (`tcp`, `udp`, `acceptor`, `os`, `pconnect`, `now`) -/
  | setup
  /-- the harness process crashed, hung or could not set the scenario up inside this operation -/
  | abort (msg : String)
  deriving Repr, DecidableEq

structure Obs where
  op : OpObs
  sys : List SysObs := []
  deriving Repr, DecidableEq

/-! ## what the predicate reads off the system calls -/

def accOf : SysObs → Nat
  | .send _ (.accept k) _ => k
  | _ => 0

/-- bytes the OS accepted in the `send` calls of one operation -/
def obsAcc : List SysObs → Nat
  | [] => 0
  | o :: l => accOf o + obsAcc l

def isEintr : SysObs → Bool | .poll _ (.eintr _) => true | _ => false
def isPollFail : SysObs → Bool | .poll _ (.fail _) => true | _ => false
def isIoFail : SysObs → Bool | .send _ (.fail _) _ => true | .recv _ (.fail _) => true | _ => false
def isSend : SysObs → Bool | .send .. => true | _ => false
def isRecvGot : SysObs → Bool | .recv _ (.got _) => true | _ => false
def isNosigBad : SysObs → Bool | .send _ _ ns => !ns | _ => false
def isShort : SysObs → Bool | .send l (.accept k) _ => decide (k < l) | _ => false

def hasEintr (sys : List SysObs) : Bool := sys.any isEintr
def hasPollFail (sys : List SysObs) : Bool := sys.any isPollFail
def hasIoFail (sys : List SysObs) : Bool := sys.any isIoFail
def anySend (sys : List SysObs) : Bool := sys.any isSend
def anyRecvGot (sys : List SysObs) : Bool := sys.any isRecvGot
def nosigBad (sys : List SysObs) : Bool := sys.any isNosigBad

/-! ## the property on observations only -/

structure SpecSt where
  wireLen : Nat := 0                 -- bytes the Send calls account for (sum of the OS-accepted counts)
  wireHash : UInt64 := fnvInit       -- rolling hash of those bytes
  peerPending : Bytes := []          -- bytes the peer sent that no Receive has reported yet
  peerClosed : Bool := false
  sawPclose : Bool := false
  sawPrst : Bool := false
  dgrams : List Bytes := []          -- datagrams the peer sent, not yet received
  lastSent : Option Bytes := none    -- last datagram handed to sendto (for `precv`)
  deriving Repr

/-- "A Send with unlimited timeout returns only after all its bytes were accepted (n = size), any other
Send returns 0 ≤ n ≤ size", the count is the number of bytes the OS accepted, and a Send fails only when a
system call failed (a signal alone never makes it fail) -/
def specSend (data : Bytes) (T : Int) (sys : List SysObs) : Ret → Option String
  | .count n =>
    if n > data.length then some s!"Send returned {n} > size {data.length}"
    else if T < 0 ∧ n ≠ data.length then some s!"Send with unlimited timeout returned {n} of {data.length}"
    else if n ≠ obsAcc sys then some s!"Send returned {n} but the OS accepted {obsAcc sys} bytes"
    else none
  | .bad => some "bad ret"
  | .threw x =>
    if hasEintr sys ∧ !hasPollFail sys ∧ !hasIoFail sys ∧ x ≠ .logic then
      some s!"a signal made Send fail: {x.text}"
    else if !hasPollFail sys ∧ !hasIoFail sys ∧ x ≠ .logic then
      some s!"Send threw although no system call failed: {x.text}"
    else none
  | _ => some "missing result"

/-- "a Receive reports between 1 and the offered buffer size bytes, never 0", the bytes are the next bytes
of the peer's stream, and "everything sent before the peer closes is delivered before Receive reports the
closure by throwing" -/
def specRecv (s : SpecSt) (size : Nat) (sys : List SysObs) : Ret → Option String
  | .none => none
  | .data (some n) h =>
    if n = 0 ∨ n > size then some s!"Receive reported {n} bytes for a buffer of {size}"
    else if n > s.peerPending.length ∨ fnv (s.peerPending.take n) ≠ h then
      some "Receive delivered bytes that are not the next bytes of the peer's stream"
    else none
  | .data none _ => some "bad ret"
  | .threw .closed =>
    if !s.peerPending.isEmpty ∧ s.sawPclose ∧ !s.sawPrst then
      some s!"closure reported while {s.peerPending.length} bytes sent before the close were not delivered"
    else if !s.peerClosed then some "closure reported although the peer did not close"
    else none
  | .threw x =>
    if hasEintr sys ∧ !hasPollFail sys ∧ !hasIoFail sys then some s!"a signal made Receive fail: {x.text}"
    else none
  | _ => some "missing result"

def specSendTo (data : Bytes) (T : Int) (sys : List SysObs) : Ret → Option String
  | .count n =>
    if n ≠ data.length ∧ n ≠ 0 then some s!"SendTo returned a partial count {n} of {data.length}"
    else if n = 0 ∧ data.length > 0 ∧ T < 0 then some "SendTo with unlimited timeout returned 0"
    else none
  | .bad => some "bad ret"
  | .threw x =>
    if hasEintr sys ∧ !hasPollFail sys ∧ !hasIoFail sys ∧ x ≠ .logic then
      some s!"a signal made SendTo fail: {x.text}"
    else none
  | _ => some "missing result"

def specRecvFrom (s : SpecSt) (size : Nat) (sys : List SysObs) : Ret → Option String
  | .none => none
  | .data n h =>
    if n ≠ some (min size (s.dgrams.headD []).length) ∨ h ≠ fnv ((s.dgrams.headD []).take size) then
      some "ReceiveFrom reported a payload that is not the (prefix of the) datagram sent"
    else none
  | .threw x =>
    if hasEintr sys ∧ !hasPollFail sys ∧ !hasIoFail sys then some s!"a signal made ReceiveFrom fail: {x.text}"
    else none
  | _ => some "missing result"

def specListen (sys : List SysObs) : Ret → Option String
  | .none => none
  | .count _ => none
  | .threw x =>
    if hasEintr sys ∧ !hasPollFail sys ∧ !hasIoFail sys then some s!"a signal made Listen fail: {x.text}"
    else none
  | _ => some "missing result"

def orOk (m : Option String) (s : SpecSt) : Except String SpecSt :=
  match m with
  | some msg => .error msg
  | none => .ok s

/-- one operation, given the system calls seen during it -/
def specOp (s : SpecSt) (sys : List SysObs) : OpObs → Except String SpecSt
  | .send data T r =>
    orOk (specSend data T sys r)
      { s with wireLen := s.wireLen + obsAcc sys,
               wireHash := (data.take (obsAcc sys)).foldl fnvStep s.wireHash }
  | .psend data => .ok { s with peerPending := s.peerPending ++ data }
  | .pclose => .ok { s with peerClosed := true, sawPclose := true }
  | .pshutwr => .ok { s with peerClosed := true }
  | .prst => .ok { s with peerClosed := true, peerPending := [], sawPrst := true }
  | .recv size _ r =>
    orOk (specRecv s size sys r)
      { s with peerPending := s.peerPending.drop (match r with | .data (some n) _ => n | _ => 0) }
  | .sync n h =>
    if n ≠ .num s.wireLen ∨ h ≠ fnvHex s.wireHash then
      .error s!"peer obtained {n} bytes (hash {h}); the Send calls account for {s.wireLen} bytes (hash {fnvHex s.wireHash})"
    else .ok s
  | .sendto data T r =>
    orOk (specSendTo data T sys r)
      { s with lastSent := match r with
                 | .count n => if n = data.length ∧ (data.length > 0 ∨ anySend sys) then some data else none
                 | _ => none }
  | .precv g =>
    match g, s.lastSent with
    | some (n, h), some d =>
      if n ≠ some d.length ∨ h ≠ fnv d then .error "peer obtained a datagram different from the one sent"
      else .ok { s with lastSent := none }
    | _, _ => .ok s
  | .pdgram data => .ok { s with dgrams := s.dgrams ++ [data] }
  | .recvfrom size _ r =>
    orOk (specRecvFrom s size sys r) { s with dgrams := if anyRecvGot sys then s.dgrams.drop 1 else s.dgrams }
  | .listen _ r => orOk (specListen sys r) s
  | .setup => .ok s
  | .abort msg => .error msg

/-- the whole predicate for one transcript block: a crash / hang is a failure of every property; no
`send` without `MSG_NOSIGNAL` (a closed peer must surface as an exception, not as SIGPIPE); then the
clauses of the operation -/
def specStep (s : SpecSt) (o : Obs) : Except String SpecSt :=
  match o.op with
  | .abort msg => .error msg
  | op => if nosigBad o.sys then .error "a send() without MSG_NOSIGNAL" else specOp s o.sys op

def specRun (s : SpecSt) : List Obs → Except String SpecSt
  | [] => .ok s
  | o :: os => match specStep s o with | .ok s' => specRun s' os | .error e => .error e

/-! ## the observations of the MODEL -/

/-- how the kernel answers the `recv` / `recvfrom` of an operation, should the library issue it -/
inductive RecvChoice where
  | take (n : Nat)        -- hand over what is queued (TCP: at most `max n 1` bytes of it)
  | fail (errno : Nat)
  deriving Repr, DecidableEq

/-- one step of a history: an API call of the library together with the answers of the operating system
(every `poll` / `send` answer is arbitrary), or an action of the raw peer -/
inductive Op where
  | send (data : Bytes) (T : Int) (polls : List PollAns) (sends : List SendAns)
  | psend (data : Bytes)
  | pclose
  | pshutwr
  | prst
  | recv (size : Nat) (T : Int) (polls : List PollAns) (ans : RecvChoice)
  | sync
  | sendto (data : Bytes) (T : Int) (polls : List PollAns) (sends : List SendAns)
  | precv (delivered : Bool)
  | pdgram (data : Bytes)
  | recvfrom (size : Nat) (T : Int) (polls : List PollAns) (ans : RecvChoice)
  | listen (T : Int) (polls : List PollAns) (acceptErrno : Option Nat)
  | setup
  deriving Repr

/-- the environment (assumptions A-TCP / A-UDP), driven by the system calls of the model -/
structure Sys where
  wire : Bytes := []           -- every byte the kernel accepted from the library's `send`s, in order: what the peer obtains
  inbox : Bytes := []          -- bytes the peer sent that the kernel has not handed to a `recv` yet
  peerClosed : Bool := false
  byClose : Bool := false
  byRst : Bool := false
  dgrams : List Bytes := []    -- datagrams queued at the socket under test
  flight : List Bytes := []    -- datagrams the kernel accepted for the peer, not yet read by it

/-- A-TCP: `recv` hands over a non-empty prefix of what is queued; end-of-stream only when nothing is
queued and the peer closed; nothing queued and not closed: `EAGAIN` -/
def tcpAns (inbox : Bytes) (closed : Bool) : RecvChoice → RecvAns
  | .fail e => .fail e
  | .take n => if inbox.isEmpty then (if closed then .eof else .fail 11) else .got (inbox.take (max n 1))

/-- A-UDP: `recvfrom` hands over the oldest queued datagram -/
def udpAns (dgrams : List Bytes) : RecvChoice → RecvAns
  | .fail e => .fail e
  | .take _ => match dgrams with | [] => .fail 11 | d :: _ => .got d

/-- what the interposed `recv` reports for an answer of the kernel (the count is what fits the buffer) -/
def tcpRecvObs (a : RecvAns) (size : Nat) : RecvObs :=
  match a with
  | .got x => if (x.take size).isEmpty then .eof else .got (x.take size).length
  | .eof => .eof
  | .fail e => .fail e

def udpRecvObs (a : RecvAns) (size : Nat) : RecvObs :=
  match a with
  | .got x => .got (x.take size).length
  | .eof => .got 0
  | .fail e => .fail e

def accRecvObs (a : RecvAns) (_size : Nat) : RecvObs :=
  match a with
  | .fail e => .fail e
  | _ => .got 1

/-- the kernel's answer to `accept`: a connection, or a failure -/
def accAns : Option Nat → RecvAns
  | none => .got []
  | some e => .fail e

/-- what the interposed `send` reports: the bytes the kernel really took -/
def sendObs (a : SendAns) (acc : Bytes) : SendAns :=
  match a with
  | .accept _ => .accept acc.length
  | .fail e => .fail e

/-- the system calls of the model (`Os.calls`, oldest first) with the answers they consumed -/
def pair (f : RecvAns → Nat → RecvObs) : List Call → List PollAns → List SendAns → List RecvAns → List SysObs
  | [], _, _, _ => []
  | .poll t :: cs, a :: ps, ss, rs => .poll t a :: pair f cs ps ss rs
  | .send len acc :: cs, ps, a :: ss, rs => .send len (sendObs a acc) true :: pair f cs ps ss rs
  | .recv size :: cs, ps, ss, a :: rs => .recv size (f a size) :: pair f cs ps ss rs
  | _ :: _, _, _, _ => []

/-- the `-> sys ...` lines of one model operation started on the fresh script `os0` -/
def sysOf (f : RecvAns → Nat → RecvObs) (os0 os' : Os) : List SysObs :=
  pair f os'.calls.reverse os0.polls os0.sends os0.recvs

def thrownOf : Exn → Thrown
  | .system e => .system e
  | .logic => .logic
  | .closed => .closed
  | .exhausted => .other "model-script-exhausted"

/-- bytes the kernel handed over in the `recv`s of one operation -/
def gotOf : SysObs → Nat | .recv _ (.got n) => n | _ => 0
def recvGot : List SysObs → Nat
  | [] => 0
  | o :: l => gotOf o + recvGot l

def isSentOk : SysObs → Bool | .send _ (.accept _) _ => true | _ => false
def sentOk (sys : List SysObs) : Bool := sys.any isSentOk

/-- One step of the composed model.  `none`: the scripted answers ran out inside the call - it has not
returned, nothing is observed any more.  The environment is updated from the system calls (`sys`,
`wire os'`), never from the API result. -/
def sysStep (m : Sys) : Op → Option (Sys × Obs)
  | .send data T polls sends =>
    let os : Os := { polls := polls, sends := sends }
    let p := send data T os
    let sys := sysOf tcpRecvObs os p.2
    let m' := { m with wire := m.wire ++ wire p.2 }
    match p.1 with
    | .ok n => some (m', { op := .send data T (.count n), sys := sys })
    | .exn .exhausted => none
    | .exn e => some (m', { op := .send data T (.threw (thrownOf e)), sys := sys })
  | .psend data => some ({ m with inbox := m.inbox ++ data }, { op := .psend data })
  | .pclose => some ({ m with peerClosed := true, byClose := true }, { op := .pclose })
  | .pshutwr => some ({ m with peerClosed := true }, { op := .pshutwr })
  | .prst => some ({ m with peerClosed := true, inbox := [], byRst := true }, { op := .prst })
  | .recv size T polls ans =>
    let os : Os := { polls := polls, recvs := [tcpAns m.inbox m.peerClosed ans] }
    let p := receive size T os
    let sys := sysOf tcpRecvObs os p.2
    let m' := { m with inbox := m.inbox.drop (recvGot sys) }
    match p.1 with
    | .ok none => some (m', { op := .recv size T .none, sys := sys })
    | .ok (some bs) => some (m', { op := .recv size T (.data (some bs.length) (fnv bs)), sys := sys })
    | .exn .exhausted => none
    | .exn e => some (m', { op := .recv size T (.threw (thrownOf e)), sys := sys })
  | .sync => some (m, { op := .sync (.num m.wire.length) (fnvHex (m.wire.foldl fnvStep fnvInit)) })
  | .sendto data T polls sends =>
    let os : Os := { polls := polls, sends := sends }
    let p := sendTo data T os
    let sys := sysOf udpRecvObs os p.2
    let m' := { m with flight := if sentOk sys then m.flight ++ [wire p.2] else m.flight }
    match p.1 with
    | .ok n => some (m', { op := .sendto data T (.count n), sys := sys })
    | .exn .exhausted => none
    | .exn e => some (m', { op := .sendto data T (.threw (thrownOf e)), sys := sys })
  | .precv delivered =>
    match delivered, m.flight with
    | true, d :: rest => some ({ m with flight := rest }, { op := .precv (some (some d.length, fnv d)) })
    | _, _ => some (m, { op := .precv none })
  | .pdgram data => some ({ m with dgrams := m.dgrams ++ [data] }, { op := .pdgram data })
  | .recvfrom size T polls ans =>
    let os : Os := { polls := polls, recvs := [udpAns m.dgrams ans] }
    let p := receiveFrom size T os
    let sys := sysOf udpRecvObs os p.2
    let m' := { m with dgrams := if anyRecvGot sys then m.dgrams.drop 1 else m.dgrams }
    match p.1 with
    | .ok none => some (m', { op := .recvfrom size T .none, sys := sys })
    | .ok (some bs) => some (m', { op := .recvfrom size T (.data (some bs.length) (fnv bs)), sys := sys })
    | .exn .exhausted => none
    | .exn e => some (m', { op := .recvfrom size T (.threw (thrownOf e)), sys := sys })
  | .listen T polls err =>
    let os : Os := { polls := polls, recvs := [accAns err] }
    let p := acceptT T os
    let sys := sysOf accRecvObs os p.2
    match p.1 with
    | .ok none => some (m, { op := .listen T .none, sys := sys })
    | .ok (some _) => some (m, { op := .listen T (.count 1), sys := sys })
    | .exn .exhausted => none
    | .exn e => some (m, { op := .listen T (.threw (thrownOf e)), sys := sys })
  | .setup => some (m, { op := .setup })

/-- the observations the MODEL produces for a history (it ends where a call does not return) -/
def modelTrace (m : Sys) : List Op → List Obs
  | [] => []
  | op :: ops =>
    match sysStep m op with
    | none => []
    | some (m', o) => o :: modelTrace m' ops

/-- the domain: receive buffers have at least one byte (the property's quantifier); the kernel does not
answer an unlimited `poll` of a `SendTo` with "timed out" (a statement about the kernel); the harness
protocol of the UDP cases: a datagram is handed to `sendto` only after the peer has read the previous one
(`precv` compares with the LAST datagram sent) -/
def Op.ok (m : Sys) : Op → Bool
  | .recv size _ _ _ => decide (1 ≤ size)
  | .sendto _ T polls _ => m.flight.isEmpty && (decide (T < 0) → polls.all (· ≠ .timedOut))
  | _ => true

def histOk (m : Sys) : List Op → Bool
  | [] => true
  | op :: ops =>
    op.ok m && match sysStep m op with
      | none => true
      | some (m', _) => histOk m' ops

/-! ## the model satisfies the predicate: system-call traces of the model functions -/

theorem obsAcc_append (a b : List SysObs) : obsAcc (a ++ b) = obsAcc a + obsAcc b := by
  induction a with
  | nil => simp [obsAcc]
  | cons o l ih => simp only [List.cons_append, obsAcc, ih]; omega

theorem recvGot_append (a b : List SysObs) : recvGot (a ++ b) = recvGot a + recvGot b := by
  induction a with
  | nil => simp [recvGot]
  | cons o l ih => simp only [List.cons_append, recvGot, ih]; omega

def isPoll : SysObs → Bool | .poll .. => true | _ => false
/-- only `poll`s (what a `Wait` does) -/
def PollsOnly (l : List SysObs) : Prop := l.all isPoll = true

/-- `poll`s contribute nothing to what the predicate reads off a trace -/
structure Quiet (l : List SysObs) : Prop where
  got : recvGot l = 0
  send : anySend l = false
  recv : anyRecvGot l = false
  sent : sentOk l = false

theorem PollsOnly.quiet {l : List SysObs} (h : PollsOnly l) : Quiet l := by
  induction l with
  | nil => exact ⟨rfl, rfl, rfl, rfl⟩
  | cons o l ih =>
    unfold PollsOnly at h
    simp only [List.all_cons, Bool.and_eq_true] at h
    obtain ⟨h1, h2, h3, h4⟩ := ih h.2
    cases o with
    | poll t a =>
      simp only [anySend, anyRecvGot, sentOk] at h2 h3 h4
      constructor <;> simp [recvGot, gotOf, anySend, anyRecvGot, sentOk, isSend, isRecvGot, isSentOk, h1, h2, h3, h4]
    | send _ _ _ | recv _ _ => simp [isPoll] at h

/-- what an exception of a model function can be, given the system calls made: the script ran out, an
errno of a FAILED system call, and (where the function can raise them) the two library-made exceptions -/
def ExnC (lg cl : Bool) (l : List SysObs) (e : Exn) : Prop :=
  e = .exhausted ∨ (∃ c, e = .system c ∧ (hasPollFail l = true ∨ hasIoFail l = true)) ∨
  (lg = true ∧ e = .logic) ∨ (cl = true ∧ e = .closed)

theorem ExnC.mono {lg cl : Bool} {l l' : List SysObs} {e : Exn} (h : ExnC lg cl l e) (hsub : ∀ o ∈ l, o ∈ l') :
    ExnC lg cl l' e := by
  rcases h with h | ⟨c, hc, hf⟩ | h | h
  · exact Or.inl h
  · refine Or.inr (Or.inl ⟨c, hc, ?_⟩)
    simp only [hasPollFail, hasIoFail, List.any_eq_true] at hf ⊢
    exact hf.imp (fun ⟨o, ho, h⟩ => ⟨o, hsub o ho, h⟩) (fun ⟨o, ho, h⟩ => ⟨o, hsub o ho, h⟩)
  · exact Or.inr (Or.inr (Or.inl h))
  · exact Or.inr (Or.inr (Or.inr h))

theorem ExnC.append_right {lg cl : Bool} {l : List SysObs} {e : Exn} (h : ExnC lg cl l e) (l2 : List SysObs) :
    ExnC lg cl (l ++ l2) e :=
  h.mono fun _ ho => List.mem_append_left _ ho

theorem ExnC.append_left {lg cl : Bool} {l : List SysObs} {e : Exn} (h : ExnC lg cl l e) (l1 : List SysObs) :
    ExnC lg cl (l1 ++ l) e :=
  h.mono fun _ ho => List.mem_append_right _ ho

theorem ExnC.io_fail {lg cl : Bool} (lw : List SysObs) {o : SysObs} (ho : isIoFail o = true) (c : Nat) :
    ExnC lg cl (lw ++ [o]) (.system c) :=
  Or.inr (Or.inl ⟨c, rfl, Or.inr (by simp [hasIoFail, ho])⟩)

theorem ExnC.weaken {l : List SysObs} {e : Exn} (h : ExnC false false l e) (lg cl : Bool) : ExnC lg cl l e := by
  rcases h with h | h | h | h
  · exact Or.inl h
  · exact Or.inr (Or.inl h)
  · exact absurd h.1 (by decide)
  · exact absurd h.1 (by decide)

theorem ExnC.exhausted (lg cl : Bool) (l : List SysObs) : ExnC lg cl l .exhausted := Or.inl rfl

/-- an errno needs a failed system call -/
theorem ExnC.system_fail {lg cl : Bool} {l : List SysObs} {c : Nat} (h : ExnC lg cl l (.system c)) :
    hasPollFail l = true ∨ hasIoFail l = true := by
  rcases h with h | ⟨_, _, h⟩ | h | h
  · cases h
  · exact h
  · cases h.2
  · cases h.2

theorem ExnC.not_logic {cl : Bool} {l : List SysObs} (h : ExnC false cl l .logic) : False := by
  rcases h with h | ⟨_, h, _⟩ | h | h
  · cases h
  · cases h
  · cases h.1
  · cases h.2

theorem ExnC.not_closed {lg : Bool} {l : List SysObs} (h : ExnC lg false l .closed) : False := by
  rcases h with h | ⟨_, h, _⟩ | h | h
  · cases h
  · cases h
  · cases h.2
  · cases h.1

theorem ExnC.io_thrown {l : List SysObs} {e : Exn} (h : ExnC false false l e) (hne : e ≠ .exhausted) :
    hasPollFail l = true ∨ hasIoFail l = true := by
  rcases h with h | ⟨_, _, h⟩ | h | h
  · exact absurd h hne
  · exact h
  · cases h.1
  · cases h.1

theorem ExnC.send_thrown {l : List SysObs} {e : Exn} (h : ExnC true false l e) (hne : e ≠ .exhausted) :
    hasPollFail l = true ∨ hasIoFail l = true ∨ thrownOf e = .logic := by
  rcases h with h | ⟨_, _, h | h⟩ | h | h
  · exact absurd h hne
  · exact Or.inl h
  · exact Or.inr (Or.inl h)
  · exact Or.inr (Or.inr (by rw [h.2]; rfl))
  · cases h.1

section Traces
variable (f : RecvAns → Nat → RecvObs)

/-- one system call of the model: the change of `Os` and the observation it corresponds to -/
inductive Step1 : Os → SysObs → Os → Prop
  | poll {os os' : Os} {t : Int} {a : PollAns} {rest : List PollAns} :
      os.polls = a :: rest → os'.polls = rest → os'.sends = os.sends → os'.recvs = os.recvs →
      os'.calls = .poll t :: os.calls → Step1 os (.poll t a) os'
  | send {os os' : Os} {len : Nat} {acc : Bytes} {a : SendAns} {rest : List SendAns} :
      os.sends = a :: rest → os'.sends = rest → os'.polls = os.polls → os'.recvs = os.recvs →
      os'.calls = .send len acc :: os.calls → (∀ e, a = .fail e → acc = []) →
      Step1 os (.send len (sendObs a acc) true) os'
  | recv {os os' : Os} {size : Nat} {a : RecvAns} {rest : List RecvAns} :
      os.recvs = a :: rest → os'.recvs = rest → os'.polls = os.polls → os'.sends = os.sends →
      os'.calls = .recv size :: os.calls → Step1 os (.recv size (f a size)) os'

inductive Run : Os → List SysObs → Os → Prop
  | nil (os : Os) : Run os [] os
  | cons {a : Os} {o : SysObs} {b : Os} {l : List SysObs} {c : Os} : Step1 f a o b → Run b l c → Run a (o :: l) c

variable {f}

theorem Run.single {a b : Os} {o : SysObs} (h : Step1 f a o b) : Run f a [o] b := .cons h (.nil b)

theorem Run.trans {a b c : Os} {l1 l2 : List SysObs} (h1 : Run f a l1 b) (h2 : Run f b l2 c) : Run f a (l1 ++ l2) c := by
  induction h1 with
  | nil _ => exact h2
  | cons s _ ih => exact .cons s (ih h2)

theorem Run.then_send {a b : Os} {l : List SysObs} (h : Run f a l b) {sa : SendAns} {rest : List SendAns}
    (hs : b.sends = sa :: rest) (len : Nat) (acc : Bytes) (hacc : ∀ e, sa = .fail e → acc = []) :
    Run f a (l ++ [.send len (sendObs sa acc) true]) { b with sends := rest, calls := .send len acc :: b.calls } :=
  h.trans (.single (.send hs rfl rfl rfl rfl hacc))

theorem Run.then_recv {a b : Os} {l : List SysObs} (h : Run f a l b) {ra : RecvAns} {rest : List RecvAns}
    (hr : b.recvs = ra :: rest) (size : Nat) :
    Run f a (l ++ [.recv size (f ra size)]) { b with recvs := rest, calls := .recv size :: b.calls } :=
  h.trans (.single (.recv hr rfl rfl rfl rfl))

/-- the trace of a run is the pairing of the calls logged with the answers consumed -/
theorem Run.pair {a c : Os} {l : List SysObs} (h : Run f a l c) :
    ∃ cs, c.calls = cs.reverse ++ a.calls ∧ pair f cs a.polls a.sends a.recvs = l := by
  induction h with
  | nil os => exact ⟨[], by simp, by rw [C01.pair]⟩
  | cons s _ ih =>
    obtain ⟨cs, hc, hp⟩ := ih
    cases s with
    | poll h1 h2 h3 h4 h5 | send h1 h2 h3 h4 h5 _ | recv h1 h2 h3 h4 h5 =>
      refine ⟨_ :: cs, by rw [hc, h5]; simp; exact rfl, ?_⟩
      rw [h1, C01.pair, ← h2, ← h3, ← h4, hp]

theorem Run.sysOf {os os' : Os} {l : List SysObs} (h : Run f os l os') (h0 : os.calls = []) : sysOf f os os' = l := by
  obtain ⟨cs, hc, hp⟩ := h.pair
  unfold C01.sysOf
  rw [hc, h0]; simpa using hp

theorem Run.wireLen {a c : Os} {l : List SysObs} (h : Run f a l c) : (wire c).length = (wire a).length + obsAcc l := by
  induction h with
  | nil os => simp [obsAcc]
  | cons s _ ih =>
    rw [ih]
    cases s with
    | poll h1 h2 h3 h4 h5 | recv h1 h2 h3 h4 h5 => rw [wire_cons _ _ _ h5]; simp [callBytes, obsAcc, accOf]
    | @send _ len acc a rest h1 h2 h3 h4 h5 h6 =>
      rw [wire_cons _ _ _ h5]
      cases a with
      | accept k => simp [callBytes, obsAcc, accOf, sendObs]; omega
      | fail e => simp [callBytes, obsAcc, accOf, sendObs, h6 e rfl]

theorem Run.nosig {a c : Os} {l : List SysObs} (h : Run f a l c) : nosigBad l = false := by
  induction h with
  | nil os => rfl
  | cons s _ ih =>
    unfold nosigBad at ih ⊢
    cases s <;> simp [isNosigBad, ih]

/-- a run of `poll`s leaves the other answer queues alone -/
theorem Run.frame {a c : Os} {l : List SysObs} (h : Run f a l c) (hp : PollsOnly l) :
    c.sends = a.sends ∧ c.recvs = a.recvs := by
  induction h with
  | nil os => exact ⟨rfl, rfl⟩
  | cons s _ ih =>
    unfold PollsOnly at hp
    simp only [List.all_cons, Bool.and_eq_true] at hp
    obtain ⟨i1, i2⟩ := ih hp.2
    cases s with
    | poll h1 h2 h3 h4 h5 => exact ⟨by rw [i1, h3], by rw [i2, h4]⟩
    | send | recv => simp [isPoll] at hp

end Traces

section Fns
variable (f : RecvAns → Nat → RecvObs)

theorem pollOnce_step {t : Int} {os os' : Os} {a' : PollAns} (h : pollOnce t os = some (a', os')) :
    ∃ a, Step1 f os (.poll t a) os' ∧ (∀ e, a' = .fail e → a = .fail e) := by
  obtain ⟨a0, rest, hp, ha, rfl⟩ := pollOnce_some h
  exact ⟨a0, .poll hp rfl rfl rfl rfl, fun e he => pollSees_fail (ha ▸ he)⟩

theorem pollsOnly_single (t : Int) (a : PollAns) : PollsOnly [SysObs.poll t a] := rfl

theorem pollsOnly_cons (t : Int) (a : PollAns) {l : List SysObs} (h : PollsOnly l) : PollsOnly (SysObs.poll t a :: l) := by
  unfold PollsOnly at h ⊢
  simp [isPoll, h]

theorem waited_run {os os' : Os} {r : Res Bool} (h : Waited os r os') :
    ∃ l, Run f os l os' ∧ PollsOnly l ∧ ∀ e, r = .exn e → ExnC false false l e := by
  induction h with
  | exhausted os => exact ⟨[], .nil _, rfl, fun e he => by cases he; exact .exhausted _ _ _⟩
  | ready hp | timedOut hp =>
    obtain ⟨a, hs, _⟩ := pollOnce_step f hp
    exact ⟨[.poll _ a], .single hs, pollsOnly_single _ _, fun e he => by cases he⟩
  | fail hp =>
    obtain ⟨a, hs, hf⟩ := pollOnce_step f hp
    cases hf _ rfl
    exact ⟨[.poll _ (.fail _)], .single hs, pollsOnly_single _ _,
      fun e he => by cases he; exact Or.inr (Or.inl ⟨_, rfl, Or.inl rfl⟩)⟩
  | eintr hp _ ih =>
    obtain ⟨a, hs, _⟩ := pollOnce_step f hp
    obtain ⟨l, hr, hpo, hex⟩ := ih
    exact ⟨.poll _ a :: l, .cons hs hr, pollsOnly_cons _ _ hpo, fun e he => (hex e he).append_left [_]⟩

/-- a `Wait` only polls; it fails only with the errno of a failed `poll` -/
theorem wait_run (T : Int) (os : Os) :
    ∃ l, Run f os l (wait T os).2 ∧ PollsOnly l ∧ ∀ e, (wait T os).1 = .exn e → ExnC false false l e :=
  waited_run f (wait_waited T os)

theorem sendNow_run (data : Bytes) (os : Os) :
    ∃ l, Run f os l (sendNow data os).2 ∧ ∀ e, (sendNow data os).1 = .exn e → ExnC true false l e := by
  unfold sendNow
  cases hs : os.sends with
  | nil => exact ⟨[], .nil _, fun e he => by cases he; exact .exhausted _ _ _⟩
  | cons a rest =>
    cases a with
    | accept k =>
      simp only
      refine ⟨[.send data.length (sendObs (.accept k) (data.take (min k data.length))) true], ?_, ?_⟩
      · split <;> exact .single (.send hs rfl rfl rfl rfl (by intro e he; cases he))
      · intro e he
        split at he
        · cases he; exact Or.inr (Or.inr (Or.inl ⟨rfl, rfl⟩))
        · cases he
    | fail c =>
      refine ⟨[.send data.length (sendObs (.fail c) []) true],
        .single (.send hs rfl rfl rfl rfl (fun _ _ => rfl)), ?_⟩
      intro e he
      cases he
      exact Or.inr (Or.inl ⟨c, rfl, Or.inr rfl⟩)

theorem sendAllLoop_run (fuel : Nat) (rem : Bytes) (sent : Nat) (os : Os) :
    ∃ l, Run f os l (sendAllLoop fuel rem sent os).2 ∧
      ∀ e, (sendAllLoop fuel rem sent os).1 = .exn e → ExnC true false l e := by
  induction fuel generalizing rem sent os with
  | zero => exact ⟨[], .nil _, fun e he => by cases he; exact .exhausted _ _ _⟩
  | succ fuel ih =>
    unfold sendAllLoop
    obtain ⟨lw, hrw, _, hexw⟩ := wait_run f (-1) os
    cases hw : wait (-1) os with
    | mk rw osw =>
      rw [hw] at hrw hexw
      cases rw with
      | exn e => exact ⟨lw, hrw, fun e he => by cases he; exact (hexw _ rfl).weaken _ _⟩
      | ok b =>
        simp only
        obtain ⟨ls, hrs, hexs⟩ := sendNow_run f rem osw
        cases hs : sendNow rem osw with
        | mk rs oss =>
          rw [hs] at hrs hexs
          cases rs with
          | exn e => exact ⟨lw ++ ls, hrw.trans hrs, fun e he => by cases he; exact (hexs _ rfl).append_left _⟩
          | ok k =>
            simp only
            split
            · exact ⟨lw ++ ls, hrw.trans hrs, fun e he => by cases he⟩
            · obtain ⟨l3, hr3, hex3⟩ := ih (rem.drop k) (sent + k) oss
              exact ⟨(lw ++ ls) ++ l3, (hrw.trans hrs).trans hr3, fun e he => (hex3 e he).append_left _⟩

theorem sendTry_run (data : Bytes) (os : Os) :
    ∃ l, Run f os l (sendTry data os).2 ∧ ∀ e, (sendTry data os).1 = .exn e → ExnC true false l e := by
  unfold sendTry
  obtain ⟨lw, hrw, _, hexw⟩ := wait_run f 0 os
  cases hw : wait 0 os with
  | mk rw osw =>
    rw [hw] at hrw hexw
    cases rw with
    | exn e => exact ⟨lw, hrw, fun e he => by cases he; exact (hexw _ rfl).weaken _ _⟩
    | ok b =>
      cases b with
      | false => exact ⟨lw, hrw, fun e he => by cases he⟩
      | true =>
        simp only
        obtain ⟨ls, hrs, hexs⟩ := sendNow_run f data osw
        exact ⟨lw ++ ls, hrw.trans hrs, fun e he => (hexs e he).append_left _⟩

theorem sendSomeLoop_run (deadline : Int) (fuel : Nat) (rem : Bytes) (sent : Nat) (dnow : Int) (os : Os) :
    ∃ l, Run f os l (sendSomeLoop deadline fuel rem sent dnow os).2 ∧
      ∀ e, (sendSomeLoop deadline fuel rem sent dnow os).1 = .exn e → ExnC true false l e := by
  induction fuel generalizing rem sent dnow os with
  | zero => exact ⟨[], .nil _, fun e he => by cases he; exact .exhausted _ _ _⟩
  | succ fuel ih =>
    unfold sendSomeLoop
    obtain ⟨lw, hrw, _, hexw⟩ := wait_run f (Deadline.limited dnow deadline).remaining os
    cases hw : wait (Deadline.limited dnow deadline).remaining os with
    | mk rw osw =>
      rw [hw] at hrw hexw
      cases rw with
      | exn e => exact ⟨lw, hrw, fun e he => by cases he; exact (hexw _ rfl).weaken _ _⟩
      | ok b =>
        cases b with
        | false => exact ⟨lw, hrw, fun e he => by cases he⟩
        | true =>
          simp only
          obtain ⟨ls, hrs, hexs⟩ := sendNow_run f rem osw
          cases hs : sendNow rem osw with
          | mk rs oss =>
            rw [hs] at hrs hexs
            cases rs with
            | exn e => exact ⟨lw ++ ls, hrw.trans hrs, fun e he => by cases he; exact (hexs _ rfl).append_left _⟩
            | ok k =>
              simp only
              split
              · exact ⟨lw ++ ls, hrw.trans hrs, fun e he => by cases he⟩
              · obtain ⟨l3, hr3, hex3⟩ := ih (rem.drop k) (sent + k) osw.now oss
                exact ⟨(lw ++ ls) ++ l3, (hrw.trans hrs).trans hr3, fun e he => (hex3 e he).append_left _⟩

/-- `Send`: its system calls, and it fails only with the errno of a failed system call or with the
`logic_error` of `SendNow` - never because of a signal, never with "connection closed" -/
theorem send_run (data : Bytes) (T : Int) (os : Os) :
    ∃ l, Run f os l (send data T os).2 ∧ ∀ e, (send data T os).1 = .exn e → ExnC true false l e := by
  unfold send
  split
  · exact sendAllLoop_run f _ _ _ _
  · split
    · exact sendTry_run f _ _
    · exact sendSomeLoop_run f _ _ _ _ _ _

end Fns

theorem recvGot_snoc {l : List SysObs} (h : PollsOnly l) (o : SysObs) : recvGot (l ++ [o]) = gotOf o := by
  rw [recvGot_append, h.quiet.got]; simp [recvGot]

/-- `Receive` on a connection whose kernel would answer the `recv` with `ra` -/
theorem receive_trace (size : Nat) (T : Int) (os : Os) (ra : RecvAns) (hrec : os.recvs = [ra]) :
    ∃ l, Run tcpRecvObs os l (receive size T os).2 ∧
      (∀ e, (receive size T os).1 = .exn e → ExnC false true l e ∧ recvGot l = 0 ∧
        (e = .closed → ra = .eof ∨ ∃ x, ra = .got x ∧ x.take size = [])) ∧
      ((receive size T os).1 = .ok none → recvGot l = 0) ∧
      (∀ bs, (receive size T os).1 = .ok (some bs) →
        ∃ x, ra = .got x ∧ bs = x.take size ∧ bs ≠ [] ∧ recvGot l = bs.length) := by
  unfold receive
  obtain ⟨lw, hrw, hpw, hexw⟩ := wait_run tcpRecvObs T os
  cases hw : wait T os with
  | mk rw osw =>
    rw [hw] at hrw hexw
    have hfr : osw.recvs = [ra] := (wait_polled hw).recvs.trans hrec
    have hg0 := hpw.quiet.got
    cases rw with
    | exn e =>
      refine ⟨lw, hrw, ?_, (fun h => by cases h), (fun bs h => by cases h)⟩
      intro e' he
      cases he
      refine ⟨(hexw _ rfl).weaken _ _, hg0, ?_⟩
      intro hc
      subst hc
      exact (hexw _ rfl).not_closed.elim
    | ok b =>
      cases b with
      | false => exact ⟨lw, hrw, (fun e h => by cases h), fun _ => hg0, (fun bs h => by cases h)⟩
      | true =>
        simp only
        unfold recvNow
        rw [hfr]
        simp only
        have hrun := hrw.then_recv hfr size
        cases ra with
        | got x =>
          simp only
          by_cases hemp : (x.take size).isEmpty = true
          · rw [if_pos hemp]
            refine ⟨_, hrun, ?_, (fun h => by cases h), (fun bs h => by cases h)⟩
            intro e he
            cases he
            refine ⟨Or.inr (Or.inr (Or.inr ⟨rfl, rfl⟩)), ?_, fun _ => Or.inr ⟨x, rfl, by simpa using hemp⟩⟩
            rw [recvGot_snoc hpw]
            simp [tcpRecvObs, hemp, gotOf]
          · rw [if_neg hemp]
            refine ⟨_, hrun, (fun e h => by cases h), (fun h => by cases h), ?_⟩
            intro bs hb
            cases hb
            refine ⟨x, rfl, rfl, by simpa using hemp, ?_⟩
            rw [recvGot_snoc hpw]
            simp [tcpRecvObs, hemp, gotOf]
        | eof =>
          refine ⟨_, hrun, ?_, (fun h => by cases h), (fun bs h => by cases h)⟩
          intro e he
          cases he
          refine ⟨Or.inr (Or.inr (Or.inr ⟨rfl, rfl⟩)), ?_, fun _ => Or.inl rfl⟩
          exact recvGot_snoc hpw _
        | fail c =>
          refine ⟨_, hrun, ?_, (fun h => by cases h), (fun bs h => by cases h)⟩
          intro e he
          cases he
          refine ⟨.io_fail lw rfl c, ?_, by intro h; cases h⟩
          exact recvGot_snoc hpw _

/-- `SendTo`: one wait, at most one `sendto`; all or nothing -/
theorem sendTo_trace (data : Bytes) (T : Int) (os : Os) (h0 : os.calls = []) :
    ∃ l, Run udpRecvObs os l (sendTo data T os).2 ∧
      (∀ e, (sendTo data T os).1 = .exn e → ExnC true false l e) ∧
      (∀ n, (sendTo data T os).1 = .ok n →
        (n = 0 ∧ anySend l = false ∧ sentOk l = false ∧ (wait T os).1 = .ok false) ∨
        (n = data.length ∧ anySend l = true ∧ sentOk l = true ∧ wire (sendTo data T os).2 = data)) := by
  unfold sendTo
  obtain ⟨lw, hrw, hpw, hexw⟩ := wait_run udpRecvObs T os
  cases hw : wait T os with
  | mk rw osw =>
    rw [hw] at hrw hexw
    simp only at hrw
    have hwire : wire osw = [] := (wait_polled hw).wire.trans (wire_nil_of_calls h0)
    cases rw with
    | exn e => exact ⟨lw, hrw, (fun e he => by cases he; exact (hexw _ rfl).weaken _ _), (fun n h => by cases h)⟩
    | ok b =>
      cases b with
      | false =>
        refine ⟨lw, hrw, (fun e h => by cases h), ?_⟩
        intro n hn
        cases hn
        exact Or.inl ⟨rfl, hpw.quiet.send, hpw.quiet.sent, rfl⟩
      | true =>
        simp only
        cases hs : osw.sends with
        | nil => exact ⟨lw, hrw, (fun e he => by cases he; exact .exhausted _ _ _), (fun n h => by cases h)⟩
        | cons a rest =>
          cases a with
          | accept k =>
            simp only
            have hrun := hrw.then_send hs data.length (data.take (min k data.length)) (by intro e he; cases he)
            by_cases hk : k ≠ data.length
            · rw [if_pos hk]
              exact ⟨_, hrun, (fun e he => by cases he; exact Or.inr (Or.inr (Or.inl ⟨rfl, rfl⟩))), (fun n h => by cases h)⟩
            · rw [if_neg hk]
              have hk' : k = data.length := by omega
              refine ⟨_, hrun, (fun e h => by cases h), ?_⟩
              intro n hn
              cases hn
              refine Or.inr ⟨hk', ?_, ?_, ?_⟩
              · simp [anySend, List.any_append, isSend]
              · simp [sentOk, List.any_append, isSentOk, sendObs]
              · rw [wire_cons osw (.send data.length (data.take (min k data.length))) _ rfl, hwire, hk']
                simp [callBytes]
          | fail c =>
            exact ⟨_, hrw.then_send hs data.length [] (fun _ _ => rfl),
              (fun e he => by cases he; exact .io_fail lw rfl c), (fun n h => by cases h)⟩

/-- `ReceiveFrom`: one wait, at most one `recvfrom` -/
theorem receiveFrom_trace (size : Nat) (T : Int) (os : Os) (ra : RecvAns) (hrec : os.recvs = [ra]) :
    ∃ l, Run udpRecvObs os l (receiveFrom size T os).2 ∧
      (∀ e, (receiveFrom size T os).1 = .exn e → ExnC false false l e ∧ anyRecvGot l = false) ∧
      ((receiveFrom size T os).1 = .ok none → anyRecvGot l = false) ∧
      (∀ bs, (receiveFrom size T os).1 = .ok (some bs) → anyRecvGot l = true ∧
        ((∃ x, ra = .got x ∧ bs = x.take size) ∨ (ra = .eof ∧ bs = []))) := by
  unfold receiveFrom
  obtain ⟨lw, hrw, hpw, hexw⟩ := wait_run udpRecvObs T os
  cases hw : wait T os with
  | mk rw osw =>
    rw [hw] at hrw hexw
    simp only at hrw
    have hfr : osw.recvs = [ra] := (wait_polled hw).recvs.trans hrec
    have hg0 := hpw.quiet.recv
    cases rw with
    | exn e => exact ⟨lw, hrw, (fun e he => by cases he; exact ⟨hexw _ rfl, hg0⟩), (fun h => by cases h), (fun bs h => by cases h)⟩
    | ok b =>
      cases b with
      | false => exact ⟨lw, hrw, (fun e h => by cases h), (fun _ => hg0), (fun bs h => by cases h)⟩
      | true =>
        simp only
        rw [hfr]
        simp only
        have hrun := hrw.then_recv hfr size
        cases ra with
        | got x =>
          refine ⟨_, hrun, (fun e h => by cases h), (fun h => by cases h), ?_⟩
          intro bs hb
          cases hb
          exact ⟨by simp [anyRecvGot, List.any_append, isRecvGot, udpRecvObs], Or.inl ⟨x, rfl, rfl⟩⟩
        | eof =>
          refine ⟨_, hrun, (fun e h => by cases h), (fun h => by cases h), ?_⟩
          intro bs hb
          cases hb
          exact ⟨by simp [anyRecvGot, List.any_append, isRecvGot, udpRecvObs], Or.inr ⟨rfl, rfl⟩⟩
        | fail c =>
          refine ⟨_, hrun, ?_, (fun h => by cases h), (fun bs h => by cases h)⟩
          intro e he
          cases he
          refine ⟨.io_fail lw rfl c, ?_⟩
          unfold anyRecvGot at hg0 ⊢
          simp [List.any_append, hg0, isRecvGot, udpRecvObs]

/-- `Accept(timeout)`: one wait, at most one `accept` -/
theorem acceptT_trace (T : Int) (os : Os) :
    ∃ l, Run accRecvObs os l (acceptT T os).2 ∧ ∀ e, (acceptT T os).1 = .exn e → ExnC false false l e := by
  unfold acceptT
  obtain ⟨lw, hrw, hpw, hexw⟩ := wait_run accRecvObs T os
  cases hw : wait T os with
  | mk rw osw =>
    rw [hw] at hrw hexw
    simp only at hrw
    cases rw with
    | exn e => exact ⟨lw, hrw, (fun e he => by cases he; exact hexw _ rfl)⟩
    | ok b =>
      cases b with
      | false => exact ⟨lw, hrw, (fun e h => by cases h)⟩
      | true =>
        simp only
        cases hr : osw.recvs with
        | nil => exact ⟨lw, hrw, (fun e he => by cases he; exact .exhausted _ _ _)⟩
        | cons a rest =>
          simp only
          have hrun := hrw.then_recv hr 0
          cases a with
          | got x | eof => exact ⟨_, hrun, (fun e h => by cases h)⟩
          | fail c =>
            exact ⟨_, hrun, (fun e he => by cases he; exact .io_fail lw rfl c)⟩

/-! ## the simulation -/

/-- the observer's book-keeping that corresponds to a state of the environment -/
def absSt (m : Sys) (last : Option Bytes) : SpecSt :=
  { wireLen := m.wire.length, wireHash := m.wire.foldl fnvStep fnvInit, peerPending := m.inbox,
    peerClosed := m.peerClosed, sawPclose := m.byClose, sawPrst := m.byRst, dgrams := m.dgrams, lastSent := last }

/-- observer and environment agree; a datagram the observer still expects at the peer is the next one
the peer will read -/
def Rel (m : Sys) (sp : SpecSt) : Prop :=
  ∃ last, sp = absSt m last ∧ ∀ d, last = some d → m.flight.head? = some d

theorem rel_init : Rel {} {} := ⟨none, rfl, by intro d h; cases h⟩

theorem tcpAns_got {inbox : Bytes} {closed : Bool} {ans : RecvChoice} {x : Bytes}
    (h : tcpAns inbox closed ans = .got x) : inbox ≠ [] ∧ ∃ j, 1 ≤ j ∧ x = inbox.take j := by
  cases ans with
  | fail e => cases h
  | take n =>
    simp only [tcpAns] at h
    split at h
    · split at h <;> cases h
    · rename_i hemp
      cases h
      exact ⟨by simpa using hemp, max n 1, by omega, rfl⟩

theorem tcpAns_eof {inbox : Bytes} {closed : Bool} {ans : RecvChoice} (h : tcpAns inbox closed ans = .eof) :
    inbox = [] ∧ closed = true := by
  cases ans with
  | fail e => cases h
  | take n =>
    simp only [tcpAns] at h
    split at h
    · rename_i hemp
      split at h
      · rename_i hc; exact ⟨by simpa using hemp, hc⟩
      · cases h
    · cases h

theorem udpAns_got {dgrams : List Bytes} {ans : RecvChoice} {x : Bytes} (h : udpAns dgrams ans = .got x) :
    dgrams.headD [] = x := by
  cases ans with
  | fail e => cases h
  | take n => cases dgrams <;> cases h; rfl

theorem udpAns_ne_eof (dgrams : List Bytes) (ans : RecvChoice) : udpAns dgrams ans ≠ .eof := by
  cases ans with
  | fail e => intro h; cases h
  | take n => cases dgrams <;> (intro h; cases h)

theorem specSend_count_ok {data : Bytes} {T : Int} {sys : List SysObs} {n : Nat} (h1 : n ≤ data.length)
    (h2 : T < 0 → n = data.length) (h3 : n = obsAcc sys) : specSend data T sys (.count n) = none := by
  simp only [specSend]
  rw [if_neg (by omega), if_neg (by intro h; exact h.2 (h2 h.1)), if_neg (by omega)]

theorem specSend_threw_ok {data : Bytes} {T : Int} {sys : List SysObs} {x : Thrown}
    (h : hasPollFail sys = true ∨ hasIoFail sys = true ∨ x = .logic) : specSend data T sys (.threw x) = none := by
  simp only [specSend]
  rcases h with h | h | h <;> simp [h]

theorem specRecv_threw_ok {s : SpecSt} {size : Nat} {sys : List SysObs} {c : Nat}
    (h : hasPollFail sys = true ∨ hasIoFail sys = true) : specRecv s size sys (.threw (.system c)) = none := by
  simp only [specRecv]
  rcases h with h | h <;> simp [h]

theorem specRecv_closed_ok {s : SpecSt} {size : Nat} {sys : List SysObs} (h1 : s.peerPending = [])
    (h2 : s.peerClosed = true) : specRecv s size sys (.threw .closed) = none := by
  simp [specRecv, h1, h2]

theorem specRecv_data_ok {s : SpecSt} {size : Nat} {sys : List SysObs} {n : Nat} {h : String} (h1 : 0 < n)
    (h2 : n ≤ size) (h3 : n ≤ s.peerPending.length) (h4 : fnv (s.peerPending.take n) = h) :
    specRecv s size sys (.data (some n) h) = none := by
  simp only [specRecv]
  rw [if_neg (by omega), if_neg (by intro hh; rcases hh with hh | hh; omega; exact hh h4)]

theorem specSendTo_count_ok {data : Bytes} {T : Int} {sys : List SysObs} {n : Nat}
    (h1 : n = data.length ∨ n = 0) (h2 : n = 0 → 0 < data.length → ¬ T < 0) :
    specSendTo data T sys (.count n) = none := by
  simp only [specSendTo]
  rw [if_neg (by omega), if_neg (by intro h; exact h2 h.1 h.2.1 h.2.2)]

theorem specSendTo_threw_ok {data : Bytes} {T : Int} {sys : List SysObs} {x : Thrown}
    (h : hasPollFail sys = true ∨ hasIoFail sys = true ∨ x = .logic) : specSendTo data T sys (.threw x) = none := by
  simp only [specSendTo]
  rcases h with h | h | h <;> simp [h]

theorem specRecvFrom_threw_ok {s : SpecSt} {size : Nat} {sys : List SysObs} {x : Thrown}
    (h : hasPollFail sys = true ∨ hasIoFail sys = true) : specRecvFrom s size sys (.threw x) = none := by
  simp only [specRecvFrom]
  rcases h with h | h <;> simp [h]

theorem specRecvFrom_data_ok {s : SpecSt} {size : Nat} {sys : List SysObs} {n : Option Nat} {h : String}
    (h1 : n = some (min size (s.dgrams.headD []).length)) (h2 : h = fnv ((s.dgrams.headD []).take size)) :
    specRecvFrom s size sys (.data n h) = none := by
  simp [specRecvFrom, h1, h2]

theorem specListen_threw_ok {sys : List SysObs} {x : Thrown}
    (h : hasPollFail sys = true ∨ hasIoFail sys = true) : specListen sys (.threw x) = none := by
  simp only [specListen]
  rcases h with h | h <;> simp [h]

/-- without an aborted run and with `MSG_NOSIGNAL` on every `send`, `specStep` is the clauses of the operation -/
theorem specStep_eq (s : SpecSt) (op : OpObs) (sys : List SysObs) (h : nosigBad sys = false) :
    specStep s { op := op, sys := sys } = specOp s sys op := by
  cases op <;> simp [specStep, h, specOp]

/-- the shape every accepted step has: the operation's clause finds nothing, the updated book-keeping is related -/
theorem step_accept {sp s1 : SpecSt} {m' : Sys} {op : OpObs} {l : List SysObs} {chk : Option String}
    (hns : nosigBad l = false) (hop : specOp sp l op = orOk chk s1) (hchk : chk = none) (hrel : Rel m' s1) :
    ∃ sp', specStep sp { op := op, sys := l } = .ok sp' ∧ Rel m' sp' :=
  ⟨s1, by rw [specStep_eq _ _ _ hns, hop, hchk]; rfl, hrel⟩

theorem step_send {m : Sys} {sp : SpecSt} (hrel : Rel m sp) (data : Bytes) (T : Int) (polls : List PollAns)
    (sends : List SendAns) {m' : Sys} {o : Obs} (hstep : sysStep m (.send data T polls sends) = some (m', o)) :
    ∃ sp', specStep sp o = .ok sp' ∧ Rel m' sp' := by
  obtain ⟨last, rfl, hlast⟩ := hrel
  simp only [sysStep] at hstep
  obtain ⟨l, hrun, hex⟩ := send_run tcpRecvObs data T { polls := polls, sends := sends }
  have hsys := hrun.sysOf rfl
  have hnosig := hrun.nosig
  have hwl := hrun.wireLen
  obtain ⟨n', hn', hwire, hacc⟩ := send_prefix data T { polls := polls, sends := sends }
    (send data T { polls := polls, sends := sends }).2 (send data T { polls := polls, sends := sends }).1 rfl
  have hw0 : wire ({ polls := polls, sends := sends } : Os) = [] := wire_nil_of_calls rfl
  rw [hw0] at hwire hwl
  simp only [List.nil_append, List.length_nil, Nat.zero_add] at hwire hwl
  rw [hwire, List.length_take, Nat.min_eq_left hn'] at hwl
  rw [hsys, hwire] at hstep
  have hrel' : Rel { m with wire := m.wire ++ data.take n' }
      { absSt m last with wireLen := (absSt m last).wireLen + obsAcc l,
                          wireHash := (data.take (obsAcc l)).foldl fnvStep (absSt m last).wireHash } := by
    refine ⟨last, ?_, hlast⟩
    simp [absSt, ← hwl, List.length_take, Nat.min_eq_left hn', List.foldl_append]
  cases hp : (send data T { polls := polls, sends := sends }).1 with
  | ok n =>
    rw [hp] at hstep
    cases hstep
    obtain ⟨h1, h2⟩ := hacc n hp
    exact step_accept hnosig rfl (specSend_count_ok (by omega) h2 (by omega)) hrel'
  | exn e =>
    rw [hp] at hstep
    have hc := hex e hp
    cases e with
    | exhausted => cases hstep
    | _ =>
      cases hstep
      exact step_accept hnosig rfl (specSend_threw_ok (hc.send_thrown (by intro h; cases h))) hrel'

theorem step_recv {m : Sys} {sp : SpecSt} (hrel : Rel m sp) (size : Nat) (T : Int) (polls : List PollAns)
    (ans : RecvChoice) (hsize : 1 ≤ size) {m' : Sys} {o : Obs}
    (hstep : sysStep m (.recv size T polls ans) = some (m', o)) :
    ∃ sp', specStep sp o = .ok sp' ∧ Rel m' sp' := by
  obtain ⟨last, rfl, hlast⟩ := hrel
  simp only [sysStep] at hstep
  obtain ⟨l, hrun, hexn, hnone, hsome⟩ :=
    receive_trace size T { polls := polls, recvs := [tcpAns m.inbox m.peerClosed ans] } _ rfl
  have hsys := hrun.sysOf rfl
  have hnosig := hrun.nosig
  rw [hsys] at hstep
  have hrel' : ∀ k, recvGot l = k → Rel { m with inbox := m.inbox.drop (recvGot l) }
      { absSt m last with peerPending := (absSt m last).peerPending.drop k } := by
    intro k hk
    refine ⟨last, ?_, hlast⟩
    simp [absSt, hk]
  cases hp : (receive size T { polls := polls, recvs := [tcpAns m.inbox m.peerClosed ans] }).1 with
  | ok v =>
    rw [hp] at hstep
    cases v with
    | none =>
      cases hstep
      exact step_accept hnosig rfl rfl (hrel' 0 (hnone hp))
    | some bs =>
      cases hstep
      obtain ⟨x, hx, hbs, hne, hgot⟩ := hsome bs hp
      -- the kernel's answer is a prefix of what is queued
      obtain ⟨_, j, _, rfl⟩ := tcpAns_got hx
      have hpre : m.inbox.take bs.length = bs := by
        rw [hbs, List.take_take, take_length_take]
      have hlen : bs.length ≤ m.inbox.length := by
        rw [hbs, List.take_take, List.length_take]; omega
      exact step_accept hnosig rfl (specRecv_data_ok (by cases bs with | nil => exact absurd rfl hne | cons _ _ => simp)
        (by rw [hbs, List.length_take]; omega) hlen (by show fnv ((absSt m last).peerPending.take bs.length) = fnv bs; simp only [absSt]; rw [hpre]))
        (hrel' bs.length hgot)
  | exn e =>
    rw [hp] at hstep
    obtain ⟨hc, hg0, hcl⟩ := hexn e hp
    cases e with
    | exhausted => cases hstep
    | system c =>
      cases hstep
      exact step_accept hnosig rfl (specRecv_threw_ok hc.system_fail) (hrel' 0 hg0)
    | logic => exact hc.not_logic.elim
    | closed =>
      cases hstep
      -- end-of-stream is reported only when nothing is queued and the peer closed
      have henv : m.inbox = [] ∧ m.peerClosed = true := by
        rcases hcl rfl with h | ⟨x, h, hx0⟩
        · exact tcpAns_eof h
        · obtain ⟨hne, j, hj, rfl⟩ := tcpAns_got h
          rw [List.take_take, List.take_eq_nil_iff] at hx0
          rcases hx0 with h0 | h0
          · omega
          · exact absurd h0 hne
      exact step_accept hnosig rfl (specRecv_closed_ok (by simp [absSt, henv.1]) (by simp [absSt, henv.2])) (hrel' 0 hg0)

theorem step_sendto {m : Sys} {sp : SpecSt} (hrel : Rel m sp) (data : Bytes) (T : Int) (polls : List PollAns)
    (sends : List SendAns) (hfl : m.flight = []) (hpoll : T < 0 → ∀ a ∈ polls, a ≠ .timedOut) {m' : Sys} {o : Obs}
    (hstep : sysStep m (.sendto data T polls sends) = some (m', o)) :
    ∃ sp', specStep sp o = .ok sp' ∧ Rel m' sp' := by
  obtain ⟨last, rfl, _⟩ := hrel
  simp only [sysStep] at hstep
  obtain ⟨l, hrun, hexn, hok⟩ := sendTo_trace data T { polls := polls, sends := sends } rfl
  have hsys := hrun.sysOf rfl
  have hnosig := hrun.nosig
  rw [hsys] at hstep
  -- whatever the environment keeps in flight, the observer expecting nothing is consistent with it
  have hrelN : ∀ fl, Rel { m with flight := fl } { absSt m last with lastSent := none } :=
    fun fl => ⟨none, by simp [absSt], by intro d h; cases h⟩
  cases hp : (sendTo data T { polls := polls, sends := sends }).1 with
  | ok n =>
    rw [hp] at hstep
    cases hstep
    rcases hok n hp with ⟨hn, hany, hsent, hwait⟩ | ⟨hn, hany, hsent, hwire⟩
    · subst hn
      refine ⟨{ absSt m last with lastSent := none }, ?_, by rw [hsent]; exact hrelN _⟩
      simp only [specStep, hnosig, specOp]
      rw [specSendTo_count_ok (Or.inr rfl) (fun _ _ hT => wait_neg_not_false hT _ (hpoll hT) hwait)]
      have hno : ¬ (0 = data.length ∧ (data.length > 0 ∨ anySend l = true)) := by
        rw [hany]
        intro ⟨h0, h1⟩
        rcases h1 with h1 | h1
        · omega
        · cases h1
      simp only [orOk, if_neg hno]
      rfl
    · subst hn
      refine ⟨{ absSt m last with lastSent := some data }, ?_, ?_⟩
      · simp only [specStep, hnosig, specOp]
        rw [specSendTo_count_ok (Or.inl rfl) (fun h0 hpos _ => by omega)]
        simp [orOk, hany]
      · rw [hsent, hwire, hfl]
        exact ⟨some data, by simp [absSt], by intro d h; cases h; rfl⟩
  | exn e =>
    rw [hp] at hstep
    have hc := hexn e hp
    cases e with
    | exhausted => cases hstep
    | _ =>
      cases hstep
      exact step_accept hnosig rfl (specSendTo_threw_ok (hc.send_thrown (by intro h; cases h))) (hrelN _)

theorem step_recvfrom {m : Sys} {sp : SpecSt} (hrel : Rel m sp) (size : Nat) (T : Int) (polls : List PollAns)
    (ans : RecvChoice) {m' : Sys} {o : Obs} (hstep : sysStep m (.recvfrom size T polls ans) = some (m', o)) :
    ∃ sp', specStep sp o = .ok sp' ∧ Rel m' sp' := by
  obtain ⟨last, rfl, hlast⟩ := hrel
  simp only [sysStep] at hstep
  obtain ⟨l, hrun, hexn, _, hsome⟩ :=
    receiveFrom_trace size T { polls := polls, recvs := [udpAns m.dgrams ans] } _ rfl
  have hsys := hrun.sysOf rfl
  have hnosig := hrun.nosig
  rw [hsys] at hstep
  have hrel' : Rel { m with dgrams := if anyRecvGot l then m.dgrams.drop 1 else m.dgrams }
      { absSt m last with dgrams := if anyRecvGot l then (absSt m last).dgrams.drop 1 else (absSt m last).dgrams } :=
    ⟨last, by simp [absSt], hlast⟩
  cases hp : (receiveFrom size T { polls := polls, recvs := [udpAns m.dgrams ans] }).1 with
  | ok v =>
    rw [hp] at hstep
    cases v with
    | none =>
      cases hstep
      exact step_accept hnosig rfl rfl hrel'
    | some bs =>
      cases hstep
      obtain ⟨_, hx⟩ := hsome bs hp
      -- the datagram handed over is the oldest one queued
      have hdg : bs = (m.dgrams.headD []).take size := by
        rcases hx with ⟨x, hx, hbs⟩ | ⟨hx, _⟩
        · rw [udpAns_got hx, hbs]
        · exact absurd hx (udpAns_ne_eof _ _)
      exact step_accept hnosig rfl
        (specRecvFrom_data_ok (by simp only [absSt]; rw [hdg, List.length_take]) (by simp only [absSt]; rw [← hdg])) hrel'
  | exn e =>
    rw [hp] at hstep
    obtain ⟨hc, _⟩ := hexn e hp
    cases e with
    | exhausted => cases hstep
    | _ =>
      cases hstep
      exact step_accept hnosig rfl (specRecvFrom_threw_ok (hc.io_thrown (by intro h; cases h))) hrel'

theorem step_listen {m : Sys} {sp : SpecSt} (hrel : Rel m sp) (T : Int) (polls : List PollAns) (err : Option Nat)
    {m' : Sys} {o : Obs} (hstep : sysStep m (.listen T polls err) = some (m', o)) :
    ∃ sp', specStep sp o = .ok sp' ∧ Rel m' sp' := by
  simp only [sysStep] at hstep
  obtain ⟨l, hrun, hexn⟩ :=
    acceptT_trace T { polls := polls, recvs := [accAns err] }
  have hsys := hrun.sysOf rfl
  have hnosig := hrun.nosig
  rw [hsys] at hstep
  cases hp : (acceptT T { polls := polls, recvs := [accAns err] }).1 with
  | ok v =>
    rw [hp] at hstep
    cases v with
    | none | some u =>
      cases hstep
      exact step_accept hnosig rfl rfl hrel
  | exn e =>
    rw [hp] at hstep
    have hc := hexn e hp
    cases e with
    | exhausted => cases hstep
    | _ =>
      cases hstep
      exact step_accept hnosig rfl (specListen_threw_ok (hc.io_thrown (by intro h; cases h))) hrel

/-- one operation of a history: the predicate accepts what the model does and observer and environment
stay related -/
theorem step_ok {m : Sys} {sp : SpecSt} (hrel : Rel m sp) (op : Op) (hop : op.ok m = true) {m' : Sys} {o : Obs}
    (hstep : sysStep m op = some (m', o)) : ∃ sp', specStep sp o = .ok sp' ∧ Rel m' sp' := by
  cases op with
  | send data T polls sends => exact step_send hrel data T polls sends hstep
  | recv size T polls ans => exact step_recv hrel size T polls ans (by simpa [Op.ok] using hop) hstep
  | sendto data T polls sends =>
    simp only [Op.ok, Bool.and_eq_true, List.isEmpty_iff] at hop
    refine step_sendto hrel data T polls sends hop.1 ?_ hstep
    intro hT a ha
    have h2 := hop.2
    simp [hT] at h2
    exact h2 a ha
  | recvfrom size T polls ans => exact step_recvfrom hrel size T polls ans hstep
  | listen T polls err => exact step_listen hrel T polls err hstep
  | sync =>
    obtain ⟨last, rfl, hlast⟩ := hrel
    cases hstep
    refine ⟨absSt m last, ?_, last, rfl, hlast⟩
    simp [specStep, nosigBad, specOp, absSt]
  | precv delivered =>
    obtain ⟨last, rfl, hlast⟩ := hrel
    simp only [sysStep] at hstep
    cases delivered with
    | false =>
      cases hstep
      exact ⟨absSt m last, rfl, last, rfl, hlast⟩
    | true =>
      cases hf : m.flight with
      | nil =>
        rw [hf] at hstep
        cases hstep
        exact ⟨absSt m last, rfl, last, rfl, hlast⟩
      | cons d rest =>
        rw [hf] at hstep
        cases hstep
        cases last with
        | none =>
          exact ⟨absSt m none, rfl, none, by simp [absSt], by intro d h; cases h⟩
        | some d' =>
          have hd : d' = d := by
            have := hlast d' rfl
            rw [hf] at this
            simpa using this.symm
          subst hd
          refine ⟨{ absSt m (some d') with lastSent := none }, ?_, none, by simp [absSt], by intro d h; cases h⟩
          simp [specStep, nosigBad, specOp, absSt]
  | setup =>
    cases hstep
    exact ⟨sp, rfl, hrel⟩
  | _ =>
    -- the peer's actions: environment and observer change the same field in the same way
    obtain ⟨last, rfl, hlast⟩ := hrel
    cases hstep
    exact ⟨_, rfl, last, by simp [absSt], hlast⟩

theorem specRun_cons (s : SpecSt) (o : Obs) (os : List Obs) {s' : SpecSt} (h : specStep s o = .ok s') :
    specRun s (o :: os) = specRun s' os := by
  simp only [specRun, h]

/-- **The property predicate that `./check C01` evaluates on the implementation is a theorem of the
model.**  For every history - any number of `Send` / `Receive` / `SendTo` / `ReceiveFrom` / `Listen` calls
with any payloads, buffer sizes and timeouts, every scripted answer of the operating system to every
`poll` and `send` (short writes of any pattern, zero-byte answers, failures at any position, signals,
time-outs), any interleaving with the peer's sends, close, half-close, reset and datagrams - the
observations of the model (`Model/SendLoop.lean` composed with the environment `Sys`) are accepted by
every clause of `specStep`: send accounting (count = bytes the OS accepted, `size` for an unlimited
`Send`, never more than `size`), no exception without a failed system call, signals invisible, the peer
obtains exactly the bytes the `Send` calls account for, `Receive` reports 1..size bytes which are the next
bytes of the peer's stream, closure only after everything was delivered and only if the peer closed,
`SendTo` all-or-nothing and never 0 when unlimited, datagrams intact in both directions, `MSG_NOSIGNAL`
on every `send`.  `histOk` restricts the domain, not the clauses (`Op.ok`). -/
theorem model_satisfies_spec (history : List Op) (h : histOk {} history = true) :
    ∃ s, specRun {} (modelTrace {} history) = .ok s := by
  suffices H : ∀ (ops : List Op) (m : Sys) (sp : SpecSt), Rel m sp → histOk m ops = true →
      ∃ s, specRun sp (modelTrace m ops) = .ok s from H history {} {} rel_init h
  intro ops
  induction ops with
  | nil => intro m sp _ _; exact ⟨sp, rfl⟩
  | cons op ops ih =>
    intro m sp hrel hok
    simp only [histOk, Bool.and_eq_true] at hok
    simp only [modelTrace]
    cases hs : sysStep m op with
    | none => exact ⟨sp, rfl⟩
    | some r =>
      obtain ⟨m', o⟩ := r
      obtain ⟨sp', h1, hrel'⟩ := step_ok hrel op hok.1 hs
      have h2 := hok.2
      rw [hs] at h2
      obtain ⟨s, hs'⟩ := ih m' sp' hrel' h2
      exact ⟨s, by simp only []; rw [specRun_cons sp o _ h1]; exact hs'⟩

/-! ### non-vacuity: a history the hypothesis admits, and traces the predicate rejects -/

def exampleHistory : List Op := [
  .setup,
  .send [1, 2, 3, 4, 5] (-1) [.ready 0, .eintr 3, .ready 1] [.accept 2, .accept 3],   -- short write, signal
  .send [6, 7, 8] 5 [.ready 1, .ready 9] [.accept 1],                                 -- limited: partial count
  .send [9] 0 [.timedOut] [],                                                         -- zero timeout: 0
  .send [9, 9] 7 [.eintr 1, .ready 0] [.fail 32],                                     -- EPIPE after a signal
  .send [9, 9] 7 [.eintr 1, .ready 3] [.accept 0],                                    -- "unexpected send result"
  .sync,
  .psend [1, 2, 3], .recv 2 (-1) [.ready 0] (.take 5), .recv 2 3 [.timedOut] (.take 5),
  .recv 10 0 [.ready 0] (.take 0), .recv 10 0 [.ready 0] (.take 0),
  .pclose, .recv 10 0 [.ready 0] (.take 0),
  .sendto [1, 2] (-1) [.eintr 0, .ready 0] [.accept 2], .precv true,
  .sendto [1, 2] 3 [.timedOut] [.accept 2], .precv true,
  .sendto [] 3 [.ready 1] [.accept 0], .precv true,
  .pdgram [1, 2, 3], .pdgram [], .recvfrom 2 0 [.ready 0] (.take 0), .recvfrom 2 0 [.ready 0] (.take 0),
  .recvfrom 2 0 [.ready 0] (.take 0),
  .listen 5 [.eintr 2, .ready 1] none, .listen 5 [.eintr 2, .ready 1] (some 24), .listen 5 [.eintr 2, .timedOut] none]

example : histOk {} exampleHistory = true := by decide
example : (modelTrace {} exampleHistory).length = 28 := by decide
example : (specRun {} (modelTrace {} exampleHistory)).toBool = true := by decide +kernel

/-- a Send that returns 0 although the OS accepted 3 bytes (the seeded change C01_agentA) is rejected -/
example : (specRun {} [{ op := .send [1, 2, 3, 4] 5 (.count 0),
                         sys := [.poll 5 (.ready 0), .send 4 (.accept 3) true, .poll 5 .timedOut] }]).toBool = false := by
  decide
/-- a Receive that reports more bytes than the buffer offered (C01_2_agentD) is rejected -/
example : (specRun {} [{ op := .psend [1, 2, 3] },
    { op := .recv 1 0 (.data (some 3) (fnv [1, 2, 3])), sys := [.poll 0 (.ready 0), .recv 1 (.got 3)] }]).toBool = false := by
  decide
/-- a signal that makes a call fail is rejected -/
example : (specRun {} [{ op := .recv 1 5 (.threw (.system 4)), sys := [.poll 5 (.eintr 1)] }]).toBool = false := by decide
/-- the hypothesis is needed: a second datagram handed to `sendto` before the peer read the first one
is outside what `precv` can judge (it compares with the LAST datagram sent) -/
example : histOk {} [.sendto [1] 0 [.ready 0] [.accept 1], .sendto [2] 0 [.ready 0] [.accept 1], .precv true] = false := by
  decide
example : (specRun {} (modelTrace {} [.sendto [1] 0 [.ready 0] [.accept 1], .sendto [2] 0 [.ready 0] [.accept 1],
    .precv true])).toBool = false := by decide

end SockModel.Spec.C01
