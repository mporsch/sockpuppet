import SockModel.Model.FdLogLemmas
/-!
# Spec.C14 - the property as an executable predicate over typed observations, and the proof that
the model satisfies it for every history

`specStep` / `specRun` are what `./check C14` evaluates on the IMPLEMENTATION's transcript
(`Drive/C14.lean` only parses lines into `Obs` and calls these very functions).  They mention no model
state: only what was observed at the system-call boundary and at the API (calls with their answers,
closes, handler / future events, the outcome of every API call, the shim's ledger line) and the
observer's own book-keeping (`SpecSt.opened`: descriptors seen opened and not yet closed).

`model_satisfies_spec` shows that the model (`Model/Fd.lean`) can never be flagged by the predicate, for
every history of any length and every fault oracle - so a `spec` verdict on the implementation is a
genuine difference between implementation and model, the oracle is never stricter than the model, and
the clauses it checks are consequences of the model's definitions for all histories.
-/
namespace SockModel.Fd.Spec
open SockModel.Fd

/-! ## typed observations -/

def sysName : Sys → String
  | .socket => "socket" | .bind => "bind" | .listen => "listen" | .connect => "connect" | .accept => "accept"
  | .fcntl => "fcntl" | .setsockopt => "setsockopt" | .getsockopt => "getsockopt" | .getsockname => "getsockname"
  | .getpeername => "getpeername" | .send => "send" | .sendto => "sendto" | .recv => "recv" | .recvfrom => "recvfrom"
  | .poll => "poll" | .getaddrinfo => "getaddrinfo" | .getnameinfo => "getnameinfo"

/-- category of the exception seen at the API (`other`: anything else the harness printed) -/
inductive Cat where
  | system | address | logic | runtime | other (name : String)
  deriving DecidableEq, Repr

def Cat.name : Cat → String
  | .system => "system" | .address => "address" | .logic => "logic" | .runtime => "runtime" | .other n => n

/-- the category a failure of this call must be reported with -/
def catOf : Sys → Cat
  | .getaddrinfo | .getnameinfo => .address
  | _ => .system

/-- how the API call ended (`improper`: no / a malformed `outcome` line, kept for the message) -/
inductive Outcome where
  | ok
  | exn (cat : Cat) (code : Int)
  | improper (raw : List String)
  deriving DecidableEq, Repr

/-- as printed in the messages -/
def Outcome.words : Outcome → List String
  | .ok => ["ok"]
  | .exn c code => ["exn", c.name, toString code]
  | .improper raw => raw

def Outcome.improper? : Outcome → Option (List String)
  | .improper raw => some raw
  | _ => none

def Outcome.isOk : Outcome → Bool
  | .ok => true
  | _ => false

def Outcome.isExn : Outcome → Bool
  | .exn .. => true
  | _ => false

inductive CallRes where
  | ok (newfd : Option Nat)
  | fail (code : Int)
  deriving DecidableEq, Repr

/-- one line of the shim's log: an intercepted call with its answer, a `close`, a ledger complaint -/
inductive Item where
  | call (c : Sys) (res : CallRes)
  | close (fd : Nat)
  | badclose (what : String)
  deriving DecidableEq, Repr

inductive EvKind where
  | receive | receiveFrom | connect | disconnect | futureValue | futureExn | futureBroken | other
  deriving DecidableEq, Repr

/-- a handler / future event; `text` is only quoted in messages -/
structure Ev where
  kind : EvKind
  text : String
  deriving DecidableEq, Repr

def Ev.isFailure (e : Ev) : Bool :=
  match e.kind with
  | .disconnect | .futureExn | .futureBroken => true
  | _ => false

def Ev.isReceive (e : Ev) : Bool :=
  match e.kind with
  | .receive | .receiveFrom => true
  | _ => false

def Ev.isDisconnect (e : Ev) : Bool := match e.kind with | .disconnect => true | _ => false
def Ev.isFutureExn (e : Ev) : Bool := match e.kind with | .futureExn => true | _ => false
def Ev.isDelivery (e : Ev) : Bool := match e.kind with | .receiveFrom | .connect => true | _ => false

inductive StepKind where
  | ctor | op | accept | consume | drive | other (name : String)
  deriving DecidableEq, Repr

def StepKind.name : StepKind → String
  | .ctor => "ctor" | .op => "op" | .accept => "accept" | .consume => "consume" | .drive => "drive" | .other n => n

def StepKind.isDrive : StepKind → Bool | .drive => true | _ => false
def StepKind.isConsume : StepKind → Bool | .consume => true | _ => false

/-- one faultable API call: what the shim logged while it ran, the events, how it ended -/
structure StepObs where
  kind : StepKind
  items : List Item := []
  evs : List Ev := []
  outcome : Outcome := .improper []
  deriving Repr, DecidableEq

/-- the case: `scen` / `plan` are quoted in messages only; `discards` = the scenario's asynchronous socket is
a UDP socket or an acceptor, whose receive / accept failures inside `Step` the library drops on purpose -/
structure Ctx where
  scen : String := ""
  plan : List String := []
  discards : Bool := false

inductive Obs where
  /-- the harness child died (signal, sanitizer report, non-zero exit) -/
  | crash (what : String)
  /-- no `done` line -/
  | incomplete
  /-- start of a round: what the shim logged during the quiet set-up, the descriptors open afterwards -/
  | setup (items : List Item) (have_ : List Nat)
  | step (s : StepObs)
  /-- destruction of every object, then the shim's ledger line `(open, close errors)` -/
  | teardown (items : List Item) (ledger : Option (Nat × Nat))
  deriving Repr, DecidableEq

/-! ## the predicate -/

def lbl (fd : Nat) : String := s!"fd{fd}"

/-- ledger book-keeping over the items of one phase: open set, descriptors opened / closed in this phase -/
structure Acc where
  opened : List Nat
  new : List Nat := []
  closed : List Nat := []

def applyItem (a : Acc) : Item → Except String Acc
  | .call _ (.ok (some nfd)) =>
    if a.opened.contains nfd then .error s!"descriptor {lbl nfd} opened twice"
    else .ok { opened := a.opened ++ [nfd], new := a.new ++ [nfd], closed := a.closed }
  | .call _ _ => .ok a
  | .close fd =>
    if a.opened.contains fd then .ok { opened := a.opened.erase fd, new := a.new, closed := a.closed ++ [fd] }
    else .error s!"close of {lbl fd}, which is not an open descriptor of the library (closed twice or foreign)"
  | .badclose what => .error s!"the shim's ledger reports: {what}"

def applyItems (a : Acc) : List Item → Except String Acc
  | [] => .ok a
  | it :: rest =>
    match applyItem a it with
    | .ok a' => applyItems a' rest
    | .error e => .error e

def Item.fail? : Item → Option (Sys × Int)
  | .call c (.fail code) => some (c, code)
  | _ => none

/-- the failing calls, in order -/
def failsOf (items : List Item) : List (Sys × Int) := items.filterMap Item.fail?

/-- the exception carries the category and code of one of the failed calls -/
def matchesExn (fails : List (Sys × Int)) (out : Outcome) : Bool :=
  fails.any fun f => out == .exn (catOf f.1) f.2

def evTexts (evs : List Ev) : List String := evs.map (·.text)

/-- a call failed inside `Step`: the documented channel for it (result: the channel tag) -/
def driveClause (discards : Bool) (c : Sys) (fails : List (Sys × Int)) (s : StepObs) : Except String String :=
  if c == .poll || (c == .recvfrom && !discards) then
    if !matchesExn fails s.outcome then
      .error s!"{sysName c} failed inside Step but Step ended with {s.outcome.words}"
    else .ok "chan.exn"
  else if c == .recv then
    if !(s.outcome.isOk && s.evs.any Ev.isDisconnect) then
      .error s!"recv failed inside Step: expected the disconnect handler, saw {s.outcome.words} {evTexts s.evs}"
    else if s.evs.any Ev.isReceive then .error "receive handler called although recv failed"
    else .ok "chan.disconnect"
  else if c == .send || c == .sendto then
    if !(s.outcome.isOk && s.evs.any Ev.isFutureExn) then
      .error s!"{sysName c} failed inside Step: expected an exception in the send future, saw {s.outcome.words} {evTexts s.evs}"
    else .ok "chan.future"
  else if discards then
    -- deliberately discarded by the library (onError is a no-op for UDP sockets and acceptors)
    if !s.outcome.isOk then .error s!"{sysName c} failed inside Step (UDP/acceptor): Step ended with {s.outcome.words}"
    else if s.evs.any Ev.isDelivery then .error s!"handler invoked ({evTexts s.evs}) although {sysName c} failed"
    else .ok "chan.discard"
  else .error s!"unexpected failing call {sysName c} inside Step"

/-- a call failed inside a constructor / operation: an exception with the code of a failed call -/
def callClause (c : Sys) (fails : List (Sys × Int)) (s : StepObs) : Except String String :=
  if s.outcome.isOk then .error s!"{sysName c} failed but the call returned normally (bogus success)"
  else if !matchesExn fails s.outcome then
    .error s!"{sysName c} failed but the exception is {s.outcome.words}: not the code of a failed call"
  else .ok "chan.exn"

/-- "reported by an exception ... or, inside the driver, through the disconnect handler, the send future, or
an exception out of Step - never by ... a bogus success"; and no failure out of thin air (result: tags) -/
def reportClause (discards : Bool) (s : StepObs) : Except String (List String) :=
  match failsOf s.items with
  | [] =>
    -- no OS failure: the call must simply work ("the library remains usable", no bogus failure)
    if !s.outcome.isOk then .error s!"call failed ({s.outcome.words}) although no system call failed"
    else if s.evs.any Ev.isFailure then .error s!"failure event {evTexts s.evs} although no system call failed"
    else .ok []
  | (c, _) :: _ =>
    match (if s.kind.isDrive then driveClause discards c (failsOf s.items) s else callClause c (failsOf s.items) s) with
    | .error e => .error e
    | .ok chan => .ok [chan, s!"fault.{sysName c}"]

/-- a descriptor opened by a call that hands nothing to its caller and still open when it returns -/
def leakFd (s : StepObs) (a : Acc) : Option Nat :=
  if s.outcome.isOk && (failsOf s.items).isEmpty then none   -- delivered
  else a.new.find? (fun fd => a.opened.contains fd)

/-- a descriptor closed by the call although the call had not opened it -/
def strayFd (a : Acc) : Option Nat := a.closed.find? (fun fd => !a.new.contains fd)

/-- "every descriptor the library opened has been closed exactly once (none leaked ... none that it does not
own)": `a` = the book-keeping after the items of the step -/
def ownClause (s : StepObs) (a : Acc) : Except String Unit :=
  -- nothing is handed to the caller: everything opened by this call must be closed again by now
  match leakFd s a with
  | some fd => .error s!"descriptor {lbl fd} opened by the failing call is still open when it returns ({s.outcome.words}): leak"
  | none =>
    match strayFd a with
    | some fd =>
      if s.kind.isConsume && s.outcome.isExn then .ok ()
      else .error s!"descriptor {lbl fd}, owned by a live object, was closed by a {s.kind.name} call ending in {s.outcome.words}"
    | none => .ok ()

structure SpecSt where
  /-- descriptors seen opened (or listed by `have`) and not yet closed -/
  opened : List Nat := []
  /-- evidence only: channels / failing calls met, newest first -/
  tags : List String := []

def specStepObs (discards : Bool) (st : SpecSt) (s : StepObs) : Except String SpecSt :=
  match applyItems { opened := st.opened } s.items with
  | .error e => .error e
  | .ok a =>
    match s.outcome.improper? with
    | some raw => .error s!"step without a proper outcome ({raw})"
    | none =>
      match reportClause discards s with
      | .error e => .error e
      | .ok tags =>
        match ownClause s a with
        | .error e => .error e
        | .ok () => .ok { opened := a.opened, tags := tags ++ st.tags }

def specSetup (st : SpecSt) (items : List Item) (have_ : List Nat) : Except String SpecSt :=
  match applyItems { opened := [] } items with
  | .error e => .error e
  | .ok a =>
    -- descriptors opened quietly during setup
    .ok { opened := a.opened ++ have_.filter (fun f => !a.opened.contains f), tags := st.tags }

def specTeardown (st : SpecSt) (items : List Item) (ledger : Option (Nat × Nat)) : Except String SpecSt :=
  match applyItems { opened := st.opened } items with
  | .error e => .error e
  | .ok a =>
    if !a.opened.isEmpty then .error s!"descriptors {a.opened.map lbl} still open after every object was destroyed: leak"
    else match ledger with
      | some (0, 0) => .ok { opened := a.opened, tags := st.tags }
      | some (n, e) => .error s!"shim ledger after teardown: {n} descriptors open, {e} close errors"
      | none => .error "round without ledger line"

def specStep (ctx : Ctx) (st : SpecSt) : Obs → Except String SpecSt
  | .crash w => .error s!"crash while running {ctx.scen} with faults {ctx.plan}: {w}"
  | .incomplete => .error s!"scenario {ctx.scen} did not run to completion (faults {ctx.plan})"
  | .setup items have_ => (specSetup st items have_).mapError fun msg => s!"{ctx.scen} faults {ctx.plan}: {msg}"
  | .step s => (specStepObs ctx.discards st s).mapError fun msg => s!"{ctx.scen} faults {ctx.plan}: {msg}"
  | .teardown items ledger => (specTeardown st items ledger).mapError fun msg => s!"{ctx.scen} faults {ctx.plan}: {msg}"

def specRun (ctx : Ctx) (st : SpecSt) : List Obs → Except String SpecSt
  | [] => .ok st
  | o :: os =>
    match specStep ctx st o with
    | .ok st' => specRun ctx st' os
    | .error e => .error e

/-! ## the observations of the MODEL -/

/-- the segment of the log added between two ledgers, in time order -/
def newLog (L L' : Ledger) : List LogItem := (L'.log.take (L'.log.length - L.log.length)).reverse

/-- a log entry of the model as the shim would have printed it -/
def toItem : LogItem → Item
  | .call c _ _ (some n) => .call c (.ok (some n))
  | .call c _ (some e) none => .call c (.fail e)
  | .call c _ none none => .call c (.ok none)
  | .close fd => .close fd

def exnOutcome : Exn → Outcome
  | .system e => .exn .system e
  | .address e => .exn .address e
  | .logic => .exn .logic 0
  | .runtime => .exn .runtime 0

/-- handler / future events as the harness prints them; a discarded failure is invisible -/
def toEv : Fd.Ev → Option Ev
  | .receive _ => some ⟨.receive, "receive"⟩
  | .receiveFrom _ => some ⟨.receiveFrom, "receivefrom"⟩
  | .connect .. => some ⟨.connect, "connect"⟩
  | .disconnect _ => some ⟨.disconnect, "disconnect"⟩
  | .futureValue _ => some ⟨.futureValue, "future value"⟩
  | .futureExn _ => some ⟨.futureExn, "future exn"⟩
  | .discarded _ => none

/-- one faultable API call of a round -/
inductive Op where
  /-- a constructor / operation of the scenario set; the caller owns the descriptors of its result -/
  | prog (p : Prog)
  /-- a constructor taking over the descriptor `fd` of an rvalue socket the caller holds -/
  | consume (c : Consumer) (fd : Fd)
  /-- `Driver::Step(0)` on an arbitrary driver state -/
  | drive (d : DSt)

/-- quiet set-up (constructors run without faults), the steps; the teardown destroys everything held -/
structure Round where
  setup : List Prog := []
  steps : List Op := []

def progKind : Prog → StepKind
  | .addrCtor | .udpCtor | .tcpCtor | .acceptorCtor | .driverCtor => .ctor
  | .acceptorListen true _ => .accept
  | _ => .op

/-- the model side: the ledger and the descriptors the caller holds through the objects it was given -/
structure MSt where
  L : Ledger
  held : List Fd := []

def stepOf (kind : StepKind) (L L' : Ledger) (evs : List Fd.Ev) (out : Outcome) : Obs :=
  .step { kind := kind, items := (newLog L L').map toItem, evs := evs.filterMap toEv, outcome := out }

/-- one API call on the model and what an observer sees of it -/
def mStep (o : Oracle) (st : MSt) : Op → MSt × List Obs
  | .prog p =>
    match p.run o st.L with
    | (.ok a, L') => ({ L := L', held := st.held ++ a }, [stepOf (progKind p) st.L L' [] .ok])
    | (.error e, L') => ({ L := L', held := st.held }, [stepOf (progKind p) st.L L' [] (exnOutcome e)])
  | .consume c fd =>
    if fd ∈ st.held then
      match c.run fd o st.L with
      | (.ok a, L') => ({ L := L', held := st.held.erase fd ++ a }, [stepOf .consume st.L L' [] .ok])
      | (.error e, L') => ({ L := L', held := st.held.erase fd }, [stepOf .consume st.L L' [] (exnOutcome e)])
    else (st, [])     -- not performed: the caller has no such socket to hand over
  | .drive d =>
    match driverStep d o st.L with
    | (.ok out, L') => ({ L := L', held := st.held ++ out.fds }, [stepOf .drive st.L L' out.evs .ok])
    | (.error e, L') => ({ L := L', held := st.held }, [stepOf .drive st.L L' [] (exnOutcome e)])

def mSteps (o : Oracle) (st : MSt) : List Op → MSt × List Obs
  | [] => (st, [])
  | op :: ops => ((mSteps o (mStep o st op).1 ops).1, (mStep o st op).2 ++ (mSteps o (mStep o st op).1 ops).2)

def mSetup (o : Oracle) (st : MSt) : List Prog → MSt
  | [] => st
  | p :: ps =>
    match quiet p.run o st.L with
    | (.ok a, L') => mSetup o { L := L', held := st.held ++ a } ps
    | (.error _, L') => mSetup o { L := L', held := st.held } ps

def ledgerLine (L : Ledger) : Nat × Nat :=
  (L.live.length, (if L.closedTwice then 1 else 0) + (if L.closedForeign then 1 else 0))

/-- one round: set-up, `have` = the descriptors open afterwards, the steps, destruction of everything held,
the ledger line -/
def mRound (o : Oracle) (L : Ledger) (r : Round) : Ledger × List Obs :=
  let st1 := mSetup o { L := L } r.setup
  let st2 := mSteps o st1 r.steps
  let Ltd := (destroy st2.1.held o st2.1.L).2
  (Ltd, [Obs.setup ((newLog L st1.L).map toItem) st1.L.live] ++ st2.2 ++
        [Obs.teardown ((newLog st2.1.L Ltd).map toItem) (some (ledgerLine Ltd))])

/-- the observations the model produces for a history (a list of rounds) under the fault oracle `o` -/
def modelTrace (o : Oracle) (L : Ledger) : List Round → List Obs
  | [] => []
  | r :: rs => (mRound o L r).2 ++ modelTrace o (mRound o L r).1 rs

/-- what the scenario class promises about the histories (see `Ctx.discards`): in a scenario whose
asynchronous socket is a UDP socket / acceptor the driver is never `Stop`ped; in every other scenario no UDP
socket or acceptor attached to the driver is readable -/
def Op.ok (discards : Bool) : Op → Bool
  | .prog p => p.sane
  | .consume _ _ => true
  | .drive d => if discards then d.bumps == 0 else d.socks.all fun s => s.kind == .tcp || s.rx == 0

def Round.ok (discards : Bool) (r : Round) : Bool := r.setup.all Prog.sane && r.steps.all (Op.ok discards)

/-! ## the model satisfies the predicate -/

theorem newLog_of_ext {L L' : Ledger} {seg : List LogItem} (h : L'.log = seg.reverse ++ L.log) :
    newLog L L' = seg := by
  unfold newLog
  rw [h]
  have hl : (seg.reverse ++ L.log).length - L.log.length = seg.reverse.length := by simp
  rw [hl, List.take_left' rfl, List.reverse_reverse]

theorem fail?_toItem (it : LogItem) : (toItem it).fail? = it.fail? := by
  cases it with
  | close fd => rfl
  | call c a f nf => cases nf <;> cases f <;> rfl

theorem failsOf_toItem (seg : List LogItem) : failsOf (seg.map toItem) = Fd.failsOf seg :=
  List.filterMap_map.trans (congrArg (List.filterMap · seg) (funext fail?_toItem))

theorem opensOf_cons_close (g : Fd) (rest : List LogItem) : opensOf (.close g :: rest) = opensOf rest := rfl
theorem closesOf_cons_close (g : Fd) (rest : List LogItem) : closesOf (.close g :: rest) = g :: closesOf rest := rfl
theorem opensOf_cons_call (c : Sys) (a : Option Fd) (f : Option Errno) (rest : List LogItem) :
    opensOf (.call c a f none :: rest) = opensOf rest := rfl
theorem opensOf_cons_open (c : Sys) (a : Option Fd) (f : Option Errno) (k : Fd) (rest : List LogItem) :
    opensOf (.call c a f (some k) :: rest) = k :: opensOf rest := rfl
theorem closesOf_cons_call (c : Sys) (a : Option Fd) (f : Option Errno) (nf : Option Fd) (rest : List LogItem) :
    closesOf (.call c a f nf :: rest) = closesOf rest := rfl

theorem applyItems_close {a : Acc} {g : Nat} (hg : g ∈ a.opened) (rest : List Item) :
    applyItems a (.close g :: rest) =
      applyItems { opened := a.opened.erase g, new := a.new, closed := a.closed ++ [g] } rest := by
  simp only [applyItems, applyItem, if_pos (List.contains_iff_mem.mpr hg)]

theorem applyItems_open {a : Acc} {k : Nat} (hk : k ∉ a.opened) (c : Sys) (rest : List Item) :
    applyItems a (.call c (.ok (some k)) :: rest) =
      applyItems { opened := a.opened ++ [k], new := a.new ++ [k], closed := a.closed } rest := by
  simp only [applyItems, applyItem, if_neg (fun h => hk (List.contains_iff_mem.mp h))]

/-- the observer's ledger book-keeping over the model's log is the replay of the log -/
theorem applyItems_replay {seg : List LogItem} : ∀ {l : List Fd} {n : Nat} {l' : List Fd} {n' : Nat} (an ac : List Nat),
    replay (l, n) seg = some (l', n') → (∀ x ∈ l, x < n) →
    applyItems { opened := l, new := an, closed := ac } (seg.map toItem) =
      .ok { opened := l', new := an ++ opensOf seg, closed := ac ++ closesOf seg } := by
  induction seg with
  | nil =>
    intro l n l' n' an ac h _
    cases h
    show Except.ok _ = Except.ok _
    rw [show opensOf [] = [] from rfl, show closesOf [] = [] from rfl, List.append_nil, List.append_nil]
  | cons it rest ih =>
    intro l n l' n' an ac h hbelow
    cases it with
    | close g =>
      rw [replay_cons_close] at h
      split at h
      · rename_i hg
        show applyItems _ (.close g :: rest.map toItem) = _
        rw [applyItems_close hg, ih an (ac ++ [g]) h (fun x hx => hbelow x (List.mem_of_mem_erase hx)),
          List.append_assoc]
        rfl
      · cases h
    | call c a f nf =>
      cases nf with
      | none => cases f <;> exact ih an ac h hbelow
      | some k =>
        rw [replay_cons_open] at h
        split at h
        · rename_i hk
          subst hk
          show applyItems _ (.call c (.ok (some k)) :: rest.map toItem) = _
          rw [applyItems_open (fun hm => Nat.lt_irrefl _ (hbelow k hm)),
            ih (an ++ [k]) ac h (below_append hbelow), List.append_assoc]
          rfl
        · cases h

theorem specRun_append (ctx : Ctx) (st : SpecSt) (a b : List Obs) :
    specRun ctx st (a ++ b) = match specRun ctx st a with | .ok st' => specRun ctx st' b | .error e => .error e := by
  induction a generalizing st with
  | nil => rfl
  | cons o os ih =>
    simp only [List.cons_append, specRun]
    cases specStep ctx st o with
    | ok st' => exact ih st'
    | error e => rfl

/-- the ownership clause on a segment of the model's log that replays.  `hleak`: the call delivered (returned and no
call failed), or it left nothing open that was not open before; `hkeep`: it closed nothing that was open before, or it is
a consuming constructor that threw -/
theorem own_ok {L L' : Ledger} {seg : List LogItem} (hL : WF L)
    (hrep : replay (L.live, L.next) seg = some (L'.live, L'.next)) (s : StepObs)
    (hleak : (s.outcome.isOk && (failsOf s.items).isEmpty) = true ∨ ∀ x ∈ L'.live, x ∈ L.live)
    (hkeep : (∀ x ∈ L.live, x ∈ L'.live) ∨ (s.kind.isConsume && s.outcome.isExn) = true) :
    ownClause s { opened := L'.live, new := opensOf seg, closed := closesOf seg } = .ok () := by
  have h1 : leakFd s { opened := L'.live, new := opensOf seg, closed := closesOf seg } = none := by
    unfold leakFd
    rcases hleak with h | h
    · rw [if_pos h]
    · split
      · rfl
      · -- what the segment opened is numbered from `next` on, what was open before is below it
        exact List.find?_eq_none.mpr fun fd hfd hc => Nat.lt_irrefl _ (Nat.lt_of_lt_of_le
          (hL.below fd (h fd (List.contains_iff_mem.mp hc))) ((replay_opens_ge hrep).2 fd hfd))
  unfold ownClause
  rw [h1]
  rcases hkeep with h | h
  · have h2 : strayFd { opened := L'.live, new := opensOf seg, closed := closesOf seg } = none :=
      List.find?_eq_none.mpr fun fd hfd hc =>
        have := replay_closed hrep hL.nodup hL.below hfd (by simpa using hc)
        this.2 (h fd this.1)
    rw [h2]
  · cases strayFd { opened := L'.live, new := opensOf seg, closed := closesOf seg } with
    | none => rfl
    | some fd => exact if_pos h

theorem exnOutcome_exnFor (c : Sys) (code : Errno) : exnOutcome (exnFor c code) = .exn (catOf c) code := by
  cases c <;> rfl

theorem exnOutcome_isOk (e : Exn) : (exnOutcome e).isOk = false := by cases e <;> rfl
theorem exnOutcome_isExn (e : Exn) : (exnOutcome e).isExn = true := by cases e <;> rfl

theorem exnOutcome_proper (e : Exn) : (exnOutcome e).improper? = none := by cases e <;> rfl

section Channels
variable {discards : Bool} {c : Sys} {fails : List (Sys × Int)} {s : StepObs}

theorem matchesExn_of_mem {out : Outcome} {p : Sys × Int} (hp : p ∈ fails) (h : out = .exn (catOf p.1) p.2) :
    matchesExn fails out = true :=
  List.any_eq_true.mpr ⟨p, hp, by rw [h]; exact beq_self_eq_true _⟩

theorem reportClause_noFail (hf : failsOf s.items = []) (hok : s.outcome.isOk = true)
    (hev : s.evs.any Ev.isFailure = false) : reportClause discards s = .ok [] := by
  unfold reportClause
  rw [hf]
  simp only [hok, hev]
  rfl

theorem reportClause_fail {code : Int} {rest : List (Sys × Int)} {chan : String} (hf : failsOf s.items = (c, code) :: rest)
    (h : (if s.kind.isDrive then driveClause discards c ((c, code) :: rest) s else callClause c ((c, code) :: rest) s)
      = .ok chan) : reportClause discards s = .ok [chan, s!"fault.{sysName c}"] := by
  unfold reportClause
  rw [hf]
  simp only
  rw [h]

theorem callClause_exn (hok : s.outcome.isOk = false) (hm : matchesExn fails s.outcome = true) :
    callClause c fails s = .ok "chan.exn" := by
  unfold callClause
  rw [hok, hm]
  rfl

theorem driveClause_exn (hc : (c == .poll || (c == .recvfrom && !discards)) = true)
    (hm : matchesExn fails s.outcome = true) : driveClause discards c fails s = .ok "chan.exn" := by
  unfold driveClause
  rw [if_pos hc, hm]
  rfl

theorem driveClause_recv (hok : s.outcome.isOk = true) (hd : s.evs.any Ev.isDisconnect = true)
    (hr : s.evs.any Ev.isReceive = false) : driveClause discards .recv fails s = .ok "chan.disconnect" := by
  unfold driveClause
  rw [hok, hd, hr]
  rfl

theorem driveClause_send (hc : c = .send ∨ c = .sendto) (hok : s.outcome.isOk = true)
    (hx : s.evs.any Ev.isFutureExn = true) : driveClause discards c fails s = .ok "chan.future" := by
  unfold driveClause
  rw [hok, hx]
  rcases hc with rfl | rfl <;> rfl

theorem driveClause_discard (hc : c = .recvfrom ∨ c = .accept ∨ c = .fcntl ∨ c = .listen) (hok : s.outcome.isOk = true)
    (hx : s.evs.any Ev.isDelivery = false) : driveClause true c fails s = .ok "chan.discard" := by
  unfold driveClause
  rw [hok, hx]
  rcases hc with rfl | rfl | rfl | rfl <;> rfl

end Channels

/-- the reporting clause on a constructor / operation of the model -/
theorem report_call_ok {α : Type} (discards : Bool) (s : StepObs) (seg : List LogItem) (r : Except Exn α)
    (hitems : s.items = seg.map toItem) (hk : s.kind.isDrive = false) (hevs : s.evs = [])
    (hout : s.outcome = match r with | .ok _ => Outcome.ok | .error e => exnOutcome e) (hg : Good r seg) :
    ∃ tags, reportClause discards s = .ok tags := by
  have hfails : failsOf s.items = Fd.failsOf seg := hitems ▸ failsOf_toItem seg
  cases r with
  | ok a => exact ⟨_, reportClause_noFail (hfails.trans hg.1) (by rw [hout]; rfl) (by rw [hevs]; rfl)⟩
  | error e =>
    simp only at hout
    obtain ⟨p, hp, hpe⟩ := hg
    cases hfs : Fd.failsOf seg with
    | nil => rw [hfs] at hp; cases hp
    | cons q rest =>
      refine ⟨_, reportClause_fail (c := q.1) (code := q.2) (chan := "chan.exn") (hfails.trans hfs) ?_⟩
      rw [hk]
      exact callClause_exn (by rw [hout]; exact exnOutcome_isOk e)
        (matchesExn_of_mem (hfs ▸ hp) (by rw [hout, ← hpe, exnOutcome_exnFor]))

theorem toEv_noFailure {ev : Fd.Ev} (h : ev.reportsFailure = false) : ∀ e', toEv ev = some e' → e'.isFailure = false := by
  intro e' he
  cases ev <;> first | (cases he; rfl) | cases h

/-- the reporting clause on a `Step` of the model -/
theorem report_drive_ok (discards : Bool) (d : DSt) (hd : Op.ok discards (.drive d) = true)
    (s : StepObs) (seg : List LogItem) (r : Except Exn StepOut)
    (hitems : s.items = seg.map toItem) (hk : s.kind = .drive)
    (hevs : s.evs = (match r with | .ok out => out.evs | .error _ => []).filterMap toEv)
    (hout : s.outcome = match r with | .ok _ => Outcome.ok | .error e => exnOutcome e) (hq : DriveQ d r seg) :
    ∃ tags, reportClause discards s = .ok tags := by
  have hfails : failsOf s.items = Fd.failsOf seg := hitems ▸ failsOf_toItem seg
  cases r with
  | error e =>
    simp only at hout
    obtain ⟨c, code, hf, rfl, hc⟩ := hq
    refine ⟨_, reportClause_fail (chan := "chan.exn") (hfails.trans hf) ?_⟩
    rw [hk]
    refine driveClause_exn ?_ (matchesExn_of_mem List.mem_cons_self (by rw [hout]; rcases hc with rfl | ⟨rfl, _⟩ <;> rfl))
    rcases hc with rfl | ⟨rfl, hb⟩
    · rfl
    · -- an exception out of `Step` for the pipe's `recvfrom` needs `bumps > 0`, which a `discards` scenario excludes
      cases discards with
      | false => rfl
      | true => exact absurd (of_decide_eq_true hd : d.bumps = 0) (Nat.ne_of_gt hb)
  | ok out =>
    simp only at hout hevs
    have hok : s.outcome.isOk = true := by rw [hout]; rfl
    rcases hq with ⟨hf, hev⟩ | ⟨hfds, c, code, rest, fd, hf, hc⟩
    · refine ⟨_, reportClause_noFail (hfails.trans hf) hok ?_⟩
      rw [hevs, List.any_eq_false]
      intro e' he'
      obtain ⟨ev, hev1, hev2⟩ := List.mem_filterMap.mp he'
      rw [toEv_noFailure (hev ev hev1) e' hev2]
      exact Bool.false_ne_true
    · have hfail : ∀ chan, driveClause discards c ((c, code) :: rest) s = .ok chan →
          ∃ tags, reportClause discards s = .ok tags :=
        fun chan h => ⟨_, reportClause_fail (hfails.trans hf) (by rw [hk]; exact h)⟩
      rcases hc with ⟨rfl, hevo⟩ | ⟨hsend, hevo⟩ | ⟨hdisc, hevo, hb, s0, hs0, hkind, hrx⟩
      · have hs : s.evs = [⟨.disconnect, "disconnect"⟩] := by rw [hevs, hevo]; rfl
        exact hfail _ (driveClause_recv hok (by rw [hs]; rfl) (by rw [hs]; rfl))
      · have hs : s.evs = [⟨.futureExn, "future exn"⟩] := by rw [hevs, hevo]; rfl
        exact hfail _ (driveClause_send hsend hok (by rw [hs]; rfl))
      · have hs : s.evs = [] := by rw [hevs, hevo]; rfl
        -- a dropped failure needs a readable UDP socket / acceptor, which only a `discards` scenario has
        cases discards with
        | true => exact hfail _ (driveClause_discard hdisc hok (by rw [hs]; rfl))
        | false =>
          have := List.all_eq_true.mp hd s0 hs0
          simp only [Bool.or_eq_true, beq_iff_eq] at this
          exact this.elim (fun h => absurd h hkind) (fun h => absurd h (Nat.ne_of_gt hrx))

/-- what relates the observer's book-keeping to the model state -/
structure Rel (st : MSt) (sp : SpecSt) : Prop where
  wf : WF st.L
  opened : sp.opened = st.L.live
  nodup : st.held.Nodup
  held : ∀ fd, fd ∈ st.held ↔ fd ∈ st.L.live

theorem bad_of_wf {L : Ledger} (h : WF L) : L.bad = false := by
  simp [Ledger.bad, h.noTwice, h.noForeign]

/-- one observed step of the model is accepted, given its reporting clause, the two ledger facts (`hleak`, `hkeep`
as in `own_ok`) and what the caller holds afterwards -/
theorem Rel.next {st : MSt} {sp : SpecSt} (hrel : Rel st sp) (ctx : Ctx) {o : Oracle} {L' : Ledger} {seg : List LogItem}
    (hL' : WF L') (hext : Ext o st.L L' seg) (kind : StepKind) (evs : List Fd.Ev) (out : Outcome)
    (hproper : out.improper? = none)
    (hrep : ∃ tags, reportClause ctx.discards
      { kind := kind, items := seg.map toItem, evs := evs.filterMap toEv, outcome := out } = .ok tags)
    (hleak : (out.isOk && (failsOf (seg.map toItem)).isEmpty) = true ∨ L'.live ⊆ st.L.live)
    (hkeep : st.L.live ⊆ L'.live ∨ (kind.isConsume && out.isExn) = true)
    {held' : List Fd} (hnd : held'.Nodup) (hheld : ∀ fd, fd ∈ held' ↔ fd ∈ L'.live) :
    ∃ sp', specRun ctx sp [stepOf kind st.L L' evs out] = .ok sp' ∧ Rel { L := L', held := held' } sp' := by
  obtain ⟨tags, htags⟩ := hrep
  have hrepl := hext.rep (bad_of_wf hL')
  have happ := applyItems_replay [] [] hrepl hrel.wf.below
  simp only [List.nil_append] at happ
  have hown := own_ok hrel.wf hrepl { kind := kind, items := seg.map toItem, evs := evs.filterMap toEv, outcome := out }
    hleak hkeep
  refine ⟨{ opened := L'.live, tags := tags ++ sp.tags }, ?_, hL', rfl, hnd, hheld⟩
  simp only [specRun, specStep, stepOf, newLog_of_ext hext.log, specStepObs, hrel.opened, happ, hproper, htags, hown]
  rfl

theorem progKind_notDrive (p : Prog) : (progKind p).isDrive = false := by
  cases p <;> first | rfl | (rename_i r _; cases r <;> rfl)

/-- the caller's descriptors after a call that returned the freshly opened `new` -/
theorem rel_grow {L' : Ledger} {held live new : List Fd} (hw : WF L') (hl : L'.live = live ++ new) (hnd : held.Nodup)
    (hh : ∀ fd, fd ∈ held ↔ fd ∈ live) : (held ++ new).Nodup ∧ ∀ fd, fd ∈ held ++ new ↔ fd ∈ L'.live := by
  have hnd' := hw.nodup
  rw [hl] at hnd'
  obtain ⟨_, h2, h3⟩ := List.nodup_append.mp hnd'
  refine ⟨List.nodup_append.mpr ⟨hnd, h2, ?_⟩, ?_⟩
  · intro a ha b hb
    exact h3 a ((hh a).mp ha) b hb
  · intro fd
    rw [hl, List.mem_append, List.mem_append, hh]

/-- a step that left `new` open (nothing, if it threw) is accepted, and the caller now holds `new` as well -/
theorem Rel.step {st : MSt} {sp : SpecSt} (hrel : Rel st sp) (ctx : Ctx) {o : Oracle} {L' : Ledger} {seg : List LogItem}
    {new : List Fd} (w' : WF L') (hext : Ext o st.L L' seg) (hl : L'.live = st.L.live ++ new) (kind : StepKind)
    (evs : List Fd.Ev) (out : Outcome) (hproper : out.improper? = none)
    (hrep : ∃ tags, reportClause ctx.discards
      { kind := kind, items := seg.map toItem, evs := evs.filterMap toEv, outcome := out } = .ok tags)
    (hleak : (out.isOk = true ∧ Fd.failsOf seg = []) ∨ new = []) {held' : List Fd} (hheld' : held' = st.held ++ new) :
    ∃ sp', specRun ctx sp [stepOf kind st.L L' evs out] = .ok sp' ∧ Rel { L := L', held := held' } sp' := by
  have := rel_grow w' hl hrel.nodup hrel.held
  exact hrel.next ctx w' hext kind evs out hproper hrep
    (hleak.imp (fun ⟨h1, h2⟩ => by rw [h1, failsOf_toItem, h2]; rfl) (fun hn => by rw [hl, hn, List.append_nil]; exact fun _ => id))
    (.inl (hl ▸ List.subset_append_left _ _)) (hheld' ▸ this.1) (hheld' ▸ this.2)

theorem mStep_ok (ctx : Ctx) (o : Oracle) (st : MSt) (sp : SpecSt) (hrel : Rel st sp) (op : Op)
    (hop : op.ok ctx.discards = true) :
    ∃ sp', specRun ctx sp (mStep o st op).2 = .ok sp' ∧ Rel (mStep o st op).1 sp' := by
  cases op with
  | prog p =>
    cases hrun : p.run o st.L with
    | mk r L' =>
      obtain ⟨w', _, _, _, hlive⟩ := (Prog.keepsLedger p).run hrel.wf hrun
      obtain ⟨seg, hext, hgood⟩ := Prog.good p hop o st.L r L' hrun
      -- below, the `rfl`s given to `report_call_ok` / `report_drive_ok` say that items, kind, events and outcome of
      -- the observed step are those `stepOf` builds
      cases r with
      | ok a =>
        obtain ⟨new, hl, rfl, _⟩ := hlive
        simp only [mStep, hrun]
        exact hrel.step ctx w' hext hl _ [] .ok rfl
          (report_call_ok ctx.discards _ seg (.ok a) rfl (progKind_notDrive p) rfl rfl hgood) (.inl ⟨rfl, hgood.1⟩) rfl
      | error e =>
        simp only [mStep, hrun]
        exact hrel.step ctx w' hext (hlive.trans (List.append_nil _).symm) _ [] _ (exnOutcome_proper e)
          (report_call_ok (α := List Fd) ctx.discards _ seg (.error e) rfl (progKind_notDrive p) rfl rfl hgood)
          (.inr rfl) (List.append_nil _).symm
  | consume c fd =>
    by_cases hfd : fd ∈ st.held
    · cases hrun : c.run fd o st.L with
      | mk r L' =>
        obtain ⟨w', _, _, hlive⟩ := Consumer.takesOver c fd o st.L hrel.wf ((hrel.held fd).mp hfd) r L' hrun
        obtain ⟨seg, hext, hgood⟩ := Consumer.good c fd o st.L r L' hrun
        simp only [mStep, if_pos hfd, hrun]
        cases r with
        | ok a =>
          -- the descriptor changes hands and stays open
          obtain ⟨hl, rfl, _⟩ := hlive
          have hp : (st.held.erase fd ++ [fd]).Perm st.held := List.perm_append_comm.trans (List.perm_cons_erase hfd).symm
          exact hrel.next ctx w' hext .consume [] .ok rfl (report_call_ok ctx.discards _ seg (.ok [fd]) rfl rfl rfl rfl hgood)
            (.inr (hl ▸ fun _ => id)) (.inl (hl ▸ fun _ => id)) (hp.nodup_iff.mpr hrel.nodup)
            fun x => by rw [hp.mem_iff, hl]; exact hrel.held x
        | error e =>
          -- the consumed descriptor has been closed
          exact hrel.next ctx w' hext .consume [] _ (exnOutcome_proper e)
            (report_call_ok (α := List Fd) ctx.discards _ seg (.error e) rfl rfl rfl rfl hgood)
            (.inr (hlive ▸ List.erase_subset)) (.inr (by rw [exnOutcome_isExn]; rfl)) (hrel.nodup.erase _)
            fun x => by rw [hlive, List.Nodup.mem_erase_iff hrel.nodup, List.Nodup.mem_erase_iff hrel.wf.nodup, hrel.held]
    · simp only [mStep, if_neg hfd]
      exact ⟨sp, rfl, hrel⟩
  | drive d =>
    cases hrun : driverStep d o st.L with
    | mk r L' =>
      obtain ⟨w', _, _, _, hlive⟩ := (Sp_driverStep d).run hrel.wf hrun
      obtain ⟨seg, hext, hq⟩ := Lg_driverStep d o st.L r L' hrun
      cases r with
      | ok out =>
        obtain ⟨new, hl, hfds, _⟩ := hlive
        simp only [mStep, hrun, hfds]
        exact hrel.step ctx w' hext hl _ out.evs .ok rfl
          (report_drive_ok ctx.discards d hop _ seg (.ok out) rfl rfl rfl rfl hq)
          (hq.imp (fun h => ⟨rfl, h.1⟩) (fun h => hfds ▸ h.1)) rfl
      | error e =>
        simp only [mStep, hrun]
        exact hrel.step ctx w' hext (hlive.trans (List.append_nil _).symm) _ [] _ (exnOutcome_proper e)
          (report_drive_ok ctx.discards d hop _ seg (.error e) rfl rfl rfl rfl hq) (.inr rfl) (List.append_nil _).symm

theorem mSteps_ok (ctx : Ctx) (o : Oracle) (ops : List Op) : ∀ (st : MSt) (sp : SpecSt), Rel st sp →
    (∀ op ∈ ops, op.ok ctx.discards = true) →
    ∃ sp', specRun ctx sp (mSteps o st ops).2 = .ok sp' ∧ Rel (mSteps o st ops).1 sp' := by
  induction ops with
  | nil => intro st sp hrel _; exact ⟨sp, rfl, hrel⟩
  | cons op ops ih =>
    intro st sp hrel hok
    obtain ⟨sp1, h1, r1⟩ := mStep_ok ctx o st sp hrel op (hok op List.mem_cons_self)
    obtain ⟨sp2, h2, r2⟩ := ih _ sp1 r1 (fun op' h => hok op' (List.mem_cons_of_mem _ h))
    refine ⟨sp2, ?_, r2⟩
    simp only [mSteps]
    rw [specRun_append, h1]
    exact h2

/-! ### set-up and teardown -/

/-- a quiet constructor of the scenario set succeeds, closes nothing and leaves no trace in the log -/
theorem quiet_prog (p : Prog) (hp : p.sane = true) (o : Oracle) (L : Ledger) (hL : WF L) :
    ∃ a Lq, quiet p.run o L = (.ok a, Lq) ∧ WF Lq ∧ Lq.log = L.log ∧ Lq.live = L.live ++ a := by
  cases hrun : p.run (fun _ => none) L with
  | mk r L' =>
    obtain ⟨w', _, _, _, hlive⟩ := (Prog.keepsLedger p).run hL hrun
    obtain ⟨seg, hext, hgood⟩ := Prog.good p hp _ L r L' hrun
    have hnofail : Fd.failsOf seg = [] := List.eq_nil_iff_forall_not_mem.mpr fun q hq => by
      obtain ⟨i, hi⟩ := hext.orc q hq
      cases hi
    cases r with
    | error e =>
      obtain ⟨q, hq, _⟩ := hgood
      rw [hnofail] at hq
      cases hq
    | ok a =>
      obtain ⟨new, hl, rfl, _⟩ := hlive
      have htake : L'.log.take (L'.log.length - L.log.length) = seg.reverse := by
        rw [← newLog_of_ext hext.log]; exact (List.reverse_reverse _).symm
      have hfilter : (seg.reverse).filter LogItem.isClose = [] := List.filter_eq_nil_iff.mpr fun it hit => by
        rw [isClose_of_close? (List.filterMap_eq_nil_iff.mp hgood.2 it (List.mem_reverse.mp hit))]
        exact Bool.false_ne_true
      refine ⟨a, { L' with pos := L.pos, trace := L.trace, nfault := L.nfault,
                           log := (L'.log.take (L'.log.length - L.log.length)).filter LogItem.isClose ++ L.log },
        by unfold quiet; rw [hrun], ⟨w'.nodup, w'.below, w'.noTwice, w'.noForeign⟩, ?_, hl⟩
      show (L'.log.take (L'.log.length - L.log.length)).filter LogItem.isClose ++ L.log = L.log
      rw [htake, hfilter, List.nil_append]

theorem mSetup_inv (o : Oracle) (L0 : Ledger) (tags : List String) (ps : List Prog) : ∀ (st : MSt),
    Rel st { opened := st.L.live, tags := tags } → st.L.log = L0.log → (∀ p ∈ ps, p.sane = true) →
    Rel (mSetup o st ps) { opened := (mSetup o st ps).L.live, tags := tags } ∧ (mSetup o st ps).L.log = L0.log := by
  induction ps with
  | nil => intro st h hlog _; exact ⟨h, hlog⟩
  | cons p ps ih =>
    intro st h hlog hs
    obtain ⟨a, Lq, hq, wq, hlogq, hl⟩ := quiet_prog p (hs p List.mem_cons_self) o st.L h.wf
    simp only [mSetup, hq]
    have := rel_grow wq hl h.nodup h.held
    exact ih _ ⟨wq, rfl, this.1, this.2⟩ (hlogq.trans hlog) (fun p' hp' => hs p' (List.mem_cons_of_mem _ hp'))

/-- destroying distinct descriptors that are open closes exactly those -/
theorem destroy_all (o : Oracle) : ∀ (fds : List Fd) (L : Ledger), WF L → fds.Nodup → (∀ fd ∈ fds, fd ∈ L.live) →
    (destroy fds o L).1 = .ok () ∧ WF (destroy fds o L).2 ∧
      ∀ x, x ∈ (destroy fds o L).2.live ↔ (x ∈ L.live ∧ x ∉ fds) := by
  intro fds
  induction fds with
  | nil => intro L hL _ _; exact ⟨rfl, hL, fun x => ⟨fun h => ⟨h, List.not_mem_nil⟩, And.left⟩⟩
  | cons fd rest ih =>
    intro L hL hnd hmem
    obtain ⟨hfd, hnd'⟩ := List.nodup_cons.mp hnd
    obtain ⟨_, h2, h3⟩ := ih L hL hnd' (fun x hx => hmem x (List.mem_cons_of_mem _ hx))
    rw [destroy_run] at h2 h3 ⊢
    rw [List.foldr_cons]
    generalize List.foldr (fun fd L => L.close fd) L rest = L1 at h2 h3 ⊢
    obtain ⟨w, l, _, _⟩ := WF.close_mem (L := L1) h2 ((h3 fd).mpr ⟨hmem fd List.mem_cons_self, hfd⟩)
    refine ⟨rfl, w, fun x => ?_⟩
    show x ∈ (L1.close fd).live ↔ _
    rw [l, List.Nodup.mem_erase_iff h2.nodup, h3, List.mem_cons]
    exact ⟨fun ⟨hx, hl, hr⟩ => ⟨hl, fun h => h.elim hx hr⟩, fun ⟨hl, hr⟩ => ⟨fun h => hr (.inl h), hl, fun h => hr (.inr h)⟩⟩

theorem mRound_ok (ctx : Ctx) (o : Oracle) (L : Ledger) (hL : WF L) (hempty : L.live = []) (r : Round)
    (hr : r.ok ctx.discards = true) (sp : SpecSt) :
    ∃ sp', specRun ctx sp (mRound o L r).2 = .ok sp' ∧ WF (mRound o L r).1 ∧ (mRound o L r).1.live = [] := by
  simp only [Round.ok, Bool.and_eq_true, List.all_eq_true] at hr
  obtain ⟨hrel1, hlog⟩ := mSetup_inv o L sp.tags r.setup { L := L } ⟨hL, rfl, List.nodup_nil, by simp [hempty]⟩ rfl hr.1
  simp only [mRound]
  -- set-up: nothing logged, the observer starts from the descriptors open now
  generalize mSetup o { L := L } r.setup = st1 at hrel1 hlog ⊢
  have hsetup : specRun ctx sp [Obs.setup ((newLog L st1.L).map toItem) st1.L.live] =
      .ok { opened := st1.L.live, tags := sp.tags } := by
    rw [newLog_of_ext (seg := []) (by rw [hlog]; rfl)]
    simp [specRun, specStep, specSetup, applyItems, Except.mapError]
  obtain ⟨sp2, h2, hrel2⟩ := mSteps_ok ctx o r.steps st1 _ hrel1 hr.2
  generalize mSteps o st1 r.steps = res at h2 hrel2 ⊢
  -- teardown: everything held is closed, which is everything open
  obtain ⟨_, wtd, htd⟩ := destroy_all o res.1.held res.1.L hrel2.wf hrel2.nodup (fun fd h => (hrel2.held fd).mp h)
  obtain ⟨seg, hext, _⟩ := Lg_destroy res.1.held o res.1.L _ _ rfl
  generalize (destroy res.1.held o res.1.L).2 = Ltd at wtd htd hext ⊢
  have hlive : Ltd.live = [] := List.eq_nil_iff_forall_not_mem.mpr fun x hx =>
    ((htd x).mp hx).2 ((hrel2.held x).mpr ((htd x).mp hx).1)
  have happ := applyItems_replay [] [] (hext.rep (bad_of_wf wtd)) hrel2.wf.below
  rw [hlive] at happ
  refine ⟨{ opened := [], tags := sp2.tags }, ?_, wtd, hlive⟩
  rw [specRun_append, specRun_append, hsetup]
  simp only
  rw [h2]
  simp only [specRun, specStep, specTeardown, newLog_of_ext hext.log, hrel2.opened, happ, ledgerLine, hlive,
    wtd.noTwice, wtd.noForeign]
  rfl

/-- **The property predicate that `./check C14` evaluates on the implementation is a theorem of the model.**
For every fault oracle (any number of failing calls at any positions), every history - any number of rounds,
each with any quiet set-up constructors and any sequence of constructors / operations (`Prog`, with any
descriptor arguments and any number of partial writes), consuming constructors and driver steps on arbitrary
driver states - the observations the model produces are accepted by every clause of the predicate: failures
reported by an exception with the category and code of a failed call or, inside `Step`, through the
documented channel; no bogus success, no failure out of thin air; nothing a failing call opened is still
open when it returns; nothing closed that the call did not open (except by a throwing consuming
constructor); nothing closed twice; after the teardown nothing is open and the ledger is clean.
`Round.ok` (decidable): `query` is used with a socket call, and the scenario flag `ctx.discards` is truthful
(see `Op.ok`). -/
theorem model_satisfies_spec (ctx : Ctx) (o : Oracle) (history : List Round)
    (hok : ∀ r ∈ history, r.ok ctx.discards = true) :
    ∃ s, specRun ctx {} (modelTrace o {} history) = .ok s := by
  suffices H : ∀ (L : Ledger) (sp : SpecSt), WF L → L.live = [] → ∃ s, specRun ctx sp (modelTrace o L history) = .ok s from
    H {} {} WF.init rfl
  induction history with
  | nil => intro L sp _ _; exact ⟨sp, rfl⟩
  | cons r rs ih =>
    intro L sp hL hempty
    obtain ⟨sp1, h1, w1, e1⟩ := mRound_ok ctx o L hL hempty r (hok r List.mem_cons_self) sp
    obtain ⟨sp2, h2⟩ := ih (fun r' h => hok r' (List.mem_cons_of_mem _ h)) _ sp1 w1 e1
    refine ⟨sp2, ?_⟩
    simp only [modelTrace]
    rw [specRun_append, h1]
    exact h2

/-! ### non-vacuity -/

def demoDriver : DSt := { pipeFrom := 0, pipeTo := 1, socks := [{ fd := 2, kind := .tcp, rx := 1, sendQ := 1 }] }
def demoDriver2 : DSt := { pipeFrom := 0, pipeTo := 1, socks := [{ fd := 2, kind := .tcp, rx := 0, sendQ := 1 }] }

/-- two rounds: `Driver()` and `SocketTcp` quietly, then `SocketUdp`, two consuming constructors, `Step`, `Listen`
with an accepted connection, `Step`, a `Send` in two parts, `Driver()`, `LocalAddress`, a third consuming
constructor, `Address`; second round: `SocketUdp` quietly, `Acceptor`, two `Step`s -/
def demoHistory : List Round :=
  [ { setup := [.driverCtor, .tcpCtor],
      steps := [.prog .udpCtor, .consume (.buffered true) 3, .consume .tcpAsync 2, .drive demoDriver,
                .prog (.acceptorListen true 2), .drive demoDriver2, .prog (.tcpSend 2 1), .prog .driverCtor,
                .prog (.query .getsockname 2), .consume .acceptorAsync 3, .prog .addrCtor] },
    { setup := [.udpCtor], steps := [.prog .acceptorCtor, .drive demoDriver, .drive demoDriver2] } ]

def demoOracle (faults : List (Nat × Errno)) : Oracle := fun i => (faults.find? (·.1 == i)).map (·.2)

example : ∀ r ∈ demoHistory, r.ok false = true := by decide

/-- six faults: `getsockopt` of the buffered constructor (closes the consumed socket), `recv` inside `Step`
(disconnect handler), the second `fcntl` of the accepted socket (closed again, exception), `send` inside `Step`
(send future), the second `send` of a partial write, the second `socket` of `Driver()` (first pipe socket closed):
the trace (17 observations) is accepted; the tags name the channels, newest first -/
example : (match specRun {} {} (modelTrace (demoOracle [(5, 9), (8, 104), (13, 9), (15, 32), (19, 104), (22, 24)]) {} demoHistory) with
    | .ok s => s.tags
    | .error e => [e]) =
    ["chan.exn", "fault.socket", "chan.exn", "fault.send", "chan.future", "fault.send", "chan.exn", "fault.fcntl",
     "chan.disconnect", "fault.recv", "chan.exn", "fault.getsockopt"] := by decide +kernel

example : ((modelTrace (demoOracle [(1, 98), (2, -3)]) {} demoHistory).take 2) =
    [.setup [] [0, 1, 2],
     .step { kind := .ctor, items := [.call .socket (.ok (some 3)), .call .bind (.fail 98), .call .getnameinfo (.fail (-3)), .close 3],
             evs := [], outcome := .exn .address (-3) }] := by decide +kernel

/-- the hypothesis about the scenario flag is needed: a readable acceptor whose `accept` fails inside `Step`
(the library drops the failure on purpose) is only accepted in a scenario flagged `discards` ... -/
example : let h : List Round := [{ steps := [.drive { pipeFrom := 0, pipeTo := 1, socks := [{ fd := 2, kind := .acc, rx := 1 }] }] }]
    (match specRun { discards := false } {} (modelTrace (demoOracle [(1, 24)]) {} h) with | .ok _ => "" | .error e => e)
      = " faults []: unexpected failing call accept inside Step" ∧
    (match specRun { discards := true } {} (modelTrace (demoOracle [(1, 24)]) {} h) with | .ok s => s.tags | .error e => [e])
      = ["chan.discard", "fault.accept"] := by decide +kernel

/-- ... and in such a scenario a failing `recvfrom` of the signalling pipe (after `Stop`) would be an exception
out of `Step`, which the predicate does not expect there -/
example : let h : List Round := [{ steps := [.drive { pipeFrom := 0, pipeTo := 1, bumps := 1 }] }]
    (match specRun { discards := true } {} (modelTrace (demoOracle [(1, 12)]) {} h) with | .ok _ => "" | .error e => e)
      = " faults []: recvfrom failed inside Step (UDP/acceptor): Step ended with [exn, system, 12]" := by decide +kernel

/-- the predicate is not vacuous: a descriptor left open by a throwing constructor is a leak ... -/
example : (match specRun {} {} [.setup [] [],
      .step { kind := .ctor, items := [.call .socket (.ok (some 0)), .call .bind (.fail 98)], outcome := .exn .system 98 }] with | .ok _ => "" | .error e => e) =
    " faults []: descriptor fd0 opened by the failing call is still open when it returns ([exn, system, 98]): leak" := by
  decide +kernel

/-- ... a failed call answered by a normal return is a bogus success, a wrong code is not the code of a failed
call, a second close is flagged -/
example : (match specRun {} {} [.setup [] [3], .step { kind := .op, items := [.call .getsockopt (.fail 9)], outcome := .ok }] with | .ok _ => "" | .error e => e) =
    " faults []: getsockopt failed but the call returned normally (bogus success)" := by decide +kernel
example : (match specRun {} {} [.setup [] [3], .step { kind := .op, items := [.call .getsockopt (.fail 9)], outcome := .exn .system 22 }] with | .ok _ => "" | .error e => e) =
    " faults []: getsockopt failed but the exception is [exn, system, 22]: not the code of a failed call" := by decide +kernel
example : (match specRun {} {} [.setup [] [3], .teardown [.close 3, .close 3] (some (0, 0))] with | .ok _ => "" | .error e => e) =
    " faults []: close of fd3, which is not an open descriptor of the library (closed twice or foreign)" := by decide +kernel

end SockModel.Fd.Spec
