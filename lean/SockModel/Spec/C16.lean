import SockModel.Spec.C07
/-!
# Spec.C16 - "signals interrupting a wait are invisible" as an executable predicate over typed observations,
and the proof that the model satisfies it for every history

* **blocking socket operations** (harness `sockops`, driver mode `C16`): the predicate is `Spec.C07.specStepM`
  with the mode flag `c16` - an operation that met a signal (`EINTR` result of a `poll`) keeps its timeout
  semantics (`specTimeouts`, the clauses of `Spec/C07.lean`), and a signal alone never makes the call fail
  (`sigClause`: an exception needs a failed system call).  `model_satisfies_spec` is the instance of
  `Spec.C07.model_satisfies_specM`.
* **`Driver::Step` under injected `EINTR`** (harness `todos` without ToDos, driver mode `C16step`): `StepObs` =
  the timeout, the polls of the signalling pipe with their results, the virtual clock at entry and exit,
  and a `throw` / `crash` / `hang` line if there was one; `specStepE`.
-/
namespace SockModel.Spec.C16
open SockModel SockModel.SendLoop SockModel.Deadline
open SockModel.Spec.C01 (SysObs Obs)
open SockModel.Spec.C07 (Mode SpecSt specStepM specRunM specTimeouts)

/-- the mode flags of `./check C16` on the socket operations (the driver passes the same flags to `specStepM`) -/
def c16 : Mode := { c07 := false, c16 := true }
def specStep : SpecSt → Obs → Except String SpecSt := specStepM c16
def specRun : SpecSt → List Obs → Except String SpecSt := specRunM c16

/-- the predicate accepts every trace of the model: every history, every number and timing of signal
deliveries (`PollAns.eintr d` anywhere in the scripts) -/
theorem model_satisfies_spec (history : List C01.Op) (hok : C07.histOk history = true) :
    ∃ s, specRun () (C01.modelTrace {} history) = .ok s :=
  C07.model_satisfies_specM c16 history hok {}

/-! ## Driver::Step under injected EINTR -/

/-- what was seen of one `Step(T)` of a driver without ToDos -/
structure StepObs where
  T : Int
  /-- a `crash` / `hang` / `throw` line, as printed -/
  failed : Option String := none
  /-- the polls of the step: timeout argument and result -/
  polls : List (Int × PollAns) := []
  /-- virtual clock (ns) at entry / exit (`none`: line missing or not a numeral) -/
  begin : Option Int := none
  fin : Option Int := none
  deriving Repr, DecidableEq

/-- the wait ended in a time-out: its last poll returned 0 (or its event lay beyond the timeout) -/
def effTimeout (p : Int × PollAns) : Bool :=
  match p.2 with
  | .timedOut => true
  | .ready d => decide (p.1 ≥ 0 ∧ (d : Int) > p.1)
  | .eintr d => decide (p.1 ≥ 0 ∧ (d : Int) > p.1)
  | .fail _ => false

def lastTimedOut (ps : List (Int × PollAns)) : Bool :=
  match ps.getLast? with
  | some p => effTimeout p
  | none => false

def isReady : PollAns → Bool
  | .ready _ => true
  | _ => false

/-- "it keeps waiting within its timeout semantics": the step does not fail; its polls obey `specTimeouts`
(`Step` returns nothing, so 'nothing' = the wait timed out); and with `T > 0` and no event it returns no
earlier than `T` after it was entered -/
def specStepE (o : StepObs) : Option String :=
  match o.failed with
  | some f => some ("a signal made Step fail: " ++ f)
  | none =>
    match specTimeouts o.T (o.polls.map fun p => SysObs.poll p.1 p.2) (lastTimedOut o.polls) with
    | some m => some m
    | none =>
      match o.begin, o.fin with
      | some b, some e =>
        if o.T > 0 ∧ o.polls.all (fun p => !isReady p.2) ∧ e - b < o.T * nsPerMs then
          some s!"Step({o.T}) returned after {(e - b) / nsPerMs} ms although nothing happened (a signal cut the wait short)"
        else none
      | _, _ => some "missing begin/end"

def specRunE : List StepObs → Except String Unit
  | [] => .ok ()
  | o :: os => match specStepE o with | some m => .error m | none => specRunE os


/-! ## Driver::Step under injected EINTR: the model satisfies the predicate

A `Step(T)` of a driver without ToDos is `StepSockets` = one `Wait(pfds, T)`: the model is `wait T` of
`Model/SendLoop.lean` on an arbitrary script of poll answers (what `Drive/C01.lean` replays in mode C16step). -/

open SockModel.Spec.C07 (PTr pollPairs specPolls_pairs)

/-- the observations the MODEL produces for `Step(T)` on the scripted poll answers (`none`: the script ran
out inside the wait - the step has not returned) -/
def modelStepObs (T : Int) (polls : List PollAns) : Option StepObs :=
  let p := wait T { polls := polls }
  match p.1 with
  | .exn .exhausted => none
  | .exn e => some { T := T, failed := some (C01.thrownOf e).text, polls := (pollArgs p.2).zip polls,
                     begin := some 0, fin := some p.2.now }
  | .ok _ => some { T := T, failed := none, polls := (pollArgs p.2).zip polls, begin := some 0, fin := some p.2.now }

theorem PTr.single {t : Int} {os os1 : Os} {a a' : PollAns} (hp : pollOnce t os = some (a', os1))
    (hpolls : os.polls = a :: os1.polls) : PTr os os1 [(t, a)] :=
  ⟨by simp [hpolls], by simp [pollOnce_pollArgs hp]⟩

/-- the effective answer of a `poll` against the scripted one -/
theorem pollOnce_eff {t : Int} {os os' : Os} {a' : PollAns} (h : pollOnce t os = some (a', os')) :
    ∃ a, os.polls = a :: os'.polls ∧ (effTimeout (t, a) = true → a' = .timedOut) ∧
      (∀ d, a' = .ready d → isReady a = true) := by
  obtain ⟨a, rest, hp, rfl, rfl⟩ := pollOnce_some h
  refine ⟨a, hp, ?_⟩
  cases a with
  | ready d =>
    simp only [effTimeout, pollSees, decide_eq_true_eq]
    exact ⟨fun hc => by rw [if_pos hc], fun _ _ => rfl⟩
  | eintr d =>
    simp only [effTimeout, pollSees, decide_eq_true_eq]
    exact ⟨fun hc => by rw [if_pos hc], fun d' h => by split at h <;> cases h⟩
  | timedOut => exact ⟨fun _ => rfl, nofun⟩
  | fail c => exact ⟨nofun, nofun⟩

theorem lastTimedOut_cons (p : Int × PollAns) (ps : List (Int × PollAns)) :
    lastTimedOut (p :: ps) = if ps = [] then effTimeout p else lastTimedOut ps := by
  cases ps with
  | nil => simp [lastTimedOut]
  | cons q qs => simp [lastTimedOut, List.getLast?_cons_cons]

/-- what the polls of a wait tell about its result: it ended in a time-out only if it reports one, and it
reports readiness only if some poll was answered with readiness -/
def LastOk (r : Res Bool) (ps : List (Int × PollAns)) : Prop :=
  (lastTimedOut ps = true → r = .ok false) ∧ (r = .ok true → ∃ p ∈ ps, isReady p.2 = true)

theorem LastOk.single_stop {t : Int} {a : PollAns} {r : Res Bool} (h1 : effTimeout (t, a) = true → r = .ok false)
    (h2 : r = .ok true → isReady a = true) : LastOk r [(t, a)] :=
  ⟨by rw [lastTimedOut_cons]; simpa using h1, fun h => ⟨(t, a), by simp, h2 h⟩⟩

theorem LastOk.cons_eintr {t : Int} {a : PollAns} {r : Res Bool} {ps : List (Int × PollAns)}
    (h1 : effTimeout (t, a) = false) (h : LastOk r ps) : LastOk r ((t, a) :: ps) := by
  refine ⟨?_, fun hr => ?_⟩
  · rw [lastTimedOut_cons]
    split
    · rw [h1]; intro h; cases h
    · exact h.1
  · obtain ⟨p, hp, hr'⟩ := h.2 hr
    exact ⟨p, List.mem_cons_of_mem _ hp, hr'⟩

theorem _root_.SockModel.SendLoop.Waited.last {os os' : Os} {r : Res Bool} (h : Waited os r os') : ∃ ps, PTr os os' ps ∧ LastOk r ps := by
  induction h with
  | exhausted os => exact ⟨[], PTr.refl _, ⟨fun h => by simp [lastTimedOut] at h, nofun⟩⟩
  | ready hp =>
    obtain ⟨a, hpolls, heff, hrdy⟩ := pollOnce_eff hp
    exact ⟨_, PTr.single hp hpolls, LastOk.single_stop (fun h => by cases heff h) (fun _ => hrdy _ rfl)⟩
  | timedOut hp =>
    obtain ⟨a, hpolls, _⟩ := pollOnce_eff hp
    exact ⟨_, PTr.single hp hpolls, LastOk.single_stop (fun _ => rfl) nofun⟩
  | fail hp =>
    obtain ⟨a, hpolls, heff, _⟩ := pollOnce_eff hp
    exact ⟨_, PTr.single hp hpolls, LastOk.single_stop (fun h => by cases heff h) nofun⟩
  | @eintr t _ _ _ _ _ hp _ ih =>
    obtain ⟨a, hpolls, heff, _⟩ := pollOnce_eff hp
    obtain ⟨ps, h2, h3⟩ := ih
    refine ⟨(t, a) :: ps, (PTr.single hp hpolls).trans h2, LastOk.cons_eintr ?_ h3⟩
    cases he : effTimeout (t, a) with
    | false => rfl
    | true => cases heff he

theorem wait_last (T : Int) (os : Os) : ∃ ps, PTr os (wait T os).2 ps ∧ LastOk (wait T os).1 ps :=
  (wait_waited T os).last

/-- one iteration of the limited wait on a script whose next answer is known and within the remaining budget `k` -/
theorem waitLimited_ready {dl k : Int} {fuel : Nat} {os : Os} {d : Nat} {rest : List PollAns}
    (hp : os.polls = .ready d :: rest) (hk : dl - os.now = k * nsPerMs) (hk0 : 0 ≤ k) (hkm : k ≤ intMax) (hd : (d : Int) ≤ k) :
    waitLimited dl (fuel + 1) os =
      (.ok true, { os with polls := rest, calls := .poll k :: os.calls, now := os.now + d * nsPerMs }) := by
  rw [waitLimited, C07.remaining_eq hk hk0, toMsec_small hk0 hkm, pollOnce, hp]
  simp only [if_neg (show ¬ (k ≥ 0 ∧ (d : Int) > k) from fun h => absurd hd (Int.not_le.mpr h.2))]

theorem waitLimited_eintr {dl k : Int} {fuel : Nat} {os : Os} {d : Nat} {rest : List PollAns}
    (hp : os.polls = .eintr d :: rest) (hk : dl - os.now = k * nsPerMs) (hk0 : 0 ≤ k) (hkm : k ≤ intMax) (hd : (d : Int) ≤ k) :
    waitLimited dl (fuel + 1) os =
      waitLimited dl fuel { os with polls := rest, calls := .poll k :: os.calls, now := os.now + d * nsPerMs } := by
  rw [waitLimited, C07.remaining_eq hk hk0, toMsec_small hk0 hkm, pollOnce, hp]
  simp only [if_neg (show ¬ (k ≥ 0 ∧ (d : Int) > k) from fun h => absurd hd (Int.not_le.mpr h.2))]

theorem zip_fst_snd {α β : Type} (ps : List (α × β)) (rest : List β) :
    (ps.map (·.1)).zip (ps.map (·.2) ++ rest) = ps := by
  induction ps with
  | nil => simp
  | cons p ps ih => simp [ih]

theorem pollPairs_map (ps : List (Int × PollAns)) : pollPairs (ps.map fun p => SysObs.poll p.1 p.2) = ps := by
  induction ps with
  | nil => rfl
  | cons p ps ih => simp [pollPairs, ih]

/-- **The clauses `./check C16` evaluates on a `Driver::Step` under injected signals are a theorem of the
model**: for every timeout in the documented domain and every script of poll answers without a genuine
failure - any number and timing of signal deliveries, readiness after any delay or never - the step does not
fail, its polls keep the timeout semantics (`specTimeouts`), and with `T > 0` and no event it returns no
earlier than `T` after it was entered (the model: exactly then). -/
theorem step_model_satisfies_spec (T : Int) (polls : List PollAns) (hT : T ≤ intMax)
    (hk : T < 0 → ∀ a ∈ polls, a ≠ PollAns.timedOut) (hnf : ∀ a ∈ polls, ∀ e, a ≠ PollAns.fail e)
    (o : StepObs) (h : modelStepObs T polls = some o) : specStepE o = none := by
  -- the result of the wait: a value (signals alone never make it fail)
  have hres : ∀ e, (wait T { polls := polls }).1 = .exn e → e = .exhausted := by
    intro e he
    obtain ⟨l, _, _, hex⟩ := C01.wait_run C01.tcpRecvObs T { polls := polls }
    have hc := hex e he
    cases e with
    | exhausted => rfl
    | logic => exact hc.not_logic.elim
    | closed => exact hc.not_closed.elim
    | system c => exact absurd he ((wait_waited T { polls := polls }).no_fail hnf c)
  obtain ⟨ps, hptr, hlast⟩ := wait_last T { polls := polls }
  obtain ⟨e', ⟨ps', hptr', hspec⟩, hf, ht⟩ := C07.waitop_bud T { polls := polls } _ hT hk rfl rfl
  have := hptr'.unique hptr
  subst this
  have hzip : (pollArgs (wait T { polls := polls }).2).zip polls = ps' := by
    have h1 : polls = ps'.map (·.2) ++ (wait T { polls := polls }).2.polls := hptr.1
    have h2 : pollArgs (wait T { polls := polls }).2 = ps'.map (·.1) := by
      have := hptr.2; simpa [pollArgs] using this
    rw [h2]
    conv => lhs; rw [h1]
    exact zip_fst_snd _ _
  unfold modelStepObs at h
  simp only [hzip] at h
  cases hr : (wait T { polls := polls }).1 with
  | exn e =>
    have := hres e hr
    subst this
    rw [hr] at h
    cases h
  | ok b =>
    rw [hr] at h
    simp only [Option.some.injEq] at h
    subst h
    have htm : specTimeouts T (ps'.map fun p => SysObs.poll p.1 p.2) (lastTimedOut ps') = none := by
      unfold specTimeouts
      rw [specPolls_pairs, pollPairs_map, hspec]
      cases hl : lastTimedOut ps' with
      | false => exact hf
      | true => exact ht (hlast.1 hl)
    simp only [specStepE, htm]
    rw [if_neg]
    intro ⟨hpos, hall, hlt⟩
    -- no event: the wait reported a time-out, and that comes exactly at the deadline
    have hb' : b = false := by
      cases b with
      | false => rfl
      | true =>
        obtain ⟨p, hp, hrd⟩ := hlast.2 hr
        have := List.all_eq_true.mp hall p hp
        simp [hrd] at this
    subst hb'
    obtain ⟨_, _, _, _, _, _, _, hlim, _⟩ := wait_spec (r := (wait T { polls := polls }).1)
      (os' := (wait T { polls := polls }).2) rfl (by unfold intMax; omega) hT
    rw [(hlim hpos).2 hr] at hlt
    simp at hlt



example : (modelStepObs 17 [.eintr 2, .eintr 5, .eintr 1, .timedOut]).map (·.polls)
    = some [(17, .eintr 2), (15, .eintr 5), (10, .eintr 1), (9, .timedOut)] := by decide
example : ((modelStepObs 17 [.eintr 2, .eintr 5, .eintr 1, .timedOut]).map specStepE) = some none := by decide
example : ((modelStepObs (-1) [.eintr 2, .eintr 5, .ready 3]).map specStepE) = some none := by decide
/-- a step that returns as soon as a signal arrives (the seeded change C16_1_agentE) is rejected -/
example : (specStepE { T := 1, polls := [(1, .eintr 0)], begin := some 1000000000, fin := some 1000000000 }).isSome = true := by
  decide
/-- a step that throws because of a signal (finding F2) is rejected -/
example : (specStepE { T := -1, failed := some "throw x", polls := [(-1, .eintr 0)], begin := some 0, fin := some 0 }).isSome
    = true := by decide
/-- a retry with the original timeout is rejected -/
example : (specStepE { T := 5, polls := [(5, .eintr 2), (5, .timedOut)], begin := some 0, fin := some 7000000 }).isSome = true := by
  decide

end SockModel.Spec.C16
