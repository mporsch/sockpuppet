import SockModel.Model.LocksExec
/-!
# Spec.C04 - the run-time oracle of C04 / C05 / C08 as an executable predicate over typed
observations, and the proof that the model satisfies it for every history

`specStep` is what `./check C04`, `./check C05` and `./check C08` evaluate on the IMPLEMENTATION's
scheduler trace (`Drive/C04.lean` parses every `ev T<k> ...` / `outcome ...` / `crash ...` line into an
`Obs` and calls exactly these functions).  It mentions no model state: only which thread did what.
The predicate is the product of three monitors, one per property:

* `stepA` (C04): ownership of `stepMtx` according to the lock events alone (nobody acquires it while
  another thread holds it), handlers / tasks run on thread 0 (the thread executing Step/Run) while it
  holds `stepMtx`, never two at a time, and nothing of a socket / ToDo starts or is still running once
  its destructor / `Cancel` has returned on another thread;
* `stepB` (C05): the driver begins at most one step while a caller waits for `stepMtx` after its wake-up
  datagram;
* `stepC` (C08): `Run` begins at most one further step after a `Stop()` had returned, `Run` does not
  return without a `Stop()`, and an execution does not end inside a `Run` after a `Stop()`.

The outcomes `deadlock` / `stuck` / `crash` are failures in every mode.

The second half composes the lock model as it is (`Model/Locks.lean`, executable form `Locks.apply`)
with the little data the markers talk about (the handler / task in progress on the driver thread,
registered sockets, listed ToDos, recursive acquisitions of `stepMtx`) into `MSt`, defines the
observations a history of model operations produces (`modelStep`, `modelTrace`: which thread moved,
which marker) and proves `model_satisfies_spec`: the predicate accepts every trace of the model, for
every history of any length, any number of user threads and any programs, in every mode.
-/
namespace SockModel.Locks.Spec
open SockModel.Locks

abbrev Name := String

/-- what the driver thread invokes: a socket handler or a ToDo task -/
inductive Kind where
  | handler | task
  deriving DecidableEq, Repr

def Kind.str : Kind → String
  | .handler => "handler"
  | .task => "task"

/-- the management action whose return an `end` marker reports -/
inductive Act where
  | attach | close | cancel | shift | todo | other
  deriving DecidableEq, Repr

/-- one scheduler event of one thread (thread 0 = the thread executing Step/Run) -/
inductive Ev where
  | lockStep                       -- blocking lock of stepMtx granted
  | tryStepOk                      -- try_lock of stepMtx succeeded
  | unlockStep
  | bump                           -- datagram sent to the signalling pipe
  | enter (k : Kind) (n : Name)    -- handler of socket `n` / task of ToDo `n` starts
  | exit                           -- ... returns
  | endAct (n : Name) (a : Act)    -- management call `a` on `n` has returned
  | beginStop (plain : Bool)       -- Stop() begins (flag store); `plain` = not from a task / signal handler
  | endStop                        -- Stop() has returned
  | runEnter | runExit
  | other                          -- any other event (pauseMtx, poll, try_lock failed, yield, ...)
  deriving DecidableEq, Repr

inductive Obs where
  | ev (t : Nat) (e : Ev)
  | done                           -- every thread has finished
  | deadlock (what : String)       -- all threads parked, none enabled
  | stuck (what : String)
  | crash (what : String)
  deriving DecidableEq, Repr

structure Mode where
  c04 : Bool
  c05 : Bool
  c08 : Bool

/-! ## C04: exclusion and quiescence -/

structure ASt where
  owner : Option Nat := none            -- who holds stepMtx according to the lock events alone
  count : Nat := 0
  inHandler : Option (Kind × Name) := none
  closed : List Name := []              -- sockets whose destructor returned on a non-driver thread
  cancelled : List Name := []           -- ToDos whose Cancel returned on a non-driver thread
  deriving Repr

def enterCheck (s : ASt) (t : Nat) (k : Kind) (n : Name) : Option String :=
  if t ≠ 0 then some s!"{k.str} of {n} ran on thread T{t}, not on the thread executing Step/Run"
  else if s.owner ≠ some 0 then some s!"{k.str} of {n} invoked while the driver thread does not hold stepMtx"
  else match s.inHandler with
    | some (k', n') => some s!"{k.str} of {n} started while {k'.str} {n'} is still running"
    | none =>
      if k = .handler ∧ s.closed.contains n = true then
        some s!"handler of socket {n} started after its destructor had returned on another thread"
      else if k = .task ∧ s.cancelled.contains n = true then
        some s!"task of {n} started after Cancel() had returned on another thread"
      else none

def stepA (c04 : Bool) (s : ASt) : Obs → Except String ASt
  | .ev t .lockStep | .ev t .tryStepOk =>
    match s.owner with
    | some o =>
      if o ≠ t ∧ c04 = true then .error s!"thread T{t} acquired stepMtx while T{o} holds it"
      else .ok { s with count := s.count + 1 }
    | none => .ok { s with owner := some t, count := 1 }
  | .ev t .unlockStep =>
    .ok (if s.owner = some t then
           (if s.count ≤ 1 then { s with owner := none, count := 0 } else { s with count := s.count - 1 })
         else s)
  | .ev t (.enter k n) =>
    match (if c04 = true then enterCheck s t k n else none) with
    | some msg => .error msg
    | none => .ok { s with inHandler := some (k, n) }
  | .ev _ .exit => .ok { s with inHandler := none }
  | .ev t (.endAct n .close) =>
    if t ≠ 0 then
      if c04 = true ∧ s.inHandler = some (.handler, n) then
        .error s!"destructor of socket {n} returned on another thread while its handler is still running"
      else .ok { s with closed := n :: s.closed }
    else .ok s
  | .ev t (.endAct n .cancel) =>
    if t ≠ 0 then
      if c04 = true ∧ s.inHandler = some (.task, n) then
        .error s!"Cancel() of {n} returned on another thread while its task is still running"
      else .ok { s with cancelled := n :: s.cancelled }
    else .ok s
  | .ev _ (.endAct n .shift) | .ev _ (.endAct n .todo) =>
    .ok { s with cancelled := s.cancelled.filter (· ≠ n) }
  | _ => .ok s

/-! ## C05: bounded hand-over -/

structure BSt where
  stopping : List Nat := []         -- user threads between the flag store of their Stop() and its datagram
  bumped : List (Nat × Nat) := []   -- (user, driver step-begins since its wake-up datagram)
  deriving Repr

def stepB (c05 : Bool) (s : BSt) : Obs → Except String BSt
  | .ev t .lockStep =>
    if t = 0 then
      -- the driver begins a step
      let b := s.bumped.map (fun p => (p.1, p.2 + 1))
      match (if c05 = true then b.find? (fun p => p.2 > 1) else none) with
      | some (u, n) => .error s!"driver began {n} steps while T{u} waits for stepMtx after its wake-up datagram"
      | none => .ok { s with bumped := b }
    else .ok { s with bumped := s.bumped.filter (fun p => p.1 ≠ t) }
  | .ev t .tryStepOk =>
    if t ≠ 0 then .ok { s with bumped := s.bumped.filter (fun p => p.1 ≠ t) } else .ok s
  | .ev t .bump =>
    if t ≠ 0 then
      if s.stopping.contains t = true then .ok { s with stopping := s.stopping.filter (· ≠ t) }
      else .ok { s with bumped := s.bumped ++ [(t, 0)] }
    else .ok s
  | .ev t (.beginStop plain) =>
    if t ≠ 0 ∧ plain = true then .ok { s with stopping := t :: s.stopping } else .ok s
  | _ => .ok s

/-! ## C08: Stop ends Run -/

structure CSt where
  stopDone : Bool := false          -- a Stop() that obliges the Run in progress has returned
  stepsSinceStop : Nat := 0
  stopBegun : Bool := false
  pendingStops : List Nat := []     -- threads whose Stop() stored the flag and no Run has returned since
  runExited : Bool := false
  inRun : Bool := false
  deriving Repr

def stepC (c08 : Bool) (s : CSt) : Obs → Except String CSt
  | .ev t .lockStep =>
    if t = 0 then
      let k := if s.stopDone = true ∧ s.inRun = true then s.stepsSinceStop + 1 else s.stepsSinceStop
      if c08 = true ∧ k > 1 then .error s!"Run began {k} further steps after a Stop() had returned"
      else .ok { s with stepsSinceStop := k }
    else .ok s
  | .ev t .endStop =>
    -- only a Stop that no Run has consumed yet obliges the Run in progress
    if s.pendingStops.contains t = true then .ok { s with stopDone := true, stepsSinceStop := 0 } else .ok s
  | .ev t (.beginStop _) => .ok { s with stopBegun := true, pendingStops := t :: s.pendingStops }
  | .ev _ .runEnter => .ok { s with inRun := true, stepsSinceStop := 0 }
  | .ev _ .runExit =>
    if c08 = true ∧ s.stopBegun = false then .error "Run() returned although no Stop() was ever called"
    else .ok { s with runExited := true, stopDone := false, stopBegun := false, stepsSinceStop := 0,
                      pendingStops := [], inRun := false }
  | .done =>
    if c08 = true ∧ s.stopBegun = true ∧ s.runExited = false ∧ s.inRun = true then
      .error "Run() did not return after Stop()"
    else .ok s
  | _ => .ok s

/-! ## the predicate -/

structure SpecSt where
  a : ASt := {}
  b : BSt := {}
  c : CSt := {}
  deriving Repr

/-- C04 / C05 / C08 on one observation; an error message or the updated book-keeping -/
def specStep (m : Mode) (s : SpecSt) (o : Obs) : Except String SpecSt :=
  match o with
  | .deadlock x => .error ("deadlock / lost wake-up: no thread can make progress: " ++ x)
  | .stuck x => .error ("a thread is stuck outside the scheduler: " ++ x)
  | .crash x => .error ("crash: " ++ x)
  | o =>
    match stepA m.c04 s.a o with
    | .error e => .error e
    | .ok a =>
      match stepB m.c05 s.b o with
      | .error e => .error e
      | .ok b =>
        match stepC m.c08 s.c o with
        | .error e => .error e
        | .ok c => .ok ⟨a, b, c⟩

def specRun (m : Mode) (s : SpecSt) : List Obs → Except String SpecSt
  | [] => .ok s
  | o :: rest =>
    match specStep m s o with
    | .error e => .error e
    | .ok s' => specRun m s' rest

/-! ## the observations of the model

The lock model `Locks.St` / `Locks.apply` is used as it is.  What the markers talk about is added next to
it, not inside it: the handler / task in progress on the driver thread, the sockets registered with the
driver, the ToDos listed, and the number of recursive acquisitions of `stepMtx` by its owner (management
calls issued from a handler or task, nested guards: "their `try_lock` succeeds and changes nothing" in the
LTS).  Thread ids of the observations: 0 = driver thread, `t + 1` = user thread `t` of the LTS. -/

structure MSt where
  l : St := {}
  depth : Nat := 0                        -- recursive acquisitions of stepMtx by its owner
  run : Option (Kind × Name) := none      -- handler / task in progress on the driver thread
  socks : List Name := []                 -- sockets registered with the driver
  used : List Name := []                  -- socket names ever used (a name is never re-used)
  todos : List Name := []                 -- ToDos in the driver's list

/-- one operation of a history -/
inductive MOp where
  /-- a transition of the lock LTS (any label, any thread); ignored when it is not enabled -/
  | tr (l : L)
  /-- user thread `t` leaves the critical section of management call `a` on `n` (`uUnlock t`; the call
  mutated `sockets` / `todos` inside it) and the call returns -/
  | ret (t : Tid) (n : Name) (a : Act)
  /-- the owner of `stepMtx` (thread id of the observations) acquires it once more / gives that up -/
  | retry (tid : Nat)
  | reunlock (tid : Nat)
  /-- the driver thread invokes the handler of registered socket `n` / the task of listed ToDo `n`
  (only inside a step: `inStep` / `woke`, and only when none is in progress) -/
  | enter (k : Kind) (n : Name)
  /-- ... and it returns -/
  | exit
  /-- a management call issued from the handler / task in progress returns (driver thread) -/
  | dret (n : Name) (a : Act)
  /-- the execution is over (only when the driver thread is outside Run / Step) -/
  | done

def ownerObs : Owner → Option Nat
  | .none => none
  | .drv => some 0
  | .usr t => some (t + 1)

/-- a transition of the driver thread's own program (`dStop` is not: a Stop from a task, a handler or a
signal handler happens at any point of it) -/
def isDrv : L → Bool
  | .dRunEnter | .dRunExit | .dRunGo | .dStepEnter | .dLockStep | .dToPoll | .dPollPipe | .dPollOther
  | .dUnlockStep | .dLockPause | .dUnlockPause => true
  | _ => false

def isUnlock : L → Bool
  | .dUnlockStep | .uUnlock _ => true
  | _ => false

/-- the driver thread is inside a step and not blocked in `poll`: tasks run in `inStep`, one handler in `woke` -/
def inRegion : DPc → Bool
  | .inStep _ | .woke _ => true
  | _ => false

/-- the events the scheduler records for a transition, with the markers the thread emits in the same
uninterrupted segment (`dStop` is atomic in the LTS: flag store, datagram and return) -/
def evOf : L → List Obs
  | .dRunEnter => [.ev 0 .runEnter]
  | .dRunExit => [.ev 0 .runExit]
  | .dRunGo => []
  | .dStepEnter => [.ev 0 .other]
  | .dLockStep => [.ev 0 .lockStep]
  | .dToPoll => [.ev 0 .other]
  | .dPollPipe => [.ev 0 .other]
  | .dPollOther => [.ev 0 .other]
  | .dUnlockStep => [.ev 0 .unlockStep]
  | .dLockPause => [.ev 0 .other]
  | .dUnlockPause => [.ev 0 .other]
  | .dStop => [.ev 0 (.beginStop false), .ev 0 .bump, .ev 0 .endStop]
  | .uTryOk t => [.ev (t + 1) .tryStepOk]
  | .uTryFail t => [.ev (t + 1) .other]
  | .uLockPause t => [.ev (t + 1) .other]
  | .uBump t => [.ev (t + 1) .bump]
  | .uLockStep t => [.ev (t + 1) .lockStep]
  | .uRelPause t => [.ev (t + 1) .other]
  | .uUnlock t => [.ev (t + 1) .unlockStep]
  | .uStopSet t => [.ev (t + 1) (.beginStop true)]
  | .uStopBump t => [.ev (t + 1) .bump, .ev (t + 1) .endStop]

/-- what a management call does to `sockets` / `todos` inside its critical section -/
def mutate (a : Act) (n : Name) (m : MSt) : MSt :=
  match a with
  | .attach => if m.used.contains n = true then m else { m with socks := n :: m.socks, used := n :: m.used }
  | .close => { m with socks := m.socks.filter (· ≠ n), used := n :: m.used }
  | .cancel => { m with todos := m.todos.filter (· ≠ n) }
  | .shift => { m with todos := n :: m.todos.filter (· ≠ n) }
  | .todo => { m with todos := n :: m.todos.filter (· ≠ n) }
  | .other => m

def listed (m : MSt) : Kind → Name → Bool
  | .handler, n => m.socks.contains n
  | .task, n => m.todos.contains n

def modelStep (m : MSt) : MOp → MSt × List Obs
  | .tr l =>
    -- the driver thread does not proceed while a handler / task is in progress; the last release of the
    -- recursive mutex is the LTS transition, the others are `reunlock`
    if (isDrv l = true ∧ m.run.isSome = true) ∨ (isUnlock l = true ∧ m.depth ≠ 0) then (m, [])
    else match apply m.l l with
      | some l' => ({ m with l := l' }, evOf l)
      | none => (m, [])
  | .ret t n a =>
    if m.depth ≠ 0 then (m, [])
    else match apply m.l (.uUnlock t) with
      | some l' => (mutate a n { m with l := l' }, [.ev (t + 1) .unlockStep, .ev (t + 1) (.endAct n a)])
      | none => (m, [])
  | .retry tid =>
    if ownerObs m.l.step = some tid then ({ m with depth := m.depth + 1 }, [.ev tid .tryStepOk]) else (m, [])
  | .reunlock tid =>
    if ownerObs m.l.step = some tid ∧ m.depth ≠ 0 then ({ m with depth := m.depth - 1 }, [.ev tid .unlockStep])
    else (m, [])
  | .enter k n =>
    if m.run.isNone = true ∧ inRegion m.l.d = true ∧ listed m k n = true then
      ({ m with run := some (k, n), todos := if k = .task then m.todos.filter (· ≠ n) else m.todos },
       [.ev 0 (.enter k n)])
    else (m, [])
  | .exit =>
    match m.run with
    | some _ => ({ m with run := none }, [.ev 0 .exit])
    | none => (m, [])
  | .dret n a => if m.run.isSome = true then (mutate a n m, [.ev 0 (.endAct n a)]) else (m, [])
  | .done => if m.l.d = .idle then (m, [.done]) else (m, [])

def modelRun (m : MSt) : List MOp → MSt
  | [] => m
  | op :: rest => modelRun (modelStep m op).1 rest

/-- the observations the MODEL produces for a history -/
def modelTrace (m : MSt) : List MOp → List Obs
  | [] => []
  | op :: rest => (modelStep m op).2 ++ modelTrace (modelStep m op).1 rest

/-! ## proof that the predicate accepts every trace of the model -/

/-- run one monitor over a list of observations -/
def runM {σ : Type} (step : σ → Obs → Except String σ) (s : σ) : List Obs → Except String σ
  | [] => .ok s
  | o :: rest =>
    match step s o with
    | .error e => .error e
    | .ok s' => runM step s' rest

theorem runM_append {σ : Type} (step : σ → Obs → Except String σ) (s s' : σ) (xs ys : List Obs)
    (h : runM step s xs = .ok s') : runM step s (xs ++ ys) = runM step s' ys := by
  induction xs generalizing s with
  | nil => simp only [runM] at h; cases h; rfl
  | cons o rest ih =>
    simp only [List.cons_append, runM] at h ⊢
    cases ho : step s o with
    | error e => rw [ho] at h; cases h
    | ok s1 => rw [ho] at h; simp only at h ⊢; exact ih s1 h

/-- the thread (id of the observations) of a label -/
def tidOf : L → Nat
  | .uTryOk t | .uTryFail t | .uLockPause t | .uBump t | .uLockStep t | .uRelPause t | .uUnlock t
  | .uStopSet t | .uStopBump t => t + 1
  | _ => 0

/-- a transition moves one thread (`dStop` is no step of the driver thread's program: the pc stays) -/
theorem apply_frame {s s' : St} {l : L} (h : apply s l = some s') :
    (isDrv l = false → s'.d = s.d) ∧ (tidOf l = 0 → s'.u = s.u) := by
  cases l with
  | dStop => cases Option.some.inj h; exact ⟨fun _ => rfl, fun _ => rfl⟩
  | dRunEnter | dRunExit | dRunGo | dStepEnter => cases (some_of_ite h).2; exact ⟨nofun, fun _ => rfl⟩
  | dLockStep | dToPoll | dPollPipe | dPollOther | dUnlockStep | dLockPause | dUnlockPause =>
    obtain ⟨r, _, rfl⟩ := apply_some h; exact ⟨nofun, fun _ => rfl⟩
  | uTryOk | uTryFail | uLockPause | uBump | uLockStep | uRelPause | uUnlock | uStopSet | uStopBump =>
    cases (some_of_ite h).2; exact ⟨fun _ => rfl, fun h => absurd h (Nat.succ_ne_zero _)⟩

/-- a transition takes the free `stepMtx`, gives it up (its thread owned it: `LInv`) or leaves it alone -/
theorem apply_stepMtx {s s' : St} {l : L} (inv : LInv s) (h : apply s l = some s') :
    (s.step = .none ∧ ownerObs s'.step = some (tidOf l) ∧
      (evOf l = [.ev (tidOf l) .lockStep] ∨ evOf l = [.ev (tidOf l) .tryStepOk])) ∨
    (isUnlock l = true ∧ ownerObs s.step = some (tidOf l) ∧ s'.step = .none ∧ evOf l = [.ev (tidOf l) .unlockStep]) ∨
    (isUnlock l = false ∧ s'.step = s.step ∧ ∀ c04 a, runM (stepA c04) a (evOf l) = .ok a) := by
  cases l with
  | dLockStep => obtain ⟨r, hg, rfl⟩ := apply_some h; exact .inl ⟨hg.2, rfl, .inl rfl⟩
  | uLockStep t => obtain ⟨hg, rfl⟩ := some_of_ite h; exact .inl ⟨hg.2, rfl, .inl rfl⟩
  | uTryOk t => obtain ⟨hg, rfl⟩ := some_of_ite h; exact .inl ⟨hg.2, rfl, .inr rfl⟩
  | dUnlockStep =>
    obtain ⟨r, hd, rfl⟩ := apply_some h
    exact .inr (.inl ⟨rfl, congrArg ownerObs (inv.stepD.mp (by rw [hd]; rfl)), rfl, rfl⟩)
  | uUnlock t =>
    obtain ⟨hu, rfl⟩ := some_of_ite h
    exact .inr (.inl ⟨rfl, congrArg ownerObs ((inv.stepU t).mp (by rw [hu]; rfl)), rfl, rfl⟩)
  | dStop => cases Option.some.inj h; exact .inr (.inr ⟨rfl, rfl, fun _ _ => rfl⟩)
  | dRunEnter | dRunExit | dRunGo | dStepEnter | uTryFail | uLockPause | uBump | uRelPause | uStopSet | uStopBump =>
    cases (some_of_ite h).2; exact .inr (.inr ⟨rfl, rfl, fun _ _ => rfl⟩)
  | dToPoll | dPollPipe | dPollOther | dLockPause | dUnlockPause =>
    obtain ⟨r, _, rfl⟩ := apply_some h; exact .inr (.inr ⟨rfl, rfl, fun _ _ => rfl⟩)

/-- one operation of a history in relational form: the state it leads to and what is observed; `skip` when
it is not enabled.  Only the guards the proofs use are kept (`exit` and `dret` have none), so the relation is
larger than `modelStep`: `modelStep_mstep` goes one way only. -/
inductive MStep (m : MSt) : MSt → List Obs → Prop where
  | skip : MStep m m []
  | tr {l : L} {l' : St} (hrun : m.run.isSome = true → isDrv l = false) (hdep : isUnlock l = true → m.depth = 0)
      (ha : apply m.l l = some l') : MStep m { m with l := l' } (evOf l)
  | ret {t : Tid} {n : Name} {a : Act} {l' : St} (hdep : m.depth = 0) (ha : apply m.l (.uUnlock t) = some l') :
      MStep m (mutate a n { m with l := l' }) [.ev (t + 1) .unlockStep, .ev (t + 1) (.endAct n a)]
  | retry {tid : Nat} (ho : ownerObs m.l.step = some tid) :
      MStep m { m with depth := m.depth + 1 } [.ev tid .tryStepOk]
  | reunlock {tid : Nat} (ho : ownerObs m.l.step = some tid) (hdep : m.depth ≠ 0) :
      MStep m { m with depth := m.depth - 1 } [.ev tid .unlockStep]
  | enter {k : Kind} {n : Name} (hrun : m.run = none) (hreg : inRegion m.l.d = true) (hl : listed m k n = true) :
      MStep m { m with run := some (k, n), todos := if k = .task then m.todos.filter (· ≠ n) else m.todos }
        [.ev 0 (.enter k n)]
  | exit : MStep m { m with run := none } [.ev 0 .exit]
  | dret {n : Name} {a : Act} : MStep m (mutate a n m) [.ev 0 (.endAct n a)]
  | done (hd : m.l.d = .idle) : MStep m m [.done]

theorem modelStep_mstep (m : MSt) (op : MOp) : MStep m (modelStep m op).1 (modelStep m op).2 := by
  cases op with
  | tr l =>
    simp only [modelStep]
    split
    · exact .skip
    · rename_i hg
      split
      · exact .tr (fun hr => Bool.eq_false_iff.mpr fun hd => hg (.inl ⟨hd, hr⟩))
          (fun hu => Decidable.of_not_not fun hd => hg (.inr ⟨hu, hd⟩)) ‹_›
      · exact .skip
  | ret t n a =>
    simp only [modelStep]
    split
    · exact .skip
    · split
      · exact .ret (Decidable.of_not_not ‹_›) ‹_›
      · exact .skip
  | retry tid => simp only [modelStep]; split; exact .retry ‹_›; exact .skip
  | reunlock tid => simp only [modelStep]; split; exact .reunlock (And.left ‹_›) (And.right ‹_›); exact .skip
  | enter k n =>
    simp only [modelStep]
    split
    · rename_i hg; exact .enter (Option.isNone_iff_eq_none.mp hg.1) hg.2.1 hg.2.2
    · exact .skip
  | exit => simp only [modelStep]; split; exact .exit; exact .skip
  | dret n a => simp only [modelStep]; split; exact .dret; exact .skip
  | done => simp only [modelStep]; split; exact .done ‹_›; exact .skip

def Obs.isFail : Obs → Bool
  | .deadlock _ | .stuck _ | .crash _ => true
  | _ => false

theorem noFail_of_all {obs : List Obs} (h : obs.all (fun o => !o.isFail) = true) : ∀ o ∈ obs, o.isFail = false :=
  fun o ho => by simpa using List.all_eq_true.mp h o ho

theorem MStep.noFail {m m' : MSt} {obs : List Obs} (hf : MStep m m' obs) : ∀ o ∈ obs, o.isFail = false := by
  cases hf with
  | @tr l => exact noFail_of_all (by cases l <;> rfl)
  | skip | ret | retry | reunlock | enter | exit | dret | done => exact noFail_of_all rfl

/-- invariant of the composed model -/
structure MInv (m : MSt) : Prop where
  reach : Reach m.l
  runReg : m.run.isSome = true → inRegion m.l.d = true
  depth0 : m.l.step = .none → m.depth = 0

theorem minv_init : MInv {} := ⟨Reach.init, (by intro h; cases h), (by intro _; rfl)⟩

theorem mutate_frame (a : Act) (n : Name) (m : MSt) :
    (mutate a n m).l = m.l ∧ (mutate a n m).depth = m.depth ∧ (mutate a n m).run = m.run := by
  cases a with
  | attach => simp only [mutate]; split <;> exact ⟨rfl, rfl, rfl⟩
  | _ => exact ⟨rfl, rfl, rfl⟩

theorem mutate_l (a : Act) (n : Name) (m : MSt) : (mutate a n m).l = m.l := (mutate_frame a n m).1

theorem region_owns {d : DPc} (h : inRegion d = true) : d.ownsStep = true := by
  cases d <;> simp [inRegion] at h <;> rfl

/-- while a user thread is in its critical section no handler / task is in progress (`quiescence`) -/
theorem MInv.crit_quiet {m : MSt} (h : MInv m) {t : Tid} (hc : m.l.u t = .crit) : m.run = none := by
  have hq := (inv_reach h.reach).crit_excl hc
  cases hr : m.run with
  | none => rfl
  | some x => rw [region_owns (h.runReg (by rw [hr]; rfl))] at hq; cases hq

theorem MInv.mutate {m : MSt} (h : MInv m) (a : Act) (n : Name) : MInv (mutate a n m) := by
  obtain ⟨h1, h2, h3⟩ := mutate_frame a n m
  exact ⟨h1 ▸ h.reach, by rw [h3, h1]; exact h.runReg, by rw [h1, h2]; exact h.depth0⟩

theorem MInv.tr {m : MSt} {l : L} {l' : St} (h : MInv m) (hrun : m.run.isSome = true → isDrv l = false)
    (hdep : isUnlock l = true → m.depth = 0) (ha : apply m.l l = some l') : MInv { m with l := l' } := by
  obtain ⟨b, tr⟩ := apply_sound ha
  refine ⟨Reach.step h.reach tr, fun hr => ?_, fun hs => ?_⟩
  · exact ((apply_frame ha).1 (hrun hr)).symm ▸ h.runReg hr
  · rcases apply_stepMtx (inv_reach h.reach) ha with ⟨_, h2, _⟩ | ⟨hul, _⟩ | ⟨_, h2, _⟩
    · rw [show _ = Owner.none from hs] at h2; cases h2
    · exact hdep hul
    · exact h.depth0 (h2 ▸ hs)

theorem MInv.step {m m' : MSt} {obs : List Obs} (h : MInv m) (hf : MStep m m' obs) : MInv m' := by
  cases hf with
  | skip | done => exact h
  | tr hrun hdep ha => exact h.tr hrun hdep ha
  | ret hdep ha => exact (h.tr (fun _ => rfl) (fun _ => hdep) ha).mutate _ _
  | retry ho => exact ⟨h.reach, h.runReg, fun hs => by rw [show _ = Owner.none from hs] at ho; cases ho⟩
  | reunlock ho => exact ⟨h.reach, h.runReg, fun hs => by rw [show _ = Owner.none from hs] at ho; cases ho⟩
  | enter _ hreg => exact ⟨h.reach, fun _ => hreg, h.depth0⟩
  | exit => exact ⟨h.reach, nofun, h.depth0⟩
  | dret => exact h.mutate _ _

/-! ### C04 -/

structure RelA (m : MSt) (s : ASt) : Prop where
  owner : s.owner = ownerObs m.l.step
  count : s.count = (if m.l.step = .none then 0 else m.depth + 1)
  hand : s.inHandler = m.run
  closed : ∀ n ∈ s.closed, n ∉ m.socks ∧ n ∈ m.used
  cancelled : ∀ n ∈ s.cancelled, n ∉ m.todos

theorem relA_init : RelA {} {} :=
  ⟨rfl, rfl, rfl, (by intro n h; cases h), (by intro n h; cases h)⟩

theorem ownerObs_none {o : Owner} : ownerObs o = none ↔ o = .none := by
  cases o <;> simp [ownerObs]

theorem mem_filter_ne {n x : Name} {l : List Name} : x ∈ l.filter (· ≠ n) ↔ x ∈ l ∧ x ≠ n := by
  simp [List.mem_filter]

/-- the data part of `RelA` after a management call returned on thread `tid` -/
theorem relA_mutate (c04 : Bool) {m : MSt} {s : ASt} (hr : RelA m s) (tid : Nat) (n : Name) (a : Act)
    (hq : tid ≠ 0 → m.run = none) :
    ∃ s', stepA c04 s (.ev tid (.endAct n a)) = .ok s' ∧ RelA (mutate a n m) s' := by
  have hh := hr.hand
  -- re-scheduling forgets a `Cancel`: the name is listed again and leaves `cancelled`
  have resched : RelA { m with todos := n :: m.todos.filter (· ≠ n) } { s with cancelled := s.cancelled.filter (· ≠ n) } := by
    refine ⟨hr.owner, hr.count, hr.hand, hr.closed, fun x hx hm => ?_⟩
    have hx' := mem_filter_ne.mp hx
    rcases List.mem_cons.mp hm with rfl | hm
    · exact hx'.2 rfl
    · exact hr.cancelled x hx'.1 (mem_filter_ne.mp hm).1
  cases a with
  | attach =>
    refine ⟨s, rfl, ?_⟩
    simp only [mutate]
    split
    · exact hr
    · rename_i hc
      refine ⟨hr.owner, hr.count, hr.hand, fun x hx => ?_, hr.cancelled⟩
      have := hr.closed x hx
      refine ⟨fun hm => ?_, List.mem_cons_of_mem _ this.2⟩
      rcases List.mem_cons.mp hm with rfl | hm
      · exact hc (by simpa using this.2)
      · exact this.1 hm
  | close =>
    have old : ∀ x ∈ s.closed, x ∉ m.socks.filter (· ≠ n) ∧ x ∈ n :: m.used := fun x hx =>
      ⟨fun hm => (hr.closed x hx).1 (mem_filter_ne.mp hm).1, List.mem_cons_of_mem _ (hr.closed x hx).2⟩
    by_cases ht : tid = 0
    · exact ⟨s, by simp [stepA, ht], hr.owner, hr.count, hr.hand, old, hr.cancelled⟩
    · refine ⟨{ s with closed := n :: s.closed }, by simp [stepA, ht, hh, hq ht], hr.owner, hr.count, hr.hand,
        fun x hx => ?_, hr.cancelled⟩
      rcases List.mem_cons.mp hx with rfl | hx
      · exact ⟨fun hm => (mem_filter_ne.mp hm).2 rfl, List.mem_cons_self⟩
      · exact old x hx
  | cancel =>
    have old : ∀ x ∈ s.cancelled, x ∉ m.todos.filter (· ≠ n) := fun x hx hm =>
      hr.cancelled x hx (mem_filter_ne.mp hm).1
    by_cases ht : tid = 0
    · exact ⟨s, by simp [stepA, ht], hr.owner, hr.count, hr.hand, hr.closed, old⟩
    · refine ⟨{ s with cancelled := n :: s.cancelled }, by simp [stepA, ht, hh, hq ht], hr.owner, hr.count, hr.hand,
        hr.closed, fun x hx => ?_⟩
      rcases List.mem_cons.mp hx with rfl | hx
      · exact fun hm => (mem_filter_ne.mp hm).2 rfl
      · exact old x hx
  | shift => exact ⟨_, rfl, resched⟩
  | todo => exact ⟨_, rfl, resched⟩
  | other => exact ⟨s, rfl, hr⟩

theorem RelA.relock {m : MSt} {s : ASt} (hr : RelA m s) {l' : St} {d' c : Nat} {o : Option Nat}
    (ho : o = ownerObs l'.step) (hc : c = if l'.step = .none then 0 else d' + 1) :
    RelA { m with l := l', depth := d' } { s with owner := o, count := c } :=
  ⟨ho, hc, hr.hand, hr.closed, hr.cancelled⟩

theorem RelA.owned {m : MSt} {s : ASt} {tid : Nat} (hr : RelA m s) (ho : ownerObs m.l.step = some tid) :
    m.l.step ≠ .none ∧ s.owner = some tid ∧ s.count = m.depth + 1 := by
  have hne : m.l.step ≠ .none := by intro h; rw [h] at ho; cases ho
  exact ⟨hne, hr.owner.trans ho, hr.count.trans (if_neg hne)⟩

theorem stepA_tr (c04 : Bool) {m : MSt} {s : ASt} {l : L} {l' : St} (hi : MInv m) (hr : RelA m s)
    (hdep : isUnlock l = true → m.depth = 0) (ha : apply m.l l = some l') :
    ∃ s', runM (stepA c04) s (evOf l) = .ok s' ∧ RelA { m with l := l' } s' := by
  rcases apply_stepMtx (inv_reach hi.reach) ha with ⟨h1, h2, he⟩ | ⟨hul, h1, h2, he⟩ | ⟨_, hs, he⟩
  · have hown : s.owner = none := by rw [hr.owner, h1]; rfl
    have hd : m.depth = 0 := hi.depth0 h1
    have hne : l'.step ≠ .none := by intro h; rw [h] at h2; cases h2
    refine ⟨{ s with owner := some (tidOf l), count := 1 }, ?_, hr.relock h2.symm (by simp [hne, hd])⟩
    rcases he with he | he <;> rw [he] <;> simp [runM, stepA, hown]
  · obtain ⟨_, hown, hcnt⟩ := hr.owned h1
    rw [hdep hul] at hcnt
    refine ⟨{ s with owner := none, count := 0 }, ?_, hr.relock (by rw [h2]; rfl) (by simp [h2])⟩
    rw [he]; simp [runM, stepA, hown, hcnt]
  · exact ⟨s, he c04 s, hr.relock (hs ▸ hr.owner) (hs ▸ hr.count)⟩

theorem stepA_mstep (c04 : Bool) {m m' : MSt} {obs : List Obs} {s : ASt} (hi : MInv m) (hr : RelA m s)
    (hf : MStep m m' obs) : ∃ s', runM (stepA c04) s obs = .ok s' ∧ RelA m' s' := by
  cases hf with
  | skip | done => exact ⟨s, rfl, hr⟩
  | tr _ hdep ha => exact stepA_tr c04 hi hr hdep ha
  | @ret t n a _ hd ha =>
    -- the unlock transition, then the call returns
    obtain ⟨s1, h1, hr1⟩ := stepA_tr c04 hi hr (fun _ => hd) ha
    obtain ⟨s2, h2, hr2⟩ := relA_mutate c04 hr1 (t + 1) n a (fun _ => hi.crit_quiet (some_of_ite ha).1)
    exact ⟨s2, (runM_append _ _ _ (evOf (.uUnlock t)) [_] h1).trans (by simp only [runM, h2]), hr2⟩
  | @retry tid ho =>
    obtain ⟨hne, hown, _⟩ := hr.owned ho
    exact ⟨{ s with count := s.count + 1 }, by simp [runM, stepA, hown], hr.relock hr.owner (by simp [hr.count, hne])⟩
  | @reunlock tid ho hd =>
    obtain ⟨hne, hown, hcnt⟩ := hr.owned ho
    refine ⟨{ s with count := s.count - 1 }, ?_, ?_⟩
    · have : ¬ s.count ≤ 1 := by omega
      simp [runM, stepA, hown, this]
    · exact hr.relock hr.owner (by simp [hne, hcnt]; omega)
  | @enter k n hrun h2 h3 =>
    have hstep : m.l.step = .drv := (inv_reach hi.reach).stepD.mp (region_owns h2)
    have hown : s.owner = some 0 := by rw [hr.owner, hstep]; rfl
    have hh : s.inHandler = none := by rw [hr.hand, hrun]
    -- the name is registered / listed, so it is not among the closed / cancelled ones
    have hcheck : enterCheck s 0 k n = none := by
      simp only [enterCheck, hown, hh]
      cases k with
      | handler =>
        have hn : n ∉ s.closed := fun hc => (hr.closed n hc).1 (by simpa [listed] using h3)
        simp [hn]
      | task =>
        have hn : n ∉ s.cancelled := fun hc => hr.cancelled n hc (by simpa [listed] using h3)
        simp [hn]
    refine ⟨{ s with inHandler := some (k, n) }, ?_, hr.owner, hr.count, rfl, hr.closed, fun x hx hm => ?_⟩
    · simp only [runM, stepA, hcheck]; cases c04 <;> rfl
    · simp only at hm
      split at hm
      · exact hr.cancelled x hx (mem_filter_ne.mp hm).1
      · exact hr.cancelled x hx hm
  | exit => exact ⟨{ s with inHandler := none }, rfl, hr.owner, hr.count, rfl, hr.closed, hr.cancelled⟩
  | @dret n a =>
    obtain ⟨s2, h2, hr2⟩ := relA_mutate c04 hr 0 n a (fun h => absurd rfl h)
    exact ⟨s2, by simp only [runM, h2], hr2⟩

theorem stepA_ok (c04 : Bool) {m : MSt} {s : ASt} (hi : MInv m) (hr : RelA m s) (op : MOp) :
    ∃ s', runM (stepA c04) s (modelStep m op).2 = .ok s' ∧ RelA (modelStep m op).1 s' :=
  stepA_mstep c04 hi hr (modelStep_mstep m op)

/-! ### C05 -/

def stoppingOk (l : St) (st : List Nat) : Prop := ∀ x : Nat, (x + 1) ∈ st ↔ l.u x = .stopBump

def bumpedOk (l : St) (b : List (Nat × Nat)) : Prop :=
  ∀ e ∈ b, ∃ t : Nat, e.1 = t + 1 ∧ l.u t = .waitStep ∧ e.2 + canBeginN l.d ≤ 1

structure RelB (m : MSt) (s : BSt) : Prop where
  stopping : stoppingOk m.l s.stopping
  bumped : bumpedOk m.l s.bumped

theorem relB_init : RelB {} {} :=
  ⟨by intro x; simp, by intro e h; cases h⟩

theorem stoppingOk_eq {l l' : St} {st : List Nat} (h : stoppingOk l st) (hu : l'.u = l.u) : stoppingOk l' st := by
  intro x; rw [h x, hu]

theorem stoppingOk_setU {l : St} {st : List Nat} {t : Tid} {p p0 : UPc} (h : stoppingOk l st) (hu : l.u t = p0)
    (h0 : p0 ≠ .stopBump) (h1 : p ≠ .stopBump) : stoppingOk (l.setU t p) st := by
  intro x
  by_cases hx : x = t
  · subst hx; rw [h x, hu, setU_same]; exact ⟨fun a => absurd a h0, fun a => absurd a h1⟩
  · rw [h x, setU_other _ _ _ _ hx]

/-- no user thread moves; a caller waiting after its datagram holds `pauseMtx`: `canBeginN_mono` -/
theorem bumpedOk_tr {l l' : St} {bb : Bool} {b : List (Nat × Nat)} (hr : Reach l) (h : bumpedOk l b)
    (tr : Tr l bb l') (hu : l'.u = l.u) : bumpedOk l' b := by
  intro e he
  obtain ⟨t, h1, h2, h3⟩ := h e he
  have := canBeginN_mono (inv_reach hr) (t := t) (by rw [h2]; rfl) tr
  exact ⟨t, h1, by rw [hu]; exact h2, Nat.le_trans (Nat.add_le_add_left this _) h3⟩

theorem bumpedOk_setU {l : St} {b : List (Nat × Nat)} {t : Tid} {p : UPc} (h : bumpedOk l b)
    (hne : ∀ e ∈ b, e.1 ≠ t + 1) : bumpedOk (l.setU t p) b := by
  intro e he
  obtain ⟨x, h1, h2, h3⟩ := h e he
  have hx : x ≠ t := by intro hxt; subst hxt; exact hne e he h1
  exact ⟨x, h1, by rw [setU_other _ _ _ _ hx]; exact h2, h3⟩

theorem bumpedOk_move {l : St} {b : List (Nat × Nat)} {t : Tid} {p p0 : UPc} (h : bumpedOk l b) (hu : l.u t = p0)
    (hn : p0 ≠ .waitStep) : bumpedOk (l.setU t p) b :=
  bumpedOk_setU h fun e he hx => by
    obtain ⟨x, h1, h2, _⟩ := h e he
    have : x = t := by omega
    subst this; exact hn (hu ▸ h2)

theorem bumpedOk_filter {l : St} {b : List (Nat × Nat)} (p : Nat × Nat → Bool) (h : bumpedOk l b) :
    bumpedOk l (b.filter p) := fun e he => h e (List.mem_filter.mp he).1

theorem stepB_other (c05 : Bool) (s : BSt) (t : Nat) : stepB c05 s (.ev t .other) = .ok s := rfl
theorem stepB_unlock (c05 : Bool) (s : BSt) (t : Nat) : stepB c05 s (.ev t .unlockStep) = .ok s := rfl

theorem stepB_tr (c05 : Bool) {m : MSt} {s : BSt} {l : L} {l' : St} (hi : MInv m) (hr : RelB m s)
    (ha : apply m.l l = some l') :
    ∃ s', runM (stepB c05) s (evOf l) = .ok s' ∧ RelB { m with l := l' } s' := by
  obtain ⟨hst, hbu⟩ := hr
  cases l with
  | dLockStep =>
    -- every waiting caller has count 0: the potential was 1 and is now used up
    obtain ⟨r, ⟨hd, _⟩, rfl⟩ := apply_some ha
    have h0 : ∀ e ∈ s.bumped, e.2 = 0 := fun e he => by
      obtain ⟨t, _, _, h3⟩ := hbu e he
      rw [hd] at h3
      have h4 : e.2 + 1 ≤ 1 := h3
      omega
    refine ⟨{ s with bumped := s.bumped.map (fun p => (p.1, p.2 + 1)) }, ?_, stoppingOk_eq hst rfl, ?_⟩
    · have hnone : (s.bumped.map (fun p => (p.1, p.2 + 1))).find? (fun p => decide (p.2 > 1)) = none := by
        rw [List.find?_eq_none]
        intro e he
        obtain ⟨e0, he0, rfl⟩ := List.mem_map.mp he
        simp [h0 e0 he0]
      simp only [evOf, runM, stepB, if_true, hnone]
      cases c05 <;> rfl
    · intro e he
      obtain ⟨e0, he0, rfl⟩ := List.mem_map.mp he
      obtain ⟨t, h1, h2, _⟩ := hbu e0 he0
      exact ⟨t, h1, h2, by simp [canBeginN, h0 e0 he0]⟩
  | dRunEnter | dRunExit | dRunGo | dStepEnter | dToPoll | dPollPipe | dPollOther | dUnlockStep | dLockPause
  | dUnlockPause | dStop =>
    obtain ⟨_, tr⟩ := apply_sound ha
    have hu := (apply_frame ha).2 rfl
    exact ⟨s, rfl, stoppingOk_eq hst hu, bumpedOk_tr hi.reach hbu tr hu⟩
  | uTryFail t | uLockPause t =>
    obtain ⟨hg, rfl⟩ := some_of_ite ha
    exact ⟨s, rfl, stoppingOk_setU hst hg.1 nofun nofun, bumpedOk_move hbu hg.1 nofun⟩
  | uRelPause t | uUnlock t =>
    obtain ⟨hu, rfl⟩ := some_of_ite ha
    exact ⟨s, rfl, stoppingOk_setU hst hu nofun nofun, bumpedOk_move hbu hu nofun⟩
  | uTryOk t | uLockStep t =>
    obtain ⟨hg, rfl⟩ := some_of_ite ha
    refine ⟨{ s with bumped := s.bumped.filter (fun p => p.1 ≠ t + 1) }, rfl,
      stoppingOk_setU hst hg.1 nofun nofun, bumpedOk_setU (bumpedOk_filter _ hbu) fun e he => ?_⟩
    simpa using (List.mem_filter.mp he).2
  | uBump t =>
    obtain ⟨hu, rfl⟩ := some_of_ite ha
    have hns : t + 1 ∉ s.stopping := fun hc => by have := (hst t).mp hc; rw [hu] at this; cases this
    refine ⟨{ s with bumped := s.bumped ++ [(t + 1, 0)] }, by simp [evOf, runM, stepB, hns],
      stoppingOk_setU hst hu nofun nofun, fun e he => ?_⟩
    rcases List.mem_append.mp he with he | he
    · exact bumpedOk_move hbu hu nofun e he
    · cases List.mem_singleton.mp he
      exact ⟨t, rfl, setU_same _ _ _, Nat.le_trans (Nat.le_of_eq (Nat.zero_add _)) (canBeginN_le m.l.d)⟩
  | uStopSet t =>
    obtain ⟨hu, rfl⟩ := some_of_ite ha
    refine ⟨{ s with stopping := (t + 1) :: s.stopping }, rfl, fun x => ?_,
      bumpedOk_move hbu hu nofun⟩
    by_cases hx : x = t
    · subst hx; simp
    · simp only [List.mem_cons, setU_other _ _ _ _ hx]
      rw [← hst x]
      exact ⟨fun h => h.resolve_left (by omega), Or.inr⟩
  | uStopBump t =>
    obtain ⟨hu, rfl⟩ := some_of_ite ha
    have hin : t + 1 ∈ s.stopping := (hst t).mpr hu
    refine ⟨{ s with stopping := s.stopping.filter (· ≠ t + 1) }, by simp [evOf, runM, stepB, hin], fun x => ?_,
      bumpedOk_move hbu hu nofun⟩
    by_cases hx : x = t
    · subst hx; simp
    · simp only [setU_other _ _ _ _ hx]
      rw [← hst x]
      simp [List.mem_filter]
      omega

theorem relB_of_l {m m' : MSt} {s : BSt} (h : RelB m s) (hl : m'.l = m.l) : RelB m' s :=
  ⟨(by rw [hl]; exact h.stopping), (by rw [hl]; exact h.bumped)⟩

theorem stepB_mstep (c05 : Bool) {m m' : MSt} {obs : List Obs} {s : BSt} (hi : MInv m) (hr : RelB m s)
    (hf : MStep m m' obs) : ∃ s', runM (stepB c05) s obs = .ok s' ∧ RelB m' s' := by
  cases hf with
  | skip => exact ⟨s, rfl, hr⟩
  | tr _ _ ha => exact stepB_tr c05 hi hr ha
  | ret _ ha =>
    obtain ⟨s1, h1, hr1⟩ := stepB_tr c05 hi hr ha
    exact ⟨s1, runM_append _ _ _ (evOf (.uUnlock _)) [_] h1, relB_of_l hr1 (mutate_l _ _ _)⟩
  | @retry tid =>
    by_cases ht : tid = 0
    · subst ht; exact ⟨s, rfl, relB_of_l hr rfl⟩
    · exact ⟨{ s with bumped := s.bumped.filter (fun p => p.1 ≠ tid) }, by simp [runM, stepB, ht],
        hr.stopping, bumpedOk_filter _ hr.bumped⟩
  | reunlock | enter | exit | done => exact ⟨s, rfl, relB_of_l hr rfl⟩
  | dret => exact ⟨s, rfl, relB_of_l hr (mutate_l _ _ _)⟩

theorem stepB_ok (c05 : Bool) {m : MSt} {s : BSt} (hi : MInv m) (hr : RelB m s) (op : MOp) :
    ∃ s', runM (stepB c05) s (modelStep m op).2 = .ok s' ∧ RelB (modelStep m op).1 s' :=
  stepB_mstep c05 hi hr (modelStep_mstep m op)

/-! ### C08 -/

/-- the driver thread is inside `Run` -/
def isRunPc : DPc → Bool
  | .r0 => true
  | d => d.run?

structure RelC (m : MSt) (s : CSt) : Prop where
  begun : m.l.stop = true → s.stopBegun = true
  pend : s.pendingStops ≠ [] → m.l.stop = true
  sdone : s.stopDone = true → m.l.stop = true
  inRun : s.inRun = isRunPc m.l.d
  le1 : s.stepsSinceStop ≤ 1
  pot : s.stopDone = true → s.inRun = true → s.stepsSinceStop + runCanBeginN m.l.d ≤ 1

theorem relC_init : RelC {} {} :=
  ⟨(by intro h; cases h), (by intro h; exact absurd rfl h), (by intro h; cases h), rfl, Nat.zero_le _,
   (by intro h; cases h)⟩

/-- events `stepC` ignores, same flag, same side of `Run`; while a Stop obliges the `Run` the flag is up:
`runCanBeginN_mono` -/
theorem relC_quiet {m : MSt} {s : CSt} {b : Bool} {l' : St} (hr : RelC m s) (tr : Tr m.l b l')
    (hs : l'.stop = m.l.stop) (hd : isRunPc l'.d = isRunPc m.l.d) : RelC { m with l := l' } s :=
  ⟨fun h => hr.begun (hs.symm.trans h), fun h => hs.trans (hr.pend h), fun h => hs.trans (hr.sdone h),
   hr.inRun.trans hd.symm, hr.le1,
   fun h1 h2 => Nat.le_trans (Nat.add_le_add_left (runCanBeginN_mono (hr.sdone h1) tr) _) (hr.pot h1 h2)⟩

theorem stepC_tr (c08 : Bool) {m : MSt} {s : CSt} {l : L} {l' : St} (hr : RelC m s)
    (ha : apply m.l l = some l') :
    ∃ s', runM (stepC c08) s (evOf l) = .ok s' ∧ RelC { m with l := l' } s' := by
  obtain ⟨_, tr⟩ := apply_sound ha
  cases l with
  | dRunEnter =>
    cases (some_of_ite ha).2
    exact ⟨{ s with inRun := true, stepsSinceStop := 0 }, rfl,
      hr.begun, hr.pend, hr.sdone, rfl, Nat.zero_le _, fun _ _ => Nat.zero_le 1⟩
  | dRunExit =>
    obtain ⟨hg, rfl⟩ := some_of_ite ha
    have hb := hr.begun hg.2
    exact ⟨{ s with runExited := true, stopDone := false, stopBegun := false, stepsSinceStop := 0,
                    pendingStops := [], inRun := false }, by simp [evOf, runM, stepC, hb],
      nofun, fun h => absurd rfl h, nofun, rfl, Nat.zero_le _, nofun⟩
  | dRunGo =>
    obtain ⟨hg, rfl⟩ := some_of_ite ha
    exact ⟨s, rfl, relC_quiet hr tr rfl (by rw [hg.1]; rfl)⟩
  | dStepEnter =>
    obtain ⟨hd, rfl⟩ := some_of_ite ha
    exact ⟨s, rfl, relC_quiet hr tr rfl (by rw [hd]; rfl)⟩
  | dLockStep =>
    obtain ⟨r, ⟨hd, _⟩, rfl⟩ := apply_some ha
    have hin : s.inRun = r := by rw [hr.inRun, hd]; rfl
    have hk : (if s.stopDone = true ∧ s.inRun = true then s.stepsSinceStop + 1 else s.stepsSinceStop) ≤ 1 := by
      split
      · rename_i hc
        have := hr.pot hc.1 hc.2
        have hr' : r = true := by rw [← hin]; exact hc.2
        rw [hd, hr'] at this; simp [runCanBeginN] at this; omega
      · exact hr.le1
    refine ⟨{ s with stepsSinceStop := if s.stopDone = true ∧ s.inRun = true then s.stepsSinceStop + 1
                                      else s.stepsSinceStop }, ?_, ?_⟩
    · have : ¬ (if s.stopDone = true ∧ s.inRun = true then s.stepsSinceStop + 1 else s.stepsSinceStop) > 1 := by omega
      simp only [evOf, runM, stepC, if_true, this, and_false, if_false]
    · exact ⟨hr.begun, hr.pend, hr.sdone, (by rw [hin]; rfl), hk, fun _ _ => hk⟩
  | dToPoll | dUnlockStep =>
    obtain ⟨r, hd, rfl⟩ := apply_some ha
    exact ⟨s, rfl, relC_quiet hr tr rfl (by rw [hd]; rfl)⟩
  | dPollPipe | dPollOther | dLockPause =>
    obtain ⟨r, ⟨hd, _⟩, rfl⟩ := apply_some ha
    exact ⟨s, rfl, relC_quiet hr tr rfl (by rw [hd]; rfl)⟩
  | dUnlockPause =>
    obtain ⟨r, hd, rfl⟩ := apply_some ha
    cases r <;> exact ⟨s, rfl, relC_quiet hr tr rfl (by rw [hd]; rfl)⟩
  | dStop =>
    cases Option.some.inj ha
    exact ⟨{ s with stopBegun := true, pendingStops := 0 :: s.pendingStops, stopDone := true,
                    stepsSinceStop := 0 }, rfl,
      fun _ => rfl, fun _ => rfl, fun _ => rfl, hr.inRun, Nat.zero_le _,
      fun _ _ => Nat.le_trans (Nat.le_of_eq (Nat.zero_add _)) (runCanBeginN_le m.l.d)⟩
  | uTryOk | uTryFail | uLockPause | uBump | uLockStep | uRelPause | uUnlock =>
    cases (some_of_ite ha).2
    exact ⟨s, rfl, relC_quiet hr tr rfl rfl⟩
  | uStopSet t =>
    cases (some_of_ite ha).2
    exact ⟨{ s with stopBegun := true, pendingStops := (t + 1) :: s.pendingStops }, rfl,
      fun _ => rfl, fun _ => rfl, fun _ => rfl, hr.inRun, hr.le1, hr.pot⟩
  | uStopBump t =>
    -- only a Stop that no `Run` has consumed yet counts, and then the flag is still up
    cases (some_of_ite ha).2
    by_cases hp : s.pendingStops.contains (t + 1) = true
    · have hst : m.l.stop = true := hr.pend (by intro h; rw [h] at hp; cases hp)
      exact ⟨{ s with stopDone := true, stepsSinceStop := 0 }, by simp only [evOf, runM, stepC, hp]; rfl,
        hr.begun, hr.pend, fun _ => hst, hr.inRun, Nat.zero_le _,
        fun _ _ => Nat.le_trans (Nat.le_of_eq (Nat.zero_add _)) (runCanBeginN_le m.l.d)⟩
    · exact ⟨s, by simp only [evOf, runM, stepC, hp]; rfl, relC_quiet hr tr rfl rfl⟩

theorem relC_of_l {m m' : MSt} {s : CSt} (h : RelC m s) (hl : m'.l = m.l) : RelC m' s :=
  ⟨(by rw [hl]; exact h.begun), (by rw [hl]; exact h.pend), (by rw [hl]; exact h.sdone), (by rw [hl]; exact h.inRun),
   h.le1, (by rw [hl]; exact h.pot)⟩

theorem stepC_mstep (c08 : Bool) {m m' : MSt} {obs : List Obs} {s : CSt} (hr : RelC m s) (hf : MStep m m' obs) :
    ∃ s', runM (stepC c08) s obs = .ok s' ∧ RelC m' s' := by
  cases hf with
  | skip => exact ⟨s, rfl, hr⟩
  | tr _ _ ha => exact stepC_tr c08 hr ha
  | ret _ ha =>
    obtain ⟨s1, h1, hr1⟩ := stepC_tr c08 hr ha
    exact ⟨s1, runM_append _ _ _ (evOf (.uUnlock _)) [_] h1, relC_of_l hr1 (mutate_l _ _ _)⟩
  | retry | reunlock | enter | exit => exact ⟨s, rfl, relC_of_l hr rfl⟩
  | dret => exact ⟨s, rfl, relC_of_l hr (mutate_l _ _ _)⟩
  | done hd =>
    have : s.inRun = false := by rw [hr.inRun, hd]; rfl
    exact ⟨s, by simp [runM, stepC, this], hr⟩

theorem stepC_ok (c08 : Bool) {m : MSt} {s : CSt} (hr : RelC m s) (op : MOp) :
    ∃ s', runM (stepC c08) s (modelStep m op).2 = .ok s' ∧ RelC (modelStep m op).1 s' :=
  stepC_mstep c08 hr (modelStep_mstep m op)

/-! ### the three monitors together -/

theorem specStep_of_steps (md : Mode) (s : SpecSt) (o : Obs) (hf : o.isFail = false) {a : ASt} {b : BSt} {c : CSt}
    (ha : stepA md.c04 s.a o = .ok a) (hb : stepB md.c05 s.b o = .ok b) (hc : stepC md.c08 s.c o = .ok c) :
    specStep md s o = .ok ⟨a, b, c⟩ := by
  cases o with
  | deadlock | stuck | crash => cases hf
  | ev | done => simp only [specStep, ha, hb, hc]

theorem specRun_of_runM (md : Mode) (obs : List Obs) (hf : ∀ o ∈ obs, o.isFail = false) (s : SpecSt)
    {a : ASt} {b : BSt} {c : CSt} (ha : runM (stepA md.c04) s.a obs = .ok a)
    (hb : runM (stepB md.c05) s.b obs = .ok b) (hc : runM (stepC md.c08) s.c obs = .ok c) :
    specRun md s obs = .ok ⟨a, b, c⟩ := by
  induction obs generalizing s with
  | nil =>
    simp only [runM] at ha hb hc
    cases ha; cases hb; cases hc; rfl
  | cons o rest ih =>
    simp only [runM] at ha hb hc
    cases ha1 : stepA md.c04 s.a o with
    | error e => rw [ha1] at ha; cases ha
    | ok a1 =>
      cases hb1 : stepB md.c05 s.b o with
      | error e => rw [hb1] at hb; cases hb
      | ok b1 =>
        cases hc1 : stepC md.c08 s.c o with
        | error e => rw [hc1] at hc; cases hc
        | ok c1 =>
          rw [ha1] at ha; rw [hb1] at hb; rw [hc1] at hc
          simp only [specRun, specStep_of_steps md s o (hf o List.mem_cons_self) ha1 hb1 hc1]
          exact ih (fun o ho => hf o (List.mem_cons_of_mem _ ho)) ⟨a1, b1, c1⟩ ha hb hc

theorem specRun_eq_runM (md : Mode) (s : SpecSt) (obs : List Obs) : specRun md s obs = runM (specStep md) s obs := by
  induction obs generalizing s with
  | nil => rfl
  | cons o rest ih =>
    simp only [specRun, runM]
    cases specStep md s o with
    | error e => rfl
    | ok s' => exact ih s'

theorem specRun_append (md : Mode) (s s' : SpecSt) (xs ys : List Obs) (h : specRun md s xs = .ok s') :
    specRun md s (xs ++ ys) = specRun md s' ys := by
  simp only [specRun_eq_runM] at h ⊢
  exact runM_append _ _ _ _ _ h

/-- the simulation relation between the composed model and the observer's book-keeping -/
structure Rel (m : MSt) (s : SpecSt) : Prop where
  inv : MInv m
  a : RelA m s.a
  b : RelB m s.b
  c : RelC m s.c

theorem rel_init : Rel {} {} := ⟨minv_init, relA_init, relB_init, relC_init⟩

theorem step_ok (md : Mode) {m : MSt} {s : SpecSt} (h : Rel m s) (op : MOp) :
    ∃ s', specRun md s (modelStep m op).2 = .ok s' ∧ Rel (modelStep m op).1 s' := by
  have hf := modelStep_mstep m op
  obtain ⟨a, ha, ra⟩ := stepA_mstep md.c04 h.inv h.a hf
  obtain ⟨b, hb, rb⟩ := stepB_mstep md.c05 h.inv h.b hf
  obtain ⟨c, hc, rc⟩ := stepC_mstep md.c08 h.c hf
  exact ⟨⟨a, b, c⟩, specRun_of_runM md _ hf.noFail s ha hb hc, h.inv.step hf, ra, rb, rc⟩

theorem run_ok (md : Mode) (history : List MOp) {m : MSt} {s : SpecSt} (h : Rel m s) :
    ∃ s', specRun md s (modelTrace m history) = .ok s' ∧ Rel (modelRun m history) s' := by
  induction history generalizing m s with
  | nil => exact ⟨s, rfl, h⟩
  | cons op rest ih =>
    obtain ⟨s1, h1, r1⟩ := step_ok md h op
    obtain ⟨s2, h2, r2⟩ := ih r1
    exact ⟨s2, by simp only [modelTrace]; rw [specRun_append md s s1 _ _ h1]; exact h2, r2⟩

/-- **The oracle is a theorem of the model.**  For every history of operations of any length - any
interleaving of transitions of the lock LTS by the driver thread and any number of user threads running any
programs, management calls returning, recursive acquisitions, handlers and tasks being invoked for registered
sockets / listed ToDos, management calls from inside them - the predicate that `./check C04`, `./check C05`
and `./check C08` evaluate on the implementation accepts the observations the model produces, in every
mode (also with all three clause sets switched on).  No hypothesis. -/
theorem model_satisfies_spec (md : Mode) (history : List MOp) :
    ∃ s, specRun md {} (modelTrace {} history) = .ok s := by
  obtain ⟨s, h, _⟩ := run_ok md history rel_init
  exact ⟨s, h⟩

/-- the verdict as a Boolean (for `example`s) -/
def accepts (md : Mode) (obs : List Obs) : Bool :=
  match specRun md {} obs with
  | .ok _ => true
  | .error _ => false

theorem model_accepted (md : Mode) (history : List MOp) : accepts md (modelTrace {} history) = true := by
  obtain ⟨s, h⟩ := model_satisfies_spec md history
  simp only [accepts, h]

end SockModel.Locks.Spec
