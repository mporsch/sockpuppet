import SockModel.Model.TlsLemmas
import SockModel.Model.TlsBudget
import SockModel.Model.TlsLogLemmas
/-!
# Spec.C18 - the run-time oracle of C18 as typed, total functions, and its link to the glue model

`./check C18` (and the TLS slices of `./check C01` / `./check C07`) evaluate a predicate on the transcript of the
implementation.  It lives here, apart from model and driver:

* typed observations `Obs` (one per transcript line that means something for the property), the observer's state
  `SpecSt` (observations only, no model state), `specStep` / `specRun` (structural recursion) for the clauses that are
  checked event by event, `specFinal` for the end-of-case clauses, `specCheck` = both;
* `Drive/C18.lean` only parses lines into `Obs` and calls these functions.

Clauses (the message texts are what `./check` prints):

event by event (`specStep`)
* C07 for TLS calls: a `Send`/`Receive` with timeout `T` issues only unlimited waits (`T < 0`), only zero waits
  (`T = 0`), or bounded waits whose sum stays within `T` (`T > 0`; under the virtual clock a wait that times out
  consumes exactly its argument);
* `Receive` / the receive handler deliver bytes only if the latest engine answer was `done` with `init_finished`,
  never from a peer that does not speak TLS, and the handler never gets an empty buffer;
* the disconnect handler runs at most once; every raw `send` carries `MSG_NOSIGNAL`;
* crash / hang / killed by a signal.

at the end (`specFinal`)
* wire (`wireClause`): no plaintext marker in the raw stream, the raw stream is a sequence of TLS records starting
  with ClientHello resp. ServerHello, TLS 1.2: no application-data record before ChangeCipherSpec; what a plain TCP
  peer read is TLS records and does not contain the marker;
* a non-TLS peer: zero bytes delivered, and the failure was reported (exception / disconnect handler);
* TLS <-> TLS: received is a prefix of what the peer sent, no failure reported on a healthy connection, the exchange
  is not stuck (`tls-pending-stall`, `exchange did not complete`), everything arrived, both handshakes finished.

The second half of the file composes the existing model functions (`Tls.receiveT`, `sendT`, `enqueue`, `aQuery`,
`aTask`; nothing is re-defined) into the scenario of the harness and proves that `specRun` accepts every trace of
the model (`model_satisfies_spec_partial`; see there for what is covered).
-/
namespace SockModel.Tls.Spec
open SockModel.Net SockModel.Tls

/-! ## typed observations -/

/-- whose event: the client endpoint, the server endpoint, anything else (a driver, the raw peer) -/
inductive Who where
  | c | s | other (name : String)
  deriving DecidableEq, Repr

def Who.name : Who → String
  | .c => "c"
  | .s => "s"
  | .other n => n

inductive ApiOp where
  | send | recv | other
  deriving DecidableEq, Repr

/-- how an API call ended: `n k` (bytes sent / received), an exception, anything else (`none`, `ok`) -/
inductive Ret where
  | n (k : Nat) | threw | other
  deriving DecidableEq, Repr

inductive Abort where
  | crash | hang | killed
  deriving DecidableEq, Repr

def Abort.msg : Abort → String
  | .crash => "crash: "
  | .hang => "hang: "
  | .killed => "process killed by a signal: "

/-- an endpoint as the `setup` line describes it -/
structure EpCfg where
  async : Bool
  rsz : Nat
  deriving DecidableEq, Repr

/-- the `state` line of an endpoint (`none` = key missing) -/
structure FinalState where
  tls12 : Bool := false
  sent : Option Nat := none
  failed : Bool := false
  init : Option Nat := none
  pending : Option Nat := none
  deriving DecidableEq, Repr

inductive Obs where
  /-- `setup …` op line: which endpoints are TLS sockets of the library, and whether the peer is a plain TCP peer -/
  | setup (c s : Option EpCfg) (plain : Bool)
  /-- `-> setup ok marker= cpay= spay=` -/
  | payload (marker cpay spay : Bytes)
  /-- `-> api who op T …` -/
  | api (who : Who) (op : ApiOp) (T : Option Int)
  /-- `-> os who poll dir t ready|timeout` -/
  | poll (who : Who) (t : Int) (ready : Bool)
  /-- `-> os who send len ns=… …` -/
  | send (who : Who) (noSignal : Bool)
  /-- `-> sslret who answer init=…` -/
  | sslret (who : Who) (done init : Bool)
  /-- `-> ret who …` -/
  | ret (who : Who) (r : Ret)
  /-- `-> rx who n`: the receive handler ran -/
  | rx (who : Who) (n : Nat)
  /-- `-> disc who …`: the disconnect handler ran -/
  | disc (who : Who)
  /-- `-> loopend done|stuck` -/
  | loopend (stuck : Bool)
  /-- `-> wire who hex`: every raw byte the endpoint passed to `send` -/
  | wire (who : Who) (bytes : Bytes)
  /-- `-> got who hex`: every byte the endpoint received through the API -/
  | got (who : Who) (bytes : Bytes)
  | state (who : Who) (st : FinalState)
  /-- `-> rawgot hex`: what the plain TCP peer read -/
  | rawgot (bytes : Bytes)
  | abort (kind : Abort) (text : String)
  deriving Repr

/-! ## the observer's state -/

structure EpSt where
  async : Bool := false
  rsz : Nat := 4096
  /-- the latest engine answer was `done` with `init_finished` -/
  lastDoneInit : Bool := false
  threw : Bool := false
  discSeen : Nat := 0
  recvOp : Bool := false
  /-- timeout of the synchronous Send/Receive in progress (C07 clauses) -/
  callT : Option Int := none
  /-- virtual ms its timed-out waits have consumed so far -/
  spent : Int := 0
  deriving Repr

/-- the end-of-case lines of one endpoint (the latest of each kind) -/
structure Fin where
  wire : Bytes := []
  got : Bytes := []
  st : FinalState := {}
  deriving Repr

structure SpecSt where
  c : Option EpSt := none
  s : Option EpSt := none
  plain : Bool := false
  marker : Bytes := []
  cpay : Bytes := []
  spay : Bytes := []
  /-- the latest `loopend` line said `stuck` -/
  stuck : Bool := false
  finC : Fin := {}
  finS : Fin := {}
  rawgot : Bytes := []
  deriving Repr

def SpecSt.ep? (s : SpecSt) : Who → Option EpSt
  | .c => s.c
  | .s => s.s
  | .other _ => none

def SpecSt.setEp (s : SpecSt) : Who → EpSt → SpecSt
  | .c, e => { s with c := some e }
  | .s, e => { s with s := some e }
  | .other _, _ => s

def SpecSt.fin (s : SpecSt) : Who → Fin
  | .c => s.finC
  | .s => s.finS
  | .other _ => {}

def SpecSt.setFin (s : SpecSt) : Who → Fin → SpecSt
  | .c, f => { s with finC := f }
  | .s, f => { s with finS := f }
  | .other _, _ => s

def mkEp (c : EpCfg) : EpSt := { async := c.async, rsz := c.rsz }

/-! ## the predicate, event by event -/

/-- C07 for the TLS socket: "negative = unlimited, zero = never blocks, positive = at most that long in total,
however many waits the handshake / the record layer needs"; under the virtual clock a wait that times out consumes
exactly its argument, one that finds the descriptor ready consumes nothing -/
def pollClause (who : Who) (ep : EpSt) (T : Int) (t : Int) (ready : Bool) : Except String EpSt :=
  if T < 0 then
    if t ≥ 0 then .error s!"{who.name}: call with unlimited timeout issued a bounded wait poll({t})" else .ok ep
  else if T = 0 then
    if t ≠ 0 then .error s!"{who.name}: call with timeout 0 issued a blocking wait poll({t})" else .ok ep
  else if t < 0 then .error s!"{who.name}: call with timeout {T} ms issued an unlimited wait"
  else if ep.spent + t > T then
    .error s!"{who.name}: call with timeout {T} ms waits poll({t}) after its earlier waits already consumed {ep.spent} ms: over budget"
  else .ok { ep with spent := ep.spent + (if ready then 0 else t) }

def retClause (who : Who) (plain : Bool) (ep : EpSt) : Ret → Except String EpSt
  | .n k =>
    if ep.recvOp ∧ k > 0 then
      if ¬ ep.lastDoneInit then
        .error s!"{who.name}: Receive delivered {k} bytes although the engine had not finished the handshake / not answered done"
      else if plain then .error s!"{who.name}: Receive delivered {k} bytes from a peer that does not speak TLS"
      else .ok { ep with callT := none }
    else .ok { ep with callT := none }
  | .threw => .ok { ep with threw := true, callT := none }
  | .other => .ok { ep with callT := none }

def rxClause (who : Who) (plain : Bool) (ep : EpSt) (n : Nat) : Except String EpSt :=
  if n = 0 then .error s!"{who.name}: receive handler invoked with an empty buffer"
  else if ¬ ep.lastDoneInit then
    .error s!"{who.name}: receive handler invoked with {n} bytes although the engine had not finished the handshake"
  else if plain then .error s!"{who.name}: receive handler delivered {n} bytes from a peer that does not speak TLS"
  else .ok ep

def discClause (who : Who) (ep : EpSt) : Except String EpSt :=
  if ep.discSeen ≥ 1 then .error s!"{who.name}: disconnect handler invoked twice"
  else .ok { ep with discSeen := ep.discSeen + 1 }

/-- apply a clause to the endpoint `who`, if the case has one -/
def onEp (s : SpecSt) (who : Who) (f : EpSt → Except String EpSt) : Except String SpecSt :=
  match s.ep? who with
  | none => .ok s
  | some ep =>
    match f ep with
    | .error m => .error m
    | .ok ep' => .ok (s.setEp who ep')

def specStep (s : SpecSt) : Obs → Except String SpecSt
  | .setup c sv plain => .ok { s with c := c.map mkEp, s := sv.map mkEp, plain := plain }
  | .payload marker cpay spay => .ok { s with marker := marker, cpay := cpay, spay := spay }
  | .api who op T =>
    onEp s who fun ep =>
      .ok { ep with recvOp := op == .recv, callT := if op == .other then none else T, spent := 0 }
  | .poll who t ready =>
    onEp s who fun ep =>
      match ep.callT with
      | none => .ok ep
      | some T => pollClause who ep T t ready
  | .send who ns => if ns then .ok s else .error s!"{who.name}: raw send without MSG_NOSIGNAL"
  | .sslret who done init => onEp s who fun ep => .ok { ep with lastDoneInit := done && init }
  | .ret who r => onEp s who fun ep => retClause who s.plain ep r
  | .rx who n => onEp s who fun ep => rxClause who s.plain ep n
  | .disc who => onEp s who fun ep => discClause who ep
  | .loopend stuck => .ok { s with stuck := stuck }
  | .wire who bytes => .ok (s.setFin who { s.fin who with wire := bytes })
  | .got who bytes => .ok (s.setFin who { s.fin who with got := bytes })
  | .state who st => .ok (s.setFin who { s.fin who with st := st })
  | .rawgot bytes => .ok { s with rawgot := bytes }
  | .abort kind text => .error (kind.msg ++ text)

def specRun (s : SpecSt) : List Obs → Except String SpecSt
  | [] => .ok s
  | o :: rest =>
    match specStep s o with
    | .error m => .error m
    | .ok s' => specRun s' rest

/-! ## the end-of-case clauses -/

def isInfix (pat s : Bytes) : Bool :=
  if pat.isEmpty then false else
  let rec go (s : Bytes) (fuel : Nat) : Bool :=
    match fuel with
    | 0 => false
    | fuel + 1 =>
      if pat.isPrefixOf s then true else
      match s with
      | [] => false
      | _ :: t => go t fuel
  go s (s.length + 1)

structure Rec where
  typ : Nat
  ver : Nat
  len : Nat
  first : Nat      -- first payload byte (handshake message type for a plaintext handshake record)
  complete : Bool

def parseRecords (bs : Bytes) : Except String (List Rec) :=
  let rec go (bs : Bytes) (fuel : Nat) (acc : List Rec) : Except String (List Rec) :=
    match fuel with
    | 0 => .ok acc.reverse
    | fuel + 1 =>
      match bs with
      | [] => .ok acc.reverse
      | t :: v1 :: v2 :: l1 :: l2 :: rest =>
        let typ := t.toNat
        let ver := v1.toNat * 256 + v2.toNat
        let len := l1.toNat * 256 + l2.toNat
        if typ < 20 ∨ typ > 23 then .error s!"record {acc.length}: content type {typ} is not a TLS record type"
        else if ver ≠ 0x0301 ∧ ver ≠ 0x0303 then .error s!"record {acc.length}: version {ver}"
        else if len > 16384 + 256 then .error s!"record {acc.length}: length {len}"
        else
          let first := match rest with | b :: _ => b.toNat | [] => 0
          if rest.length < len then .ok (⟨typ, ver, len, first, false⟩ :: acc).reverse
          else go (rest.drop len) fuel (⟨typ, ver, len, first, true⟩ :: acc)
      | _ => .ok acc.reverse   -- fewer than 5 bytes of a header at the very end
  go bs (bs.length + 1) []

/-- the raw stream one side wrote: TLS records; the first is a plaintext handshake record carrying
ClientHello (1) resp. ServerHello (2); in TLS 1.2 no application-data record precedes ChangeCipherSpec -/
def specWire (who : String) (isClient : Bool) (tls12 : Bool) (wire marker : Bytes) : Option String :=
  if isInfix marker wire then some s!"plaintext marker found in the raw stream written by {who}"
  else match parseRecords wire with
    | .error m => some s!"raw stream of {who} is not a sequence of TLS records: {m}"
    | .ok [] => none
    | .ok (r :: rest) =>
      if r.typ ≠ 22 then some s!"first record written by {who} has type {r.typ}, not handshake(22)"
      else if r.first ≠ (if isClient then 1 else 2) then
        some s!"first record written by {who} is handshake message {r.first}, expected {if isClient then "ClientHello" else "ServerHello"}"
      else if tls12 then
        let beforeCcs := rest.takeWhile (fun r => r.typ ≠ 20)
        if beforeCcs.length < rest.length ∧ beforeCcs.any (fun r => r.typ = 23) then
          some s!"application-data record written by {who} before ChangeCipherSpec (TLS 1.2)"
        else if ¬ rest.any (fun r => r.typ = 20) ∧ rest.any (fun r => r.typ = 23) then
          some s!"application-data record written by {who} without a preceding ChangeCipherSpec (TLS 1.2)"
        else none
      else none

/-- the endpoints of the case, client first -/
def SpecSt.eps (s : SpecSt) : List (Who × EpSt) :=
  (match s.c with | some e => [(Who.c, e)] | none => []) ++ (match s.s with | some e => [(Who.s, e)] | none => [])

def showOpt : Option Nat → String
  | none => ""
  | some n => toString n

def SpecSt.peerPay (s : SpecSt) (w : Who) : Bytes := if w == .c then s.spay else s.cpay

/-- the wire-level clauses: statements about the ENGINE's output (OpenSSL), which the glue only carries
(`Tls.plaintext_only_via_engine`) -/
def wireClause (s : SpecSt) : Option String :=
  match s.eps.findSome? (fun (p : Who × EpSt) =>
      specWire p.1.name (p.1 == .c) (s.fin p.1).st.tls12 (s.fin p.1).wire s.marker) with
  | some m => some m
  | none =>
    if isInfix s.marker s.rawgot then some "plaintext marker reached a plain TCP peer"
    else none

/-- a peer that does not speak TLS: exception / disconnect handler, zero bytes delivered; what the plain peer read
must itself be TLS records (an alert) or nothing -/
def plainClause (s : SpecSt) : Option String :=
  match s.eps.findSome? (fun (p : Who × EpSt) =>
      if (s.fin p.1).got ≠ [] then
        some s!"{p.1.name}: {(s.fin p.1).got.length} bytes delivered from a peer that does not speak TLS"
      else if ¬ (p.2.threw ∨ p.2.discSeen ≥ 1) then
        some s!"{p.1.name}: talking to a non-TLS peer was not reported (no exception, no disconnect handler)"
      else none) with
  | some m => some m
  | none =>
    match parseRecords s.rawgot with
    | .error m => some s!"the plain TCP peer read something that is not a TLS record: {m}"
    | .ok _ => none

/-- TLS <-> TLS: payload integrity, no failure on a healthy connection -/
def healthyClause (s : SpecSt) : Option String :=
  s.eps.findSome? fun (p : Who × EpSt) =>
    if ¬ (s.fin p.1).got.isPrefixOf (s.peerPay p.1) then
      some s!"{p.1.name}: received bytes are not a prefix of what the peer sent ({(s.fin p.1).got.length} bytes received)"
    -- (while a TLS Send is being retried the engine may already have transmitted records that the Send
    -- calls so far did not account for; the accounting is exact once the retries are through)
    else if p.2.threw ∨ p.2.discSeen > 0 ∨ (s.fin p.1).st.failed then
      some s!"{p.1.name}: failure reported (exception / disconnect / failed future) on a healthy TLS connection"
    else none

def stuckClause (s : SpecSt) : Option String :=
  if s.stuck then
    match s.eps.filter (fun (p : Who × EpSt) => p.2.async ∧ ((s.fin p.1).st.pending.getD 0) > 0) with
    | p :: _ =>
      some s!"tls-pending-stall: {p.1.name} (async, rxBufSize {p.2.rsz}) has {showOpt (s.fin p.1).st.pending} decrypted bytes pending inside the engine that the driver never delivers; received {(s.fin p.1).got.length}"
    | [] =>
      let inits := s.eps.map (fun (p : Who × EpSt) =>
        s!"{p.1.name}:init={showOpt (s.fin p.1).st.init},got={(s.fin p.1).got.length},sent={showOpt (s.fin p.1).st.sent}")
      some s!"exchange did not complete (handshake or payload stuck): {inits}"
  else none

/-- after the last op every payload must have arrived in full -/
def completeClause (s : SpecSt) : Option String :=
  s.eps.findSome? fun (p : Who × EpSt) =>
    if (s.fin p.1).got ≠ s.peerPay p.1 then
      some s!"{p.1.name}: received {(s.fin p.1).got.length} of {(s.peerPay p.1).length} bytes"
    else if (s.fin p.1).st.init ≠ some 1 then some s!"{p.1.name}: handshake not finished at the end"
    else none

def orElse (a : Option String) (b : Unit → Option String) : Option String :=
  match a with
  | some m => some m
  | none => b ()

/-- the end-of-case part of Spec.C18 -/
def specFinal (s : SpecSt) : Option String :=
  orElse (wireClause s) fun _ =>
    if s.plain then plainClause s
    else orElse (healthyClause s) fun _ => orElse (stuckClause s) fun _ => completeClause s

def Obs.isAbort : Obs → Bool
  | .abort _ _ => true
  | _ => false

def specCheck (obs : List Obs) : Except String Unit :=
  match specRun {} obs with
  | .error m => .error m
  | .ok s =>
    match specFinal s with
    | some m => .error m
    | none => .ok ()

/-! ## the model's observations

The scenario of the harness, composed from the existing model functions (nothing is re-defined): up to two
endpoints `c`, `s`, each the glue model of `Model/Tls.lean` (`St`) - a synchronous one is driven by
`Tls.sendT` / `Tls.receiveT` with any timeout, an asynchronous one by `Tls.enqueue` and driver steps
`Tls.aQuery` + `Tls.aTask` - over an ABSTRACT engine `E : Engine σ` and an ABSTRACT kernel `W : World ω`.
(One engine and one world for both endpoints is no restriction: their states are separate, and a sum type with a
flag in the state gives each side its own behaviour - as `Hs.engine` does with `Hs.client`.)  The kernel is
wrapped by `obsWorld`, which records what the shim of the harness records: every `poll` with its timeout, its answer
and the clock when it was issued, and every `send` (the flag set of the library's `send` is `Net.sendNoSignal`,
extracted from the source on every run). -/

section Model
variable {σ ω : Type}

/-- one OS call as the shim logs it -/
inductive OsRec where
  | wait (t : Int) (ready : Bool) (before : Int)
  | send
  deriving DecidableEq, Repr

/-- any world, with a log of its `poll`s and `send`s (newest first) -/
def obsWorld (W : World ω) : World (ω × List OsRec) where
  wait x d t := ((W.wait x.1 d t).1, ((W.wait x.1 d t).2, .wait t (W.wait x.1 d t).1 (W.now x.1) :: x.2))
  send x bs := ((W.send x.1 bs).1, ((W.send x.1 bs).2, .send :: x.2))
  recv x n := ((W.recv x.1 n).1, ((W.recv x.1 n).2, x.2))
  now x := W.now x.1

abbrev MSt (σ ω : Type) := St σ (ω × List OsRec)

/-- one endpoint of the model -/
structure Ep (σ ω : Type) where
  async : Bool
  rsz : Nat
  a : Async := {}
  st : MSt σ ω
  /-- everything handed to the application so far -/
  got : Bytes := []
  /-- an exception left a call / the disconnect handler ran (what the harness prints as `failed=`) -/
  failed : Bool := false

structure Sys (σ ω : Type) where
  c : Option (Ep σ ω) := none
  s : Option (Ep σ ω) := none
  plain : Bool := false
  marker : Bytes := []
  cpay : Bytes := []
  spay : Bytes := []

/-- configuration, kernel and engine -/
structure Env (σ ω : Type) where
  C : Cfg
  W : World ω
  E : Engine σ

def Ep.init (cfg : EpCfg) (e : σ) (w : ω) : Ep σ ω :=
  { async := cfg.async, rsz := cfg.rsz, st := { g := {}, e := e, w := (w, []) } }

def Sys.ep? (m : Sys σ ω) : Who → Option (Ep σ ω)
  | .c => m.c
  | .s => m.s
  | .other _ => none

def Sys.setEp (m : Sys σ ω) : Who → Ep σ ω → Sys σ ω
  | .c, e => { m with c := some e }
  | .s, e => { m with s := some e }
  | .other _, _ => m

/-- the logs of the call that is about to start are empty (ghost state only) -/
def fresh (s : MSt σ ω) : MSt σ ω := { s with g := { s.g with engCalls := [] }, w := (s.w.1, []) }

def osObs (who : Who) : OsRec → Obs
  | .wait t r _ => .poll who t r
  | .send => .send who sendNoSignal

def callObs (who : Who) (c : EngCall) : Obs := .sslret who c.ans.isDone c.initAfter

/-- what one call shows below (kernel) and beside (engine) the glue.  The two logs are separate in the model, so
the kernel events are listed first; the clauses on them touch disjoint parts of the observer's state. -/
def evObs (who : Who) (s : MSt σ ω) : List Obs :=
  s.w.2.reverse.map (osObs who) ++ s.g.engCalls.reverse.map (callObs who)

def sendRet (who : Who) : Out Nat → Obs
  | .ok n => .ret who (.n n)
  | .exn _ => .ret who .threw
  | .abort m => .abort .crash m

def recvRet (who : Who) : Out Bytes → Obs
  | .ok [] => .ret who .other
  | .ok (b :: bs) => .ret who (.n (b :: bs).length)
  | .exn _ => .ret who .threw
  | .abort m => .abort .crash m

def isExn {α : Type} : Out α → Bool
  | .exn _ => true
  | _ => false

def outBytes : Out Bytes → Bytes
  | .ok bs => bs
  | _ => []

/-- `Send(data, T)` of a synchronous endpoint -/
def epSend (V : Env σ ω) (who : Who) (ep : Ep σ ω) (data : Bytes) (T : Int) : Ep σ ω × List Obs :=
  let r := sendT V.C (obsWorld V.W) V.E (fresh ep.st) data T
  ({ ep with st := r.2, failed := ep.failed || isExn r.1 },
   .api who .send (some T) :: (evObs who r.2 ++ [sendRet who r.1]))

/-- `Receive(T)` of a synchronous endpoint into a buffer of `rsz` bytes -/
def epRecv (V : Env σ ω) (who : Who) (ep : Ep σ ω) (T : Int) : Ep σ ω × List Obs :=
  let r := receiveT V.C (obsWorld V.W) V.E (fresh ep.st) ep.rsz T
  ({ ep with st := r.2, got := ep.got ++ outBytes r.1, failed := ep.failed || isExn r.1 },
   .api who .recv (some T) :: (evObs who r.2 ++ [recvRet who r.1]))

/-- the driver of an asynchronous endpoint, as the transcript names it -/
def drv : Who → Who
  | .c => .other "dc"
  | .s => .other "ds"
  | w => w

def stepRet (who : Who) : Out Unit → Obs
  | .ok _ => .ret (drv who) .other
  | .exn _ => .ret (drv who) .threw
  | .abort m => .abort .crash m

/-- one `Driver::Step` that serves this asynchronous endpoint: `DriverQuery`, then `DoOneSocketTask` for what `poll`
reported (`first`: the socket is the one `QuerySockets` returned - decrypted data is held already) -/
def epStep (V : Env σ ω) (who : Who) (ep : Ep σ ω) (rev : REvents) (first : Bool) : Ep σ ω × List Obs :=
  let q := aQuery V.E { a := ep.a, s := fresh ep.st }
  let r := aTask V.C (obsWorld V.W) V.E ep.rsz q (if first then forcedRev V.E q rev else rev)
  let newD := (r.2.a.delivered.take (r.2.a.delivered.length - ep.a.delivered.length)).reverse
  let nd := r.2.a.disconnects - ep.a.disconnects
  ({ ep with a := r.2.a, st := r.2.s, got := ep.got ++ newD.flatten,
             failed := ep.failed || isExn r.1 || decide (0 < nd) },
   .api (drv who) .other none ::
     (evObs who r.2.s ++ newD.map (fun bs => Obs.rx who bs.length) ++ List.replicate nd (Obs.disc who) ++ [stepRet who r.1]))

/-- a history is a list of these, in any order and of any length -/
inductive Op where
  | send (who : Who) (data : Bytes) (T : Int)
  | recv (who : Who) (T : Int)
  | enq (who : Who) (buf : Bytes)
  | step (who : Who) (rev : REvents) (first : Bool)
  deriving Repr

/-- one operation; an operation the harness would not perform (no such endpoint, wrong API level) does nothing -/
def sysStep (V : Env σ ω) (m : Sys σ ω) : Op → Sys σ ω × List Obs
  | .send who data T =>
    match m.ep? who with
    | some ep => if ep.async then (m, []) else ((m.setEp who (epSend V who ep data T).1), (epSend V who ep data T).2)
    | none => (m, [])
  | .recv who T =>
    match m.ep? who with
    | some ep => if ep.async then (m, []) else ((m.setEp who (epRecv V who ep T).1), (epRecv V who ep T).2)
    | none => (m, [])
  | .enq who buf =>
    match m.ep? who with
    | some ep =>
      if ep.async then (m.setEp who { ep with a := (enqueue { a := ep.a, s := ep.st } buf).a }, []) else (m, [])
    | none => (m, [])
  | .step who rev first =>
    match m.ep? who with
    | some ep => if ep.async then ((m.setEp who (epStep V who ep rev first).1), (epStep V who ep rev first).2) else (m, [])
    | none => (m, [])

def modelOps (V : Env σ ω) (m : Sys σ ω) : List Op → Sys σ ω × List Obs
  | [] => (m, [])
  | op :: rest => ((modelOps V (sysStep V m op).1 rest).1, (sysStep V m op).2 ++ (modelOps V (sysStep V m op).1 rest).2)

def epCfg (ep : Ep σ ω) : EpCfg := ⟨ep.async, ep.rsz⟩

def setupObs (m : Sys σ ω) : List Obs :=
  [.setup (m.c.map epCfg) (m.s.map epCfg) m.plain, .payload m.marker m.cpay m.spay]

def epFinal (V : Env σ ω) (who : Who) (ep : Ep σ ω) : List Obs :=
  [.wire who ep.st.g.wire, .got who ep.got,
   .state who { init := some (if V.E.initFinished ep.st.e then 1 else 0), failed := ep.failed,
                pending := some (if V.E.pending ep.st.e then 1 else 0) }]

def finalObs (V : Env σ ω) (m : Sys σ ω) : List Obs :=
  (match m.c with | some ep => epFinal V .c ep | none => []) ++ (match m.s with | some ep => epFinal V .s ep | none => [])

/-- the observations of the MODEL for a history -/
def modelTrace (V : Env σ ω) (m : Sys σ ω) (history : List Op) : List Obs :=
  setupObs m ++ (modelOps V m history).2 ++ finalObs V (modelOps V m history).1

end Model

/-! ## the proof: `specRun` accepts every trace of the model -/

section Proof
variable {σ ω : Type}

/-! ### running the predicate over pieces of a trace -/

theorem specRun_append (a : List Obs) : ∀ (s : SpecSt) (b : List Obs),
    specRun s (a ++ b) = match specRun s a with | .error m => .error m | .ok s' => specRun s' b := by
  induction a with
  | nil => intro s b; rfl
  | cons o rest ih =>
    intro s b
    simp only [List.cons_append, specRun]
    cases specStep s o with
    | error m => rfl
    | ok s' => exact ih s' b

theorem setEp_self {sp : SpecSt} {who : Who} {ep : EpSt} (h : sp.ep? who = some ep) : sp.setEp who ep = sp := by
  cases who <;> simp only [SpecSt.ep?, SpecSt.setEp] at h ⊢
  · cases sp; simp_all
  · cases sp; simp_all

theorem ep?_setEp {sp : SpecSt} {who : Who} {ep e : EpSt} (h : sp.ep? who = some ep) : (sp.setEp who e).ep? who = some e := by
  cases who <;> simp_all [SpecSt.ep?, SpecSt.setEp]

theorem setEp_setEp (sp : SpecSt) (who : Who) (a b : EpSt) : (sp.setEp who a).setEp who b = sp.setEp who b := by
  cases who <;> rfl

theorem plain_setEp (sp : SpecSt) (who : Who) (a : EpSt) : (sp.setEp who a).plain = sp.plain := by
  cases who <;> rfl

theorem onEp_some {sp : SpecSt} {who : Who} {ep : EpSt} (h : sp.ep? who = some ep) (f : EpSt → Except String EpSt) :
    onEp sp who f = match f ep with | .error m => .error m | .ok e => .ok (sp.setEp who e) := by
  unfold onEp; rw [h]

/-- the condition of `pollClause` -/
def waitCond (T spent t : Int) : Prop :=
  if T < 0 then t < 0 else if T = 0 then t = 0 else (0 ≤ t ∧ spent + t ≤ T)

/-- `spent` after a wait `poll(t)` that came back `rd`: only a limited call (`0 < T`) keeps count, and only of waits that timed out -/
def acc (T spent t : Int) (rd : Bool) : Int := if 0 < T then spent + (if rd then 0 else t) else spent

theorem pollClause_ok (who : Who) (ep : EpSt) (T t : Int) (rd : Bool) (h : waitCond T ep.spent t) :
    pollClause who ep T t rd = .ok { ep with spent := acc T ep.spent t rd } := by
  unfold waitCond at h
  unfold pollClause acc
  by_cases h1 : T < 0
  · rw [if_pos h1] at h
    have a : ¬ t ≥ 0 := by omega
    have b : ¬ 0 < T := by omega
    simp only [h1, a, b, if_true, if_false]
  · rw [if_neg h1] at h
    by_cases h2 : T = 0
    · rw [if_pos h2] at h
      subst h2
      subst h
      simp
    · rw [if_neg h2] at h
      have a : ¬ t < 0 := by omega
      have b : 0 < T := by omega
      have c : ¬ ep.spent + t > T := by omega
      simp only [h1, h2, a, b, c, if_true, if_false]

/-- the waits of a call, oldest first, satisfy the clause from `spent` on -/
def okO (T : Int) : Int → List OsRec → Prop
  | _, [] => True
  | sp, .send :: r => okO T sp r
  | sp, .wait t rd _ :: r => waitCond T sp t ∧ okO T (acc T sp t rd) r

theorem run_os (who : Who) (T : Int) : ∀ (l : List OsRec) (sp : SpecSt) (ep : EpSt) (tail : List Obs),
    sp.ep? who = some ep → ep.callT = some T → okO T ep.spent l →
    ∃ x, specRun sp (l.map (osObs who) ++ tail) = specRun (sp.setEp who { ep with spent := x }) tail := by
  intro l
  induction l with
  | nil => intro sp ep tail h _ _; exact ⟨ep.spent, by rw [setEp_self h]; rfl⟩
  | cons o rest ih =>
    intro sp ep tail h hT hok
    cases o with
    | send =>
      obtain ⟨x, hx⟩ := ih sp ep tail h hT hok
      refine ⟨x, ?_⟩
      simp only [List.map_cons, List.cons_append, specRun, osObs, specStep, sendNoSignal_true, if_true]
      exact hx
    | wait t rd b =>
      obtain ⟨hc, hrest⟩ := hok
      have hstep : specStep sp (.poll who t rd) = .ok (sp.setEp who { ep with spent := acc T ep.spent t rd }) := by
        have hp := pollClause_ok who ep T t rd hc
        simp only [specStep, onEp, h, hT, hp]
      obtain ⟨x, hx⟩ := ih (sp.setEp who { ep with spent := acc T ep.spent t rd }) { ep with spent := acc T ep.spent t rd } tail
        (ep?_setEp h) hT hrest
      refine ⟨x, ?_⟩
      simp only [List.map_cons, List.cons_append, specRun, osObs, hstep]
      rw [hx, setEp_setEp]

/-- outside a synchronous call (`callT = none`) the kernel events pass -/
theorem run_os_idle (who : Who) : ∀ (l : List OsRec) (sp : SpecSt) (tail : List Obs),
    (∀ ep, sp.ep? who = some ep → ep.callT = none) →
    specRun sp (l.map (osObs who) ++ tail) = specRun sp tail := by
  intro l
  induction l with
  | nil => intro sp tail _; rfl
  | cons o rest ih =>
    intro sp tail h
    cases o with
    | send =>
      simp only [List.map_cons, List.cons_append, specRun, osObs, specStep, sendNoSignal_true, if_true]
      exact ih sp tail h
    | wait t rd b =>
      have hstep : specStep sp (.poll who t rd) = .ok sp := by
        simp only [specStep, onEp]
        cases he : sp.ep? who with
        | none => rfl
        | some ep => simp only [h ep he, setEp_self he]
      simp only [List.map_cons, List.cons_append, specRun, osObs, hstep]
      exact ih sp tail h

/-- `lastDoneInit` after the engine answers `l` (oldest first) -/
def lastDI (d : Bool) : List EngCall → Bool
  | [] => d
  | c :: r => lastDI (c.ans.isDone && c.initAfter) r

theorem lastDI_snoc (d : Bool) (l : List EngCall) (c : EngCall) : lastDI d (l ++ [c]) = (c.ans.isDone && c.initAfter) := by
  induction l generalizing d with
  | nil => rfl
  | cons x r ih => exact ih _

theorem run_calls (who : Who) : ∀ (l : List EngCall) (sp : SpecSt) (ep : EpSt) (tail : List Obs),
    sp.ep? who = some ep →
    specRun sp (l.map (callObs who) ++ tail) = specRun (sp.setEp who { ep with lastDoneInit := lastDI ep.lastDoneInit l }) tail := by
  intro l
  induction l with
  | nil => intro sp ep tail h; rw [show ({ ep with lastDoneInit := lastDI ep.lastDoneInit [] } : EpSt) = ep from rfl, setEp_self h]; rfl
  | cons c rest ih =>
    intro sp ep tail h
    have hstep : specStep sp (callObs who c) = .ok (sp.setEp who { ep with lastDoneInit := c.ans.isDone && c.initAfter }) := by
      simp only [callObs, specStep]
      rw [onEp_some h]
    simp only [List.map_cons, List.cons_append, specRun, hstep]
    rw [ih _ { ep with lastDoneInit := c.ans.isDone && c.initAfter } tail (ep?_setEp h), setEp_setEp]
    rfl

/-! ### from the newest-first log of the model to the oldest-first run of the predicate -/

/-- what the timed-out waits of a log (any order) add up to -/
def spentOf : List OsRec → Int
  | [] => 0
  | .send :: r => spentOf r
  | .wait t rd _ :: r => spentOf r + (if rd then 0 else t)

/-- newest first: every wait satisfies the clause with what the OLDER waits consumed -/
def okN (T : Int) : List OsRec → Prop
  | [] => True
  | .send :: r => okN T r
  | .wait t _ _ :: r => waitCond T (if 0 < T then spentOf r else 0) t ∧ okN T r

def accL (T : Int) : Int → List OsRec → Int
  | sp, [] => sp
  | sp, .send :: r => accL T sp r
  | sp, .wait t rd _ :: r => accL T (acc T sp t rd) r

theorem accL_append (T : Int) (a b : List OsRec) : ∀ sp, accL T sp (a ++ b) = accL T (accL T sp a) b := by
  induction a with
  | nil => intro sp; rfl
  | cons x r ih => intro sp; cases x <;> simp only [List.cons_append, accL, ih]

theorem accL_rev (T : Int) (l : List OsRec) : accL T 0 l.reverse = if 0 < T then spentOf l else 0 := by
  induction l with
  | nil => simp [accL, spentOf]
  | cons x r ih =>
    rw [List.reverse_cons, accL_append, ih]
    cases x with
    | send => simp only [accL, spentOf]
    | wait t rd b =>
      simp only [accL, spentOf, acc]
      by_cases h : 0 < T <;> simp [h]

theorem okO_snoc (T : Int) (x : OsRec) : ∀ (l : List OsRec) (sp : Int), okO T sp l → okO T (accL T sp l) [x] → okO T sp (l ++ [x]) := by
  intro l
  induction l with
  | nil => intro sp _ h; exact h
  | cons y r ih =>
    intro sp h1 h2
    cases y with
    | send => exact ih sp h1 h2
    | wait t rd b => exact ⟨h1.1, ih _ h1.2 h2⟩

theorem okO_of_okN (T : Int) (l : List OsRec) (h : okN T l) : okO T 0 l.reverse := by
  induction l with
  | nil => trivial
  | cons x r ih =>
    rw [List.reverse_cons]
    cases x with
    | send => exact okO_snoc T _ _ _ (ih h) trivial
    | wait t rd b =>
      refine okO_snoc T _ _ _ (ih h.2) ?_
      rw [accL_rev]
      exact ⟨h.1, trivial⟩

/-! ### the kernel log and the wait log of `TlsLog` move in step; the virtual clock

The observations are read off `obsWorld` (`OsRec`: waits with their answer, and sends); the budget frames of
Model/TlsBudget.lean speak of `logWorld` (`WaitRec`).  Instead of a second set of frames the call is run on
`logWorld (obsWorld W)`; `LInv` keeps the two logs in step and adds what only the kernel log knows (what the timed-out
waits add up to). -/

/-- A-CLOCK (`ClockOk`, Model/TlsBudget.lean) and: a wait that times out has waited for its whole timeout (under the
virtual clock of the harness: exactly that long; the predicate's notion of "consumed" is this) -/
structure VClock (W : World ω) : Prop where
  ok : ClockOk W
  full : ∀ w d t, (W.wait w d t).1 = false → W.now w + t ≤ W.now (W.wait w d t).2

theorem VClock.obs {W : World ω} (h : VClock W) : ClockOk (obsWorld W) where
  wait_mono := fun x d t => h.ok.wait_mono x.1 d t
  wait_le := fun x d t ht => h.ok.wait_le x.1 d t ht
  send_now := fun x bs => h.ok.send_now x.1 bs
  recv_now := fun x n => h.ok.recv_now x.1 n

/-- the waits of a kernel log as (timeout, clock when issued): what a `WaitRec` log holds of them -/
def waitPairs : List OsRec → List (Int × Int)
  | [] => []
  | .send :: r => waitPairs r
  | .wait t _ b :: r => (t, b) :: waitPairs r

/-- every wait was issued no earlier than entry + what the older waits consumed -/
def AllLB (c0 : Int) : List OsRec → Prop
  | [] => True
  | .send :: r => AllLB c0 r
  | .wait _ _ b :: r => c0 + spentOf r ≤ b ∧ AllLB c0 r

def LInv (W : World ω) (c0 : Int) (x : (ω × List OsRec) × List WaitRec) : Prop :=
  x.2.map (fun r => (r.timeout, r.before)) = waitPairs x.1.2 ∧ AllLB c0 x.1.2 ∧ c0 + spentOf x.1.2 ≤ W.now x.1.1

theorem lInv_world {W : World ω} (hW : VClock W) (c0 : Int) : WorldInv (logWorld (obsWorld W)) (LInv W c0) where
  wait := by
    intro x d t ⟨h1, h2, h3⟩
    refine ⟨?_, ⟨h3, h2⟩, ?_⟩
    · show (t, W.now x.1.1) :: x.2.map (fun r => (r.timeout, r.before)) = (t, W.now x.1.1) :: waitPairs x.1.2
      rw [h1]
    · show c0 + (spentOf x.1.2 + (if (W.wait x.1.1 d t).1 then 0 else t)) ≤ W.now (W.wait x.1.1 d t).2
      have hm := hW.ok.wait_mono x.1.1 d t
      cases hr : (W.wait x.1.1 d t).1 with
      | true => simp only [if_true]; omega
      | false => have := hW.full x.1.1 d t hr; simp only [Bool.false_eq_true, if_false]; omega
  send := by
    intro x bs ⟨h1, h2, h3⟩
    refine ⟨h1, h2, ?_⟩
    show c0 + spentOf x.1.2 ≤ W.now (W.send x.1.1 bs).2
    rw [hW.ok.send_now]; exact h3
  recv := by
    intro x n ⟨h1, h2, h3⟩
    refine ⟨h1, h2, ?_⟩
    show c0 + spentOf x.1.2 ≤ W.now (W.recv x.1.1 n).2
    rw [hW.ok.recv_now]; exact h3

theorem frame_of_worldInv {W : World ω} {I : ω → Prop} (V : WorldInv W I) : Frame W (fun s : St σ ω => I s.w) :=
  Frame.ofWorldInv V

theorem okN_of (T c0 : Int) : ∀ (l : List OsRec), (0 < T → AllLB c0 l) →
    (∀ p ∈ waitPairs l, (T < 0 → p.1 < 0) ∧ (T = 0 → p.1 = 0) ∧ (0 < T → 0 ≤ p.1 ∧ p.1 ≤ T - (p.2 - c0))) → okN T l := by
  intro l
  induction l with
  | nil => intro _ _; trivial
  | cons x r ih =>
    intro hlb hp
    cases x with
    | send => exact ih hlb hp
    | wait t rd b =>
      have hr := ih (fun h => (hlb h).2) (fun p hm => hp p (List.mem_cons_of_mem _ hm))
      refine ⟨?_, hr⟩
      obtain ⟨p1, p2, p3⟩ := hp (t, b) (List.mem_cons_self ..)
      unfold waitCond
      by_cases h1 : T < 0
      · rw [if_pos h1]; exact p1 h1
      · rw [if_neg h1]
        by_cases h2 : T = 0
        · rw [if_pos h2]; exact p2 h2
        · have hT : 0 < T := by omega
          rw [if_neg h2, if_pos hT]
          have := (hlb hT).1
          have := p3 hT
          simp only at *
          omega

theorem polls_core {W : World ω} (c0 T : Int) (x : (ω × List OsRec) × List WaitRec) (hI : LInv W c0 x)
    (hb : ∀ r ∈ x.2, (T < 0 → r.timeout < 0) ∧ (T = 0 → r.timeout = 0) ∧
      (0 < T → 0 ≤ r.timeout ∧ r.timeout ≤ T - (r.before - c0))) : okN T x.1.2 := by
  obtain ⟨h1, h2, _⟩ := hI
  refine okN_of T c0 _ (fun _ => h2) ?_
  intro p hp
  rw [← h1] at hp
  obtain ⟨r, hr, rfl⟩ := List.mem_map.mp hp
  exact hb r hr

/-- the three budget frames of `Model/TlsBudget.lean` at the end of a call that started with empty logs -/
theorem polls_of_frames {W : World ω} (T c0 : Int) (sL : LSt σ (ω × List OsRec)) (hI : LInv W c0 sL.w)
    (h1 : T < 0 → UnlInv T [] sL) (h2 : T = 0 → ZeroInv (obsWorld W) [] c0 sL)
    (h3 : 0 < T → LimGood (obsWorld W) (c0 + T) [] sL ∨ LimWeak (obsWorld W) (c0 + T) [] sL) : okN T sL.w.1.2 := by
  refine polls_core c0 T sL.w hI ?_
  intro r hr
  refine ⟨?_, ?_, ?_⟩
  · intro hT
    obtain ⟨_, new, hn, ha⟩ := h1 hT
    rw [hn, List.append_nil] at hr
    rcases ha r hr with h | h <;> omega
  · intro hT
    obtain ⟨_, ⟨new, hn, ha⟩, _⟩ := h2 hT
    rw [hn, List.append_nil] at hr
    exact ha r hr
  · intro hT
    have key : LogAll (InBudget (c0 + T)) [] sL.w.2 := by
      rcases h3 hT with h | h
      · exact h.2.2.1
      · exact h.2.2
    obtain ⟨new, hn, ha⟩ := key
    rw [hn, List.append_nil] at hr
    obtain ⟨a, b⟩ := ha r hr
    exact ⟨a, by omega⟩

theorem lInv_start {W : World ω} (s : MSt σ ω) (hs : s.w.2 = []) : LInv W (W.now s.w.1) (withLog s ([] : List WaitRec)).w := by
  show LInv W (W.now s.w.1) (s.w, [])
  refine ⟨?_, ?_, ?_⟩
  · rw [hs]; rfl
  · rw [hs]; trivial
  · rw [hs]; show W.now s.w.1 + 0 ≤ W.now s.w.1; omega

/-- the call enters only through what `Receive(T)` and `Send(T)` both obey: `r` on the kernel, `rL` on the kernel with the
`WaitRec` log -/
theorem call_polls {α : Type} (V : Env σ ω) (hW : VClock V.W) (hFS : V.E.FailStop) (s : MSt σ ω) (hs : s.w.2 = [])
    (hp : s.g.pendingError = none) (T : Int) (r : Out α × MSt σ ω) (rL : Out α × LSt σ (ω × List OsRec))
    (hu : unlog rL.2 = r.2)
    (hF : ∀ P, Frame (logWorld (obsWorld V.W)) P → P (withLog s []) → P rL.2)
    (hH : ∀ P Wk, HFrame (logWorld (obsWorld V.W)) V.E P Wk → P (setTimeout (withLog s []) T) → Post P Wk rL.1 rL.2) :
    okN T r.2.w.2 := by
  rw [← hu]
  refine polls_of_frames T (V.W.now s.w.1) rL.2
    (hF _ (frame_of_worldInv (σ := σ) (lInv_world hW (V.W.now s.w.1))) (lInv_start s hs)) ?_ ?_ ?_
  · intro hT
    exact post_same (hH _ _ (unlFrame (σ := σ) (obsWorld V.W) V.E T hT []) ⟨rfl, LogAll.refl _⟩)
  · intro hT
    subst hT
    exact post_same (hH _ _ (zeroFrame (σ := σ) (obsWorld V.W) V.E [] (V.W.now s.w.1)) ⟨rfl, LogAll.refl _, fun _ => rfl⟩)
  · intro hT
    rcases hH _ _ (limFrame (σ := σ) hW.obs V.E hFS (V.W.now s.w.1 + T) [])
      ⟨Int.le_of_lt hT, Int.le_refl _, LogAll.refl _, hp⟩ with h | ⟨h, _⟩
    · exact Or.inl h
    · exact Or.inr h

theorem recv_polls (V : Env σ ω) (hW : VClock V.W) (hFS : V.E.FailStop) (s : MSt σ ω) (hs : s.w.2 = [])
    (hp : s.g.pendingError = none) (n : Nat) (T : Int) :
    okN T (receiveT V.C (obsWorld V.W) V.E s n T).2.w.2 :=
  call_polls V hW hFS s hs hp T _ (receiveT V.C (logWorld (obsWorld V.W)) V.E (withLog s []) n T)
    (receiveT_unlog V.C (obsWorld V.W) V.E (withLog s []) n T).2
    (fun _ F h => F.receiveT V.C V.E _ n T h) (fun _ _ F h => F.receiveT V.C _ n T h)

theorem send_polls (V : Env σ ω) (hW : VClock V.W) (hFS : V.E.FailStop) (s : MSt σ ω) (hs : s.w.2 = [])
    (hp : s.g.pendingError = none) (data : Bytes) (T : Int) :
    okN T (sendT V.C (obsWorld V.W) V.E s data T).2.w.2 :=
  call_polls V hW hFS s hs hp T _ (sendT V.C (logWorld (obsWorld V.W)) V.E (withLog s []) data T)
    (sendT_unlog V.C (obsWorld V.W) V.E (withLog s []) data T).2
    (fun _ F h => F.sendT V.C V.E _ data T h) (fun _ _ F h => F.sendT V.C _ data T h)

/-! ### what a `Read` that hands out bytes leaves in the engine-call log -/

theorem readRound_done {W : World ω} (C : Cfg) (E : Engine σ) (Q : SslAns → Bytes → σ → Prop)
    (size : Nat) (hq : ∀ s, AllLeaves Q (E.sslRead s size)) (i : Nat) (s s' : St σ ω) (bs : Bytes)
    (h : readRound C W E size i s = (some (.ok bs), s')) :
    bs = [] ∨ ∃ k rest, Q (.done k) bs s'.e ∧ s'.g.engCalls = ⟨true, [], .done k, E.initFinished s'.e⟩ :: rest := by
  obtain ⟨ans, out, s1, hi, _, hQ⟩ := interp_ok (W := W) Q _ (hq s.e) s
  cases ans with
  | done k =>
    rw [readRound_done_eq hi] at h
    cases h
    exact Or.inr ⟨k, s1.g.engCalls, hQ, rfl⟩
  | _ =>
    rw [readRound_retry_eq hi rfl] at h
    exact Or.inl (readRetry_ok h)

theorem readLoop_done {W : World ω} (C : Cfg) (E : Engine σ) (Q : SslAns → Bytes → σ → Prop)
    (size : Nat) (hq : ∀ s, AllLeaves Q (E.sslRead s size)) :
    ∀ (i : Nat) (s s' : St σ ω) (bs : Bytes), readLoop C W E size i s = (.ok bs, s') →
      bs = [] ∨ ∃ k rest, Q (.done k) bs s'.e ∧ s'.g.engCalls = ⟨true, [], .done k, E.initFinished s'.e⟩ :: rest := by
  intro i
  induction i with
  | zero => intro s s' bs h; simp only [readLoop, Prod.mk.injEq, Out.ok.injEq] at h; left; exact h.1.symm
  | succ i ih =>
    intro s s' bs h
    unfold readLoop at h
    split at h
    · rename_i o s1 heq
      simp only [Prod.mk.injEq] at h
      obtain ⟨rfl, rfl⟩ := h
      exact readRound_done C E Q size hq i s _ bs heq
    · rename_i s1 heq
      exact ih s1 s' bs h

theorem tlsRead_done {W : World ω} (C : Cfg) (E : Engine σ) (Q : SslAns → Bytes → σ → Prop)
    (size : Nat) (hq : ∀ s, AllLeaves Q (E.sslRead s size)) (s s' : St σ ω) (bs : Bytes)
    (h : tlsRead C W E s size = (.ok bs, s')) :
    bs = [] ∨ ∃ k rest, Q (.done k) bs s'.e ∧ s'.g.engCalls = ⟨true, [], .done k, E.initFinished s'.e⟩ :: rest := by
  unfold tlsRead at h
  split at h
  · exact readLoop_done C E Q size hq _ _ s' bs h
  · simp only [Prod.mk.injEq, Out.ok.injEq] at h; left; exact h.1.symm
  · simp at h
  · simp at h

theorem receiveT_done {W : World ω} (C : Cfg) (E : Engine σ) (Q : SslAns → Bytes → σ → Prop)
    (size : Nat) (hq : ∀ s, AllLeaves Q (E.sslRead s size)) (s s' : St σ ω) (t : Int) (bs : Bytes) (hbs : bs ≠ [])
    (h : receiveT C W E s size t = (.ok bs, s')) :
    ∃ k rest, Q (.done k) bs s'.e ∧ s'.g.engCalls = ⟨true, [], .done k, E.initFinished s'.e⟩ :: rest :=
  (tlsRead_done C E Q size hq _ s' bs (receiveT_ok_ne hbs h)).resolve_left hbs

theorem receiveReadable_done {W : World ω} (C : Cfg) (E : Engine σ) (Q : SslAns → Bytes → σ → Prop)
    (size : Nat) (hq : ∀ s, AllLeaves Q (E.sslRead s size)) (s s' : St σ ω) (bs : Bytes) (hbs : bs ≠ [])
    (h : receiveReadable C W E s size = (.ok bs, s')) :
    ∃ k rest, Q (.done k) bs s'.e ∧ s'.g.engCalls = ⟨true, [], .done k, E.initFinished s'.e⟩ :: rest :=
  (tlsRead_done C E Q size hq _ s' bs (receiveReadable_ok_ne hbs h)).resolve_left hbs

/-! ### one synchronous call -/

/-- **the engine contract (A-SSL)** the theorem needs, decidable on finite instances:
* `read`: an `SSL_read` hands out plaintext (`done`) only once the handshake is finished, and never when the peer does
  not speak TLS (the `plain` scenarios);
* `failStop` (`Model/TlsBudget.lean`): after a failed BIO callback the engine makes no further BIO call and reports
  no success, and it never writes zero bytes - needed by the limited budget (`Props/C18.lean:
  stale_budget_after_callback_failure`, `stale_budget_after_empty_write` show what happens otherwise). -/
structure EngOk (E : Engine σ) (plain : Bool) : Prop where
  read : ∀ s n, AllLeaves (fun a _ s' => a.isDone = true → (E.initFinished s' = true ∧ plain = false)) (E.sslRead s n)
  failStop : E.FailStop

theorem api_step (sp : SpecSt) (who : Who) (e : EpSt) (h : sp.ep? who = some e) (isRecv : Bool) (T : Int) :
    specStep sp (.api who (if isRecv then .recv else .send) (some T)) =
      .ok (sp.setEp who { e with recvOp := isRecv, callT := some T, spent := 0 }) := by
  cases isRecv <;> simp [specStep, onEp, h] <;> rfl

theorem specRun_cons_ok {s s' : SpecSt} {o : Obs} (h : specStep s o = .ok s') (rest : List Obs) :
    specRun s (o :: rest) = specRun s' rest := by
  simp only [specRun, h]

theorem call_head (who : Who) (isRecv : Bool) (T : Int) (sp : SpecSt) (e : EpSt) (hsp : sp.ep? who = some e)
    (st : MSt σ ω) (hpoll : okN T st.w.2) (tail : List Obs) :
    ∃ e3 : EpSt, specRun sp (.api who (if isRecv then .recv else .send) (some T) :: (evObs who st ++ tail)) =
        specRun (sp.setEp who e3) tail ∧
      e3.async = e.async ∧ e3.discSeen = e.discSeen ∧ e3.recvOp = isRecv ∧
      e3.lastDoneInit = lastDI e.lastDoneInit st.g.engCalls.reverse := by
  let e1 : EpSt := { e with recvOp := isRecv, callT := some T, spent := 0 }
  obtain ⟨x, hx⟩ := run_os who T st.w.2.reverse (sp.setEp who e1) e1
    (st.g.engCalls.reverse.map (callObs who) ++ tail) (ep?_setEp hsp) rfl (okO_of_okN T _ hpoll)
  refine ⟨{ e1 with spent := x, lastDoneInit := lastDI e.lastDoneInit st.g.engCalls.reverse }, ?_, rfl, rfl, rfl, rfl⟩
  rw [specRun_cons_ok (api_step sp who e hsp isRecv T),
    show evObs who st ++ tail = st.w.2.reverse.map (osObs who) ++ (st.g.engCalls.reverse.map (callObs who) ++ tail) by
      simp only [evObs, List.append_assoc],
    hx, run_calls who _ _ { e1 with spent := x } tail (ep?_setEp (ep?_setEp hsp)), setEp_setEp, setEp_setEp]

theorem ret_step (who : Who) (sp : SpecSt) (e e3 e4 : EpSt) (rr : Ret) (hsp : sp.ep? who = some e)
    (h : retClause who sp.plain e3 rr = .ok e4) (tail : List Obs) :
    specRun (sp.setEp who e3) ([Obs.ret who rr] ++ tail) = specRun (sp.setEp who e4) tail := by
  refine specRun_cons_ok ?_ tail
  simp only [specStep]
  rw [onEp_some (ep?_setEp hsp), plain_setEp, h]
  simp only [setEp_setEp]

theorem ok_recv (V : Env σ ω) (hW : VClock V.W) {plain : Bool} (hE : EngOk V.E plain) (who : Who) (ep : Ep σ ω) (T : Int)
    (sp : SpecSt) (e : EpSt) (tail : List Obs) (hsp : sp.ep? who = some e) (hpl : sp.plain = plain)
    (hst : ep.st.g.pendingError = none)
    (hna : ∀ m, (receiveT V.C (obsWorld V.W) V.E (fresh ep.st) ep.rsz T).1 ≠ .abort m) :
    ∃ e', specRun sp ((epRecv V who ep T).2 ++ tail) = specRun (sp.setEp who e') tail ∧
      e'.async = e.async ∧ e'.discSeen = e.discSeen ∧ e'.callT = none ∧
      (epRecv V who ep T).1.st.g.pendingError = none := by
  have hpoll := recv_polls V hW hE.failStop (fresh ep.st) rfl hst ep.rsz T
  have hstash := (no_stash_left V.C (obsWorld V.W) V.E hE.failStop (fresh ep.st) hst).1 ep.rsz T
  have hdone := fun bs s' hbs h => receiveT_done (W := obsWorld V.W) V.C V.E _ ep.rsz (fun s => hE.read s ep.rsz) (fresh ep.st) s' T bs hbs h
  simp only [epRecv]
  generalize receiveT V.C (obsWorld V.W) V.E (fresh ep.st) ep.rsz T = r at hpoll hstash hna hdone
  obtain ⟨e3, hhead, ha, hd, hro, hld⟩ := call_head who true T sp e hsp r.2 hpoll ([recvRet who r.1] ++ tail)
  rw [show (Obs.api who .recv (some T) :: (evObs who r.2 ++ [recvRet who r.1])) ++ tail =
    .api who (if true then .recv else .send) (some T) :: (evObs who r.2 ++ ([recvRet who r.1] ++ tail)) by
      simp only [List.cons_append, List.append_assoc, if_true], hhead]
  have hret : ∀ (e4 : EpSt) (rr : Ret), recvRet who r.1 = .ret who rr → retClause who plain e3 rr = .ok e4 →
      specRun (sp.setEp who e3) ([recvRet who r.1] ++ tail) = specRun (sp.setEp who e4) tail := by
    intro e4 rr hxr h4
    rw [hxr]; exact ret_step who sp e e3 e4 rr hsp (hpl ▸ h4) tail
  rcases r with ⟨o, s'⟩
  cases o with
  | abort m => exact absurd rfl (hna m)
  | exn ex => exact ⟨_, hret _ .threw rfl rfl, ha, hd, rfl, hstash⟩
  | ok bs =>
    cases bs with
    | nil => exact ⟨_, hret _ .other rfl rfl, ha, hd, rfl, hstash⟩
    | cons b bs =>
      obtain ⟨k, rest, hQ, hcalls⟩ := hdone (b :: bs) s' (by simp) rfl
      obtain ⟨hq, hp⟩ := hQ rfl
      have hl : e3.lastDoneInit = true := by
        rw [hld, hcalls, List.reverse_cons, lastDI_snoc]
        simp [SslAns.isDone, hq]
      refine ⟨{ e3 with callT := none }, hret _ (.n (b :: bs).length) rfl ?_, ha, hd, rfl, hstash⟩
      subst hp
      simp [retClause, hl, hro]

theorem ok_send (V : Env σ ω) (hW : VClock V.W) {plain : Bool} (hE : EngOk V.E plain) (who : Who) (ep : Ep σ ω)
    (data : Bytes) (T : Int) (sp : SpecSt) (e : EpSt) (tail : List Obs) (hsp : sp.ep? who = some e)
    (hst : ep.st.g.pendingError = none)
    (hna : ∀ m, (sendT V.C (obsWorld V.W) V.E (fresh ep.st) data T).1 ≠ .abort m) :
    ∃ e', specRun sp ((epSend V who ep data T).2 ++ tail) = specRun (sp.setEp who e') tail ∧
      e'.async = e.async ∧ e'.discSeen = e.discSeen ∧ e'.callT = none ∧
      (epSend V who ep data T).1.st.g.pendingError = none := by
  have hpoll := send_polls V hW hE.failStop (fresh ep.st) rfl hst data T
  have hstash := (no_stash_left V.C (obsWorld V.W) V.E hE.failStop (fresh ep.st) hst).2 data T
  simp only [epSend]
  generalize sendT V.C (obsWorld V.W) V.E (fresh ep.st) data T = r at hpoll hstash hna
  obtain ⟨e3, hhead, ha, hd, hro, _⟩ := call_head who false T sp e hsp r.2 hpoll ([sendRet who r.1] ++ tail)
  rw [show (Obs.api who .send (some T) :: (evObs who r.2 ++ [sendRet who r.1])) ++ tail =
    .api who (if false then .recv else .send) (some T) :: (evObs who r.2 ++ ([sendRet who r.1] ++ tail)) by
      simp only [List.cons_append, List.append_assoc, Bool.false_eq_true, if_false], hhead]
  have hret : ∀ (e4 : EpSt) (rr : Ret), sendRet who r.1 = .ret who rr → retClause who sp.plain e3 rr = .ok e4 →
      specRun (sp.setEp who e3) ([sendRet who r.1] ++ tail) = specRun (sp.setEp who e4) tail := by
    intro e4 rr hxr h4
    rw [hxr]; exact ret_step who sp e e3 e4 rr hsp h4 tail
  rcases r with ⟨o, s'⟩
  cases o with
  | abort m => exact absurd rfl (hna m)
  | exn ex => exact ⟨_, hret _ .threw rfl rfl, ha, hd, rfl, hstash⟩
  | ok n => exact ⟨{ e3 with callT := none }, hret _ (.n n) rfl (by simp [retClause, hro]), ha, hd, rfl, hstash⟩

/-! ### one step of the driver on an asynchronous endpoint -/

/-- what a task does to the ghost lists the observations are read from: at most one buffer is delivered - a non-empty
one, after an engine answer `done` with the handshake finished and a TLS peer -, at most one disconnect, and only
of a registered socket, which it unregisters -/
theorem aTask_facts {W : World ω} (C : Cfg) (E : Engine σ) {plain : Bool} (hE : EngOk E plain) (rsz : Nat)
    (x : ASt σ ω) (rev : REvents) :
    let r := aTask C W E rsz x rev
    (r.2.a.delivered = x.a.delivered ∨
      ∃ bs k rest, bs ≠ [] ∧ r.2.a.delivered = bs :: x.a.delivered ∧ plain = false ∧
        r.2.s.g.engCalls = ⟨true, [], .done k, true⟩ :: rest) ∧
    ((r.2.a.disconnects = x.a.disconnects ∧ (r.2.a.registered = true → x.a.registered = true)) ∨
      (x.a.registered = true ∧ r.2.a.disconnects = x.a.disconnects + 1 ∧ r.2.a.registered = false ∧
        r.2.a.delivered = x.a.delivered)) := by
  let Good : ASt σ ω → Prop := fun y =>
    (y.a.delivered = x.a.delivered ∨ ∃ bs k rest, bs ≠ [] ∧ y.a.delivered = bs :: x.a.delivered ∧ plain = false ∧
      y.s.g.engCalls = ⟨true, [], .done k, true⟩ :: rest) ∧
    ((y.a.disconnects = x.a.disconnects ∧ (y.a.registered = true → x.a.registered = true)) ∨
      (x.a.registered = true ∧ y.a.disconnects = x.a.disconnects + 1 ∧ y.a.registered = false ∧
        y.a.delivered = x.a.delivered))
  have same : ∀ y : ASt σ ω, y.a.delivered = x.a.delivered → y.a.disconnects = x.a.disconnects →
      y.a.registered = x.a.registered → Good y :=
    fun y h1 h2 h3 => ⟨Or.inl h1, Or.inl ⟨h2, fun hr => h3 ▸ hr⟩⟩
  show Good (aTask C W E rsz x rev).2
  refine aTask_route (motive := fun r => Good r.2) C E rsz x rev (same x rfl rfl rfl) ?_ ?_ ?_
  · intro hreg
    refine aReadable_route (motive := fun r => Good r.2) C E rsz x (fun _ => same _ rfl rfl rfl) ?_ ?_
    · intro bs s' hbs heq
      obtain ⟨k, rest, hQ, hcalls⟩ := receiveReadable_done C E _ rsz (fun s => hE.read s rsz) x.s s' bs hbs heq
      obtain ⟨hq, hp⟩ := hQ rfl
      exact ⟨Or.inr ⟨bs, k, rest, hbs, rfl, hp, by rw [hcalls, hq]⟩, Or.inl ⟨rfl, fun h => h⟩⟩
    · exact ⟨Or.inl rfl, Or.inr ⟨hreg, rfl, rfl, rfl⟩⟩
  · intro _ _
    obtain ⟨h1, h2, h3⟩ := aWritable_keeps (W := W) C E x
    exact same _ h1 h2 h3
  · intro hreg
    exact ⟨Or.inl rfl, Or.inr ⟨hreg, rfl, rfl, rfl⟩⟩

theorem drv_none (sp : SpecSt) (who : Who) : sp.ep? (drv who) = none := by cases who <;> rfl

theorem rx_ok (sp : SpecSt) (who : Who) (e : EpSt) (n : Nat) (h : sp.ep? who = some e) (hl : e.lastDoneInit = true)
    (hp : sp.plain = false) (hn : n ≠ 0) : specStep sp (.rx who n) = .ok sp := by
  simp only [specStep]
  rw [onEp_some h]
  simp [rxClause, hn, hl, hp, setEp_self h]

theorem disc_ok (sp : SpecSt) (who : Who) (e : EpSt) (h : sp.ep? who = some e) (h0 : e.discSeen = 0) :
    specStep sp (.disc who) = .ok (sp.setEp who { e with discSeen := 1 }) := by
  simp only [specStep]
  rw [onEp_some h]
  simp [discClause, h0]

theorem ok_step (V : Env σ ω) {plain : Bool} (hE : EngOk V.E plain) (who : Who) (ep : Ep σ ω) (rev : REvents) (first : Bool)
    (sp : SpecSt) (e : EpSt) (tail : List Obs) (hsp : sp.ep? who = some e) (hpl : sp.plain = plain)
    (hidle : e.callT = none) (hdisc : e.discSeen = ep.a.disconnects) (hreg : ep.a.registered = true → ep.a.disconnects = 0)
    (hna : ∀ o ∈ (epStep V who ep rev first).2, o.isAbort = false) :
    ∃ e', specRun sp ((epStep V who ep rev first).2 ++ tail) = specRun (sp.setEp who e') tail ∧
      e'.async = e.async ∧ e'.callT = none ∧ e'.discSeen = (epStep V who ep rev first).1.a.disconnects ∧
      ((epStep V who ep rev first).1.a.registered = true → (epStep V who ep rev first).1.a.disconnects = 0) := by
  simp only [epStep] at hna ⊢
  have hq := aQuery_keeps V.E ({ a := ep.a, s := fresh ep.st } : ASt σ (ω × List OsRec))
  generalize aQuery V.E { a := ep.a, s := fresh ep.st } = q at hq hna ⊢
  obtain ⟨q1, q2, q3, _, _, _⟩ := hq
  simp only at q1 q2 q3
  have hf := aTask_facts (W := obsWorld V.W) V.C V.E hE ep.rsz q (if first = true then forcedRev V.E q rev else rev)
  dsimp only at hf
  generalize aTask V.C (obsWorld V.W) V.E ep.rsz q (if first = true then forcedRev V.E q rev else rev) = r at hf hna ⊢
  obtain ⟨hD, hX⟩ := hf
  rw [q1] at hD
  rw [q2, q3] at hX
  -- the driver's own lines and the events of the task
  let e2 : EpSt := { e with lastDoneInit := lastDI e.lastDoneInit r.2.s.g.engCalls.reverse }
  have hhead : ∀ (RX DISC : List Obs), specRun sp (.api (drv who) .other none ::
        (evObs who r.2.s ++ RX ++ DISC ++ [stepRet who r.1]) ++ tail) =
      specRun (sp.setEp who e2) (RX ++ (DISC ++ ([stepRet who r.1] ++ tail))) := by
    intro RX DISC
    have h1 : specStep sp (.api (drv who) .other none) = .ok sp := by simp [specStep, onEp, drv_none]
    rw [List.cons_append, specRun_cons_ok h1]
    rw [show (evObs who r.2.s ++ RX ++ DISC ++ [stepRet who r.1]) ++ tail = r.2.s.w.2.reverse.map (osObs who) ++
      (r.2.s.g.engCalls.reverse.map (callObs who) ++ (RX ++ (DISC ++ ([stepRet who r.1] ++ tail)))) by
        simp only [evObs, List.append_assoc]]
    rw [run_os_idle who _ sp _ (by intro ep' h'; rw [hsp] at h'; cases h'; exact hidle)]
    rw [run_calls who _ sp e _ hsp]
  have he2 : (sp.setEp who e2).ep? who = some e2 := ep?_setEp hsp
  have hretok : ∀ (sp' : SpecSt), specRun sp' ([stepRet who r.1] ++ tail) = specRun sp' tail := by
    intro sp'
    have hnr : (stepRet who r.1).isAbort = false := hna _ (by simp)
    have : specStep sp' (stepRet who r.1) = .ok sp' := by
      rcases r with ⟨o, x'⟩
      cases o with
      | ok u => simp [stepRet, specStep, onEp, drv_none]
      | exn ex => simp [stepRet, specStep, onEp, drv_none]
      | abort m => simp [stepRet, Obs.isAbort] at hnr
    exact specRun_cons_ok this tail
  -- the receive handler ran not at all, or once with a non-empty buffer after `done`
  have hrx : ∀ rest', specRun (sp.setEp who e2)
      ((r.2.a.delivered.take (r.2.a.delivered.length - ep.a.delivered.length)).reverse.map (fun bs => Obs.rx who bs.length)
        ++ rest') = specRun (sp.setEp who e2) rest' := by
    intro rest'
    rcases hD with hD | ⟨bs, k, rest, hbs, hD, hpf, hcalls⟩
    · rw [hD]; simp
    · have hl : e2.lastDoneInit = true := by
        show lastDI e.lastDoneInit r.2.s.g.engCalls.reverse = true
        rw [hcalls, List.reverse_cons, lastDI_snoc]; rfl
      have hlen : bs.length ≠ 0 := fun h => hbs (List.eq_nil_of_length_eq_zero h)
      rw [hD]
      simp only [List.length_cons, Nat.add_sub_cancel_left, List.take_succ_cons, List.take_zero, List.reverse_cons,
        List.reverse_nil, List.nil_append, List.map_cons, List.map_nil, List.singleton_append]
      exact specRun_cons_ok (rx_ok _ who e2 _ he2 hl (by rw [plain_setEp, hpl, hpf]) hlen) rest'
  -- the disconnect handler ran not at all, or once, on a socket that was registered
  have hdc : ∃ e', (∀ rest', specRun (sp.setEp who e2)
        (List.replicate (r.2.a.disconnects - ep.a.disconnects) (Obs.disc who) ++ rest') = specRun (sp.setEp who e') rest') ∧
      e'.async = e.async ∧ e'.callT = none ∧ e'.discSeen = r.2.a.disconnects ∧
      (r.2.a.registered = true → r.2.a.disconnects = 0) := by
    rcases hX with ⟨hX, hX2⟩ | ⟨hr, hX, hX2, _⟩
    · refine ⟨e2, fun rest' => ?_, rfl, hidle, by show e.discSeen = _; omega, fun h => by have := hreg (hX2 h); omega⟩
      rw [show r.2.a.disconnects - ep.a.disconnects = 0 by omega]; rfl
    · have h0 : e2.discSeen = 0 := by show e.discSeen = 0; have := hreg hr; omega
      refine ⟨{ e2 with discSeen := 1 }, fun rest' => ?_, rfl, hidle, by show 1 = _; have := hreg hr; omega,
        fun h => by rw [hX2] at h; cases h⟩
      rw [show r.2.a.disconnects - ep.a.disconnects = 1 by omega]
      exact (specRun_cons_ok (disc_ok _ who e2 he2 h0) rest').trans (by rw [setEp_setEp])
  obtain ⟨e', hd, h1, h2, h3, h4⟩ := hdc
  exact ⟨e', by rw [hhead, hrx, hd, hretok], h1, h2, h3, h4⟩

/-! ### the simulation relation, induction over the history, the theorem -/

/-- what the observer's state `e` knows of the model's endpoint `m` between operations: no synchronous call is open, the
disconnect handler has run as often as the model says, no callback failure is stashed (entry condition of the limited budget) -/
structure EpRel (m : Ep σ ω) (e : EpSt) : Prop where
  async : e.async = m.async
  idle : m.async = true → e.callT = none
  disc : m.async = true → e.discSeen = m.a.disconnects
  reg : m.a.registered = true → m.a.disconnects = 0
  stash : m.async = false → m.st.g.pendingError = none

def OptRel : Option (Ep σ ω) → Option EpSt → Prop
  | none, none => True
  | some a, some b => EpRel a b
  | _, _ => False

/-- the simulation relation of `model_satisfies_spec_partial` -/
structure Rel (m : Sys σ ω) (sp : SpecSt) : Prop where
  plain : sp.plain = m.plain
  c : OptRel m.c sp.c
  s : OptRel m.s sp.s

theorem optRel_some {a : Ep σ ω} {o : Option EpSt} (h : OptRel (some a) o) : ∃ e, o = some e ∧ EpRel a e := by
  cases o with
  | none => exact absurd h (by simp [OptRel])
  | some e => exact ⟨e, rfl, h⟩

theorem rel_get {m : Sys σ ω} {sp : SpecSt} (hR : Rel m sp) {who : Who} {a : Ep σ ω} (h : m.ep? who = some a) :
    ∃ e, sp.ep? who = some e ∧ EpRel a e := by
  cases who with
  | c => simp only [Sys.ep?] at h; have := hR.c; rw [h] at this; exact optRel_some this
  | s => simp only [Sys.ep?] at h; have := hR.s; rw [h] at this; exact optRel_some this
  | other n => simp [Sys.ep?] at h

theorem rel_set {m : Sys σ ω} {sp : SpecSt} (hR : Rel m sp) {who : Who} {a a' : Ep σ ω} {e' : EpSt}
    (h : m.ep? who = some a) (hr : EpRel a' e') : Rel (m.setEp who a') (sp.setEp who e') := by
  cases who with
  | c => exact ⟨hR.plain, hr, hR.s⟩
  | s => exact ⟨hR.plain, hR.c, hr⟩
  | other n => simp [Sys.ep?] at h

theorem plain_setEpM (m : Sys σ ω) (who : Who) (a : Ep σ ω) : (m.setEp who a).plain = m.plain := by
  cases who <;> rfl

theorem rel_step {m : Sys σ ω} {sp : SpecSt} (hR : Rel m sp) {who : Who} {ep ep' : Ep σ ω} (hm : m.ep? who = some ep)
    {obs tail : List Obs}
    (h : ∀ e, sp.ep? who = some e → EpRel ep e →
      ∃ e', specRun sp (obs ++ tail) = specRun (sp.setEp who e') tail ∧ EpRel ep' e') :
    ∃ sp', specRun sp (obs ++ tail) = specRun sp' tail ∧ Rel (m.setEp who ep') sp' ∧ (m.setEp who ep').plain = m.plain := by
  obtain ⟨e, he, hr⟩ := rel_get hR hm
  obtain ⟨e', hrun, hr'⟩ := h e he hr
  exact ⟨sp.setEp who e', hrun, rel_set hR hm hr', plain_setEpM _ _ _⟩

theorem step_ok (V : Env σ ω) (hW : VClock V.W) (m : Sys σ ω) (hE : EngOk V.E m.plain) (sp : SpecSt) (op : Op)
    (tail : List Obs) (hR : Rel m sp) (hna : ∀ o ∈ (sysStep V m op).2, o.isAbort = false) :
    ∃ sp', specRun sp ((sysStep V m op).2 ++ tail) = specRun sp' tail ∧ Rel (sysStep V m op).1 sp' ∧
      (sysStep V m op).1.plain = m.plain := by
  have noop : ∃ sp', specRun sp (([] : List Obs) ++ tail) = specRun sp' tail ∧ Rel m sp' ∧ m.plain = m.plain :=
    ⟨sp, rfl, hR, rfl⟩
  cases op with
  | send who data T =>
    simp only [sysStep] at hna ⊢
    cases hm : m.ep? who with
    | none => exact noop
    | some ep =>
      rw [hm] at hna
      simp only at hna ⊢
      cases ha : ep.async with
      | true => exact noop
      | false =>
        simp only [ha, Bool.false_eq_true, if_false] at hna ⊢
        refine rel_step hR hm fun e he hr => ?_
        obtain ⟨e', hrun, h1, _, _, h4⟩ := ok_send V hW hE who ep data T sp e tail he (hr.stash ha)
          (fun mm hmm => by
            have := hna _ (List.mem_cons_of_mem _ (List.mem_append_right _ (List.mem_singleton_self _)))
            rw [hmm] at this; cases this)
        exact ⟨e', hrun, h1.trans hr.async, fun h => Bool.noConfusion (ha.symm.trans h),
          fun h => Bool.noConfusion (ha.symm.trans h), hr.reg, fun _ => h4⟩
  | recv who T =>
    simp only [sysStep] at hna ⊢
    cases hm : m.ep? who with
    | none => exact noop
    | some ep =>
      rw [hm] at hna
      simp only at hna ⊢
      cases ha : ep.async with
      | true => exact noop
      | false =>
        simp only [ha, Bool.false_eq_true, if_false] at hna ⊢
        refine rel_step hR hm fun e he hr => ?_
        obtain ⟨e', hrun, h1, _, _, h4⟩ := ok_recv V hW hE who ep T sp e tail he hR.plain (hr.stash ha)
          (fun mm hmm => by
            have := hna _ (List.mem_cons_of_mem _ (List.mem_append_right _ (List.mem_singleton_self _)))
            rw [hmm] at this; cases this)
        exact ⟨e', hrun, h1.trans hr.async, fun h => Bool.noConfusion (ha.symm.trans h),
          fun h => Bool.noConfusion (ha.symm.trans h), hr.reg, fun _ => h4⟩
  | enq who buf =>
    simp only [sysStep]
    cases hm : m.ep? who with
    | none => exact noop
    | some ep =>
      simp only
      cases ha : ep.async with
      | false => exact noop
      | true =>
        simp only [if_true]
        exact rel_step (obs := []) hR hm fun e he hr =>
          ⟨e, (by rw [setEp_self he]; rfl), hr.async.trans ha, fun _ => hr.idle ha, fun _ => hr.disc ha, hr.reg,
            fun h => Bool.noConfusion h⟩
  | step who rev first =>
    simp only [sysStep] at hna ⊢
    cases hm : m.ep? who with
    | none => exact noop
    | some ep =>
      rw [hm] at hna
      simp only at hna ⊢
      cases ha : ep.async with
      | false => exact noop
      | true =>
        simp only [ha, if_true] at hna ⊢
        refine rel_step hR hm fun e he hr => ?_
        obtain ⟨e', hrun, h1, h2, h3, h4⟩ := ok_step V hE who ep rev first sp e tail he hR.plain (hr.idle ha) (hr.disc ha)
          hr.reg hna
        exact ⟨e', hrun, h1.trans hr.async, fun _ => h2, fun _ => h3, h4, fun h => Bool.noConfusion (ha.symm.trans h)⟩

theorem run_ok (V : Env σ ω) (hW : VClock V.W) : ∀ (hist : List Op) (m : Sys σ ω) (sp : SpecSt) (tail : List Obs),
    EngOk V.E m.plain → Rel m sp → (∀ o ∈ (modelOps V m hist).2, o.isAbort = false) →
    ∃ sp', specRun sp ((modelOps V m hist).2 ++ tail) = specRun sp' tail ∧ Rel (modelOps V m hist).1 sp' := by
  intro hist
  induction hist with
  | nil => intro m sp tail _ hR _; exact ⟨sp, rfl, hR⟩
  | cons op rest ih =>
    intro m sp tail hE hR hna
    simp only [modelOps] at hna ⊢
    obtain ⟨sp1, h1, hR1, hp1⟩ := step_ok V hW m hE sp op ((modelOps V (sysStep V m op).1 rest).2 ++ tail) hR
      (fun o ho => hna o (List.mem_append_left _ ho))
    obtain ⟨sp2, h2, hR2⟩ := ih (sysStep V m op).1 sp1 tail (by rw [hp1]; exact hE) hR1
      (fun o ho => hna o (List.mem_append_right _ ho))
    exact ⟨sp2, by rw [List.append_assoc, h1, h2], hR2⟩

/-- a socket nobody has used yet -/
def Ep.Fresh (ep : Ep σ ω) : Prop := ep.a.disconnects = 0 ∧ ep.st.g.pendingError = none

def Sys.Fresh (m : Sys σ ω) : Prop := (∀ ep, m.c = some ep → ep.Fresh) ∧ (∀ ep, m.s = some ep → ep.Fresh)

theorem Ep.init_fresh (cfg : EpCfg) (e : σ) (w : ω) : (Ep.init cfg e w).Fresh := ⟨rfl, rfl⟩

theorem optRel_init (o : Option (Ep σ ω)) (h : ∀ ep, o = some ep → ep.Fresh) :
    OptRel o ((o.map epCfg).map mkEp) := by
  cases o with
  | none => trivial
  | some ep =>
    obtain ⟨h1, h2⟩ := h ep rfl
    exact ⟨rfl, fun _ => rfl, fun _ => h1.symm, fun _ => h1, fun _ => h2⟩

theorem final_ok (V : Env σ ω) (m : Sys σ ω) (sp : SpecSt) : ∃ sp', specRun sp (finalObs V m) = .ok sp' := by
  unfold finalObs
  cases m.c <;> cases m.s <;> simp [epFinal, specRun, specStep]

/-- **model_satisfies_spec_partial.**  `specRun` - every clause that `./check C18` evaluates event by event -
accepts every trace of the glue model: for

* every configuration `V.C` of the glue (round limit, asserts on / off, the legacy variants),
* every kernel `V.W` with the virtual clock of the harness (`VClock`: A-CLOCK, i.e. `ClockOk` of Model/TlsBudget.lean, and a wait that
  times out has waited for its whole timeout), answering anything (readiness, short / failed sends, any segmentation,
  errors, end of stream),
* every engine `V.E` under the contract `EngOk` (plaintext is handed out only after `init_finished` and never when the
  peer does not speak TLS; fail-stop) - any state type, any adaptive interaction tree: the handshake may take any
  course, stall, fail, never finish,
* every starting state of the two endpoints (client / server, each synchronous or asynchronous or absent, TLS or plain
  TCP peer) that is `Fresh`,
* every history, of any length: `Send(data, T)` / `Receive(T)` with any timeout `T` (negative, zero, positive) on the
  synchronous endpoints, `Send(buffer)` and driver steps with any `poll` result (including `DriverQuery`'s "received
  data is held already") on the asynchronous ones, in any interleaving of the two sides,

in which no `assert` of the glue fires (`hna`; a firing assert is a crash and IS rejected by the predicate - the
asserts encode preconditions: `assert(i < handshakeStepsMax)` - the engine does not answer WANT_READ / WANT_WRITE
`handshakeStepsMax` times in one call although `poll` reported the descriptor ready each time; `assert(timeout >= 0)` -
an unlimited `Receive` is not left with nothing, see `Tls.tls_unlimited_receive_never_nothing`; the `pendingSend` assert -
a `Send` that was cut short is retried with the same bytes, OpenSSL's retry rule).

Hence, for all these histories: the waits of a call with `T < 0` are unlimited, with `T = 0` zero, with `T > 0`
non-negative and within `T` in sum (however many handshake rounds, BIO calls and partial sends); `Receive` and the
receive handler deliver only after an engine answer `done` with the handshake finished, never from a non-TLS peer,
never an empty buffer; the disconnect handler runs at most once; every raw `send` carries MSG_NOSIGNAL.

`_partial`: the END-OF-CASE clauses (`specFinal`) are not covered - see the comment below. -/
theorem model_satisfies_spec_partial (V : Env σ ω) (hW : VClock V.W) (m0 : Sys σ ω) (hE : EngOk V.E m0.plain)
    (h0 : m0.Fresh) (history : List Op) (hna : ∀ o ∈ modelTrace V m0 history, o.isAbort = false) :
    ∃ s, specRun {} (modelTrace V m0 history) = .ok s := by
  let sp0 : SpecSt := { c := (m0.c.map epCfg).map mkEp, s := (m0.s.map epCfg).map mkEp, plain := m0.plain,
                        marker := m0.marker, cpay := m0.cpay, spay := m0.spay }
  have hR0 : Rel m0 sp0 := ⟨rfl, optRel_init m0.c h0.1, optRel_init m0.s h0.2⟩
  obtain ⟨sp1, h1, _⟩ := run_ok V hW history m0 sp0 (finalObs V (modelOps V m0 history).1) hE hR0
    (fun o ho => hna o (by simp only [modelTrace, List.mem_append]; exact Or.inl (Or.inr ho)))
  obtain ⟨sp2, h2⟩ := final_ok V (modelOps V m0 history).1 sp1
  refine ⟨sp2, ?_⟩
  have hs : specRun {} (modelTrace V m0 history) =
      specRun sp0 ((modelOps V m0 history).2 ++ finalObs V (modelOps V m0 history).1) := by
    simp only [modelTrace, setupObs, List.cons_append, List.nil_append, specRun, specStep]
    rfl
  rw [hs, h1, h2]

/-
FULL STATEMENT (not proved):

  theorem model_satisfies_spec : ∀ V m0 history, … → ∃ s, specRun {} (modelTrace V m0 history) = .ok s ∧ specFinal s = none

What is missing is `specFinal s = none`.  Its clauses are not statements about ONE endpoint's glue over an arbitrary
engine and kernel, but about the two engines, the two kernels and the schedule together:
* `wireClause` (marker, record framing, ClientHello / ServerHello first, TLS 1.2 record order) is about the bytes the
  ENGINE hands to the write BIO.  What the glue contributes is proved for every history:
  `Tls.plaintext_only_via_engine` (the raw stream is exactly the accepted prefixes of the engine's BIO writes; the
  `wire` observation of `modelTrace` is that ghost field).  The clause itself stays a check on the implementation.
* "received is a prefix of what the peer sent / everything arrived" needs an engine that decrypts to what the peer's
  engine was given and a channel that carries bytes (the reference composition `Hs.Sys` counts bytes only);
* "no failure on a healthy connection", "exchange not stuck", "handshake finished at the end", "a non-TLS peer is
  reported" are liveness / health statements: the model proves them for one composition and schedule only
  (`Hs.handshake_completes_partial`: both endpoints synchronous, timeout 0, polling schedule, reference engine, healthy
  channel); for the other pairings they rest on the implementation matrix.  With an abstract engine they would be
  hypotheses that assume the conclusion.
`specFinal` is evaluated on model traces in the `example`s below.
-/

end Proof

/-! ## examples: the hypotheses are satisfiable, the predicate rejects bad traces -/

section Examples

/-- the scripted kernel of `Model/TlsBudget.lean` has the virtual clock -/
theorem TW.vclock : VClock TW.world where
  ok := TW.clockOk
  full := by
    intro w d t hr
    simp only [TW.world] at hr ⊢
    split at hr
    · rename_i rdy el rest heq
      simp only
      simp only [Bool.or_eq_false_iff, decide_eq_false_iff_not] at hr
      obtain ⟨h1, h2⟩ := hr
      subst h1
      simp only [Bool.false_or, TW.elapsed]
      have h3 : decide (t < 0) = false := by simpa using h2
      rw [if_neg h2, h3]
      simp
    · simp only
      simp only [decide_eq_false_iff_not] at hr
      have h3 : decide (t < 0) = false := by simpa using hr
      simp only [TW.elapsed, if_neg hr, h3]
      simp

/-- a small engine: round 1 writes a hello and reads the reply (WANT_READ until it is there), later rounds read
application data; after a failed callback it answers SSL_ERROR_SYSCALL at once; it never writes zero bytes -/
def demoEngine : Engine Nat where
  sslRead st n :=
    if st = 0 then
      .bioWrite [22, 3, 1] (fun r => match r with
        | none => .ret .syscallErr [] st
        | some _ => .bioRead n (fun r => match r with
          | none => .ret .syscallErr [] st
          | some [] => .ret .wantRead [] st
          | some _ => .ret .wantRead [] 1))
    else
      .bioRead n (fun r => match r with
        | none => .ret .syscallErr [] st
        | some [] => .ret .wantRead [] st
        | some bs => .ret (.done bs.length) bs st)
  sslWrite st d :=
    if d = [] then .ret (.done 0) [] st
    else .bioWrite d (fun r => match r with
      | none => .ret .syscallErr [] st
      | some 0 => .ret .wantWrite [] st
      | some m => .ret (.done m) [] st)
  initFinished st := st != 0

theorem demoEngine_ok : EngOk demoEngine false where
  read := by
    intro s n
    unfold demoEngine
    simp only
    split
    · refine .bioWrite ?_
      intro r; cases r with
      | none => exact .ret (by simp [SslAns.isDone])
      | some m =>
        refine .bioRead ?_
        intro r; cases r with
        | none => exact .ret (by simp [SslAns.isDone])
        | some bs => cases bs <;> exact .ret (by simp [SslAns.isDone])
    · rename_i hs
      refine .bioRead ?_
      intro r; cases r with
      | none => exact .ret (by simp [SslAns.isDone])
      | some bs =>
        cases bs with
        | nil => exact .ret (by simp [SslAns.isDone])
        | cons b bs => exact .ret (by intro _; simp [hs])
  failStop := by
    constructor
    · intro s n
      unfold demoEngine
      simp only
      split
      · refine .bioWrite (by simp) ?_ ⟨_, _, _, rfl, rfl⟩
        intro m
        refine .bioRead ?_ ⟨_, _, _, rfl, rfl⟩
        intro bs; cases bs <;> exact .ret
      · refine .bioRead ?_ ⟨_, _, _, rfl, rfl⟩
        intro bs; cases bs <;> exact .ret
    · intro s d
      unfold demoEngine
      simp only
      split
      · exact .ret
      · rename_i hd
        refine .bioWrite hd ?_ ⟨_, _, _, rfl, rfl⟩
        intro m; cases m <;> exact .ret

def demoEnv : Env Nat TW := { C := Cfg.current, W := TW.world, E := demoEngine }

/-- a synchronous client and an asynchronous server, each with its own scripted kernel -/
def demoSys : Sys Nat TW :=
  { c := some (Ep.init ⟨false, 16⟩ 0 { waits := [(true, 0), (false, 0), (true, 7), (true, 2), (true, 0)],
                                         recvs := [.data [22, 3, 2], .data [7, 8, 9], .data [5], .data []] }),
    s := some (Ep.init ⟨true, 16⟩ 0 { waits := [(true, 0)], recvs := [.data [22, 3, 2], .data [1, 2]] }),
    cpay := [1, 2], spay := [7, 8, 9, 5] }

/-- client: `Receive` with the timeouts 0, 0, 50, -1, 50 - handshake rounds under a zero budget (hello written, reply not
there / there: WANT_READ, zero waits), a 50 ms wait that times out followed by a zero wait, an unlimited wait, three
bytes delivered after `done`; server: driver steps - readable (handshake), readable (two bytes to the receive handler),
idle, HUP (disconnect handler), and later steps that must not call it again (the socket is unregistered); operations
on an endpoint that does not exist or of the wrong API level do nothing.  58 observations. -/
def demoHist : List Op :=
  [.recv .c 0, .step .s { rd := true } false, .recv .c 0, .recv .c 50, .step .s { rd := true } false,
   .recv .c (-1), .step .s {} false, .step .s { hupErr := true } false, .recv .c 50, .step .s { hupErr := true } false,
   .step .s { rd := true } true, .send (.other "x") [1] 0, .enq .c [1]]

set_option maxRecDepth 100000 in
example : ∀ o ∈ modelTrace demoEnv demoSys demoHist, o.isAbort = false := by decide +kernel

set_option maxRecDepth 100000 in
example : ∃ s, specRun {} (modelTrace demoEnv demoSys demoHist) = .ok s :=
  model_satisfies_spec_partial demoEnv TW.vclock demoSys demoEngine_ok
    ⟨fun _ h => by cases h; exact Ep.init_fresh _ _ _, fun _ h => by cases h; exact Ep.init_fresh _ _ _⟩ demoHist (by decide +kernel)


set_option maxRecDepth 100000 in
example : (modelTrace demoEnv demoSys demoHist).length = 58 := by decide +kernel

def rejects (t : List Obs) : Bool :=
  match specCheck t with
  | .ok _ => false
  | .error _ => true

def twoSync : Obs := .setup (some ⟨false, 16⟩) (some ⟨false, 16⟩) false

/-- the seeded change C07_r4_agentH (`BioRead` without the write-back): `Receive(50)` waits 50 ms twice -/
example : rejects [twoSync, .api .c .recv (some 50), .poll .c 50 false, .sslret .c false false, .poll .c 50 false] = true := by decide
/-- a bounded wait inside an unlimited call, a blocking wait inside a zero call -/
example : rejects [twoSync, .api .c .send (some (-1)), .poll .c 30 false] = true := by decide
example : rejects [twoSync, .api .s .recv (some 0), .poll .s 1 true] = true := by decide
/-- bytes delivered although the engine has not finished the handshake (`SocketTlsImpl::Receive` not overriding) -/
example : rejects [twoSync, .api .c .recv (some 0), .sslret .c true false, .ret .c (.n 5)] = true := by decide
/-- bytes delivered from a peer that does not speak TLS -/
example : rejects [.setup none (some ⟨true, 16⟩) true, .sslret .s true true, .rx .s 5] = true := by decide
/-- the disconnect handler twice; an empty buffer to the receive handler; a send without MSG_NOSIGNAL; a crash -/
example : rejects [.setup (some ⟨true, 16⟩) none false, .disc .c, .disc .c] = true := by decide
example : rejects [.setup (some ⟨true, 16⟩) none false, .sslret .c true true, .rx .c 0] = true := by decide
example : rejects [twoSync, .send .s false] = true := by decide
example : rejects [twoSync, .abort .crash "exit=-6 Assertion `i < handshakeStepsMax' failed."] = true := by decide
/-- end-of-case clauses: the marker on the wire, a payload that did not arrive, a stuck exchange, a failure on a
healthy connection -/
example : rejects [twoSync, .payload [1, 2] [] [], .wire .c [22, 3, 1, 0, 2, 1, 2]] = true := by decide
example : rejects [twoSync, .payload [] [1] [], .state .c { init := some 1 }, .state .s { init := some 1 }] = true := by decide
example : rejects [twoSync, .loopend true, .state .c { init := some 1 }, .state .s { init := some 1 }] = true := by decide
example : rejects [twoSync, .api .c .recv (some 0), .ret .c .threw, .state .c { init := some 1 }, .state .s { init := some 1 }] = true := by
  decide
set_option maxHeartbeats 2000000 in
/-- and a complete healthy case is accepted -/
example : rejects [twoSync, .payload [] [1] [2], .api .c .send (some 0), .poll .c 0 true, .send .c true, .sslret .c true true,
    .ret .c (.n 1), .api .s .recv (some 50), .poll .s 50 true, .sslret .s true true, .ret .s (.n 1), .loopend false,
    .got .c [2], .state .c { init := some 1 }, .got .s [1], .state .s { init := some 1 }] = false := by decide +kernel

/-- the hypothesis "no assert fires" is needed: an engine that answers WANT_READ for ever while `poll` reports the
descriptor ready runs into `assert(i < handshakeStepsMax)` (compare `Tls.unlimited_receive_needs_blocking_engine`);
the model's trace then ends in a crash, which the predicate rejects -/
def stubbornEngine : Engine Unit where
  sslRead _ _ := .ret .wantRead [] ()
  sslWrite _ _ := .ret .wantRead [] ()
  initFinished _ := false

set_option maxRecDepth 100000 in
example : rejects (modelTrace { C := Cfg.current, W := TW.world, E := stubbornEngine }
    { c := some (Ep.init ⟨false, 16⟩ () { waits := List.replicate 12 (true, 0) }) } [.recv .c 50]) = true := by decide +kernel

end Examples

end SockModel.Tls.Spec
