import SockModel.Model.DispatchLemmas
/-!
# Spec.C03 - the property as an executable predicate over typed observations, and the proof that
the model satisfies it for every history

`specStep` / `specRun` are what `./check C03` evaluates on the IMPLEMENTATION's transcript
(`Drive/C03.lean` parses the transcript lines into `Obs` and calls these very functions).  They
mention no model state: the reference book-keeping (`SpecSt`) is derived from the observations alone -
per connection the stream the peer sent, the number of bytes delivered, whether the peer ended it,
whether the library has an asynchronous socket for it, whether that socket is gone (disconnected or
destroyed), its receive-buffer size and the address it was created for; per acceptor the established
connections not yet reported; per socket the number of queued sends.

`model_satisfies_spec`: replaying the MODEL's own observations (`modelTrace`) through `specRun` never
fails, for every history of any length.  So a `spec` failure on the implementation is provably a
difference between implementation and model, the oracle is never stricter than the model, and every
clause it checks (one task per step, chunk bounds, in-order data, disconnect only after the peer ended
and everything was delivered, with the cached address, nothing after disconnect / destruction,
connect exactly once in order with the right address and socket, no idle step while anything is owed)
is a consequence of the model for all histories.
-/
namespace SockModel.Dispatch.Spec
open SockModel.AsyncQ (Bytes)
open SockModel.Dispatch

/-- the hash the harness prints for a chunk (FNV-1a, 64 bit; `harness/scen/async_events.cpp: Fnv`) -/
def fnv (bs : Bytes) : UInt64 :=
  bs.foldl (fun h b => (h ^^^ b.toUInt64) * 1099511628211) 14695981039346656037

/-- a token of the transcript that is normally a number (peer ordinal = address, hash): the number,
or the text as printed when it is not one (`?host:...`, `?unusable`) -/
inductive Tok where
  | ord (n : Nat)
  | other (text : String)
  deriving DecidableEq, Repr

def Tok.text : Tok → String
  | .ord n => toString n
  | .other t => t

instance : ToString Tok := ⟨Tok.text⟩

/-- what the harness prints for a socket whose peer address cannot be obtained -/
def unusable : Tok := .other "?unusable"

/-- one handler invocation as recorded by the harness handlers -/
inductive Ev where
  | data (i len : Nat) (hash : Tok)                      -- receive handler of socket i: chunk length and hash
  | disconnect (i : Nat) (addr : Tok) (reason : String)  -- disconnect handler of socket i (reason: descriptive only)
  | connect (a : Nat) (sock addr : Tok)                  -- connect handler of acceptor a: peer of the socket handed over, address reported
  | bad (msg : String)                                   -- an `ev` line the driver could not parse (never produced by the model)
  deriving Repr

structure EvObs where
  ev : Ev
  onStepThread : Bool := true     -- the handler ran on the thread executing Step
  text : String := ""             -- the observation as printed (used in messages only)
  deriving Repr

/-- everything observed during one `Driver::Step` -/
structure StepObs where
  rx : Nat                              -- receive-buffer size the connect handler configures (harness setting in force)
  threw : Option String := none         -- Step threw: text of the exception
  evs : List EvObs := []                -- handler invocations, in order
  sends : List (Option Nat) := []       -- `send` system calls on library sockets (socket ordinal if well-formed)
  destroyed : List Nat := []            -- sockets destroyed by the handlers that ran
  deriving Repr

/-- typed observations: the operations the harness performed (they are inputs the observer knows)
and what it observed during each Step -/
inductive Obs where
  | client (i : Nat) (addr : Tok) (rx : Nat)   -- library client socket i connected to the peer at `addr`, rx buffers of `rx` bytes
  | acceptor (a : Nat)                         -- library acceptor a
  | pconnect (a i : Nat) (addr : Tok)          -- a peer at `addr` established connection i to acceptor a
  | send (i : Nat) (bytes : Bytes)             -- the peer of connection i sent `bytes`
  | close (i : Nat)                            -- the peer of connection i closed or reset
  | arm (i : Nat)                              -- user queued a send on socket i
  | destroy (i : Nat)                          -- user destroyed socket / acceptor i (outside handlers)
  | outside                                    -- handler invocations / an exception were observed after an operation other than Step
  | step (o : StepObs)
  deriving Repr

/-- reference bookkeeping of one connection (observations only) -/
structure SConn where
  i : Nat
  addr : Tok := .ord i            -- the address the socket was / will be created for
  stream : Bytes := []
  delivered : Nat := 0
  ended : Bool := false
  registered : Bool := false      -- the library has an async socket for it
  gone : Bool := false            -- disconnected or destroyed: no handler may run any more
  rx : Nat := 1
  deriving Repr

structure SAcc where
  a : Nat
  waiting : List (Nat × Tok) := []   -- established, not yet reported connections (ordinal, peer address)
  gone : Bool := false
  deriving Repr

structure SpecSt where
  conns : List SConn := []
  accs : List SAcc := []
  arm : List (Nat × Nat) := []          -- socket ordinal ↦ queued sends

def lookup {α} (l : List (Nat × α)) (k : Nat) : Option α := (l.find? (·.1 = k)).map (·.2)

/-- replace the record(s) with the key of `k` by `k`, or append `k` when there is none -/
def upsert {α} (key : α → Nat) (l : List α) (k : α) : List α :=
  if l.any (fun x => key x = key k) then l.map (fun x => if key x = key k then k else x) else l ++ [k]

def SpecSt.conn (c : SpecSt) (i : Nat) : Option SConn := c.conns.find? (·.i = i)
def SpecSt.setConn (c : SpecSt) (k : SConn) : SpecSt := { c with conns := upsert (·.i) c.conns k }
def SpecSt.acc (c : SpecSt) (a : Nat) : Option SAcc := c.accs.find? (·.a = a)
def SpecSt.setAcc (c : SpecSt) (k : SAcc) : SpecSt := { c with accs := upsert (·.a) c.accs k }

/-- is socket `i` a live registered socket (reference view)? -/
def SpecSt.live (c : SpecSt) (i : Nat) : Bool :=
  match c.conn i with | some k => k.registered && !k.gone | none => false

/-- is anything owed to a live socket (reference view)? -/
def SpecSt.owed (c : SpecSt) : Option String :=
  match c.conns.find? (fun k => k.registered ∧ ¬ k.gone ∧ (k.delivered < k.stream.length ∨ k.ended)) with
  | some k => some s!"connection {k.i} has {k.stream.length - k.delivered} undelivered byte(s){if k.ended then " and an unreported close" else ""}"
  | none =>
    match c.accs.find? (fun a => ¬ a.gone ∧ ¬ a.waiting.isEmpty) with
    | some a => some s!"acceptor {a.a} has {a.waiting.length} unreported connection(s)"
    | none =>
      match c.arm.find? (fun p => decide (p.2 > 0) && c.live p.1) with
      | some p => some s!"socket {p.1} has a queued send"
      | none => none

/-- mark sockets destroyed (by the user, possibly inside a handler) in the reference bookkeeping -/
def SpecSt.markConn (c : SpecSt) (j : Nat) : SpecSt :=
  match c.conn j with
  | some k => if k.registered then c.setConn { k with gone := true } else c
  | none => c

def SpecSt.markAcc (c : SpecSt) (j : Nat) : SpecSt :=
  match c.acc j with
  | some a => c.setAcc { a with gone := true }
  | none => c

def SpecSt.markDestroyed (c : SpecSt) (j : Nat) : SpecSt := (c.markConn j).markAcc j

/-- a `send` system call on socket `i` was observed: one queued send is consumed -/
def SpecSt.wrote (c : SpecSt) (i : Nat) : SpecSt :=
  { c with arm := (c.arm.filter (fun x => x.1 ≠ i)) ++ [(i, (lookup c.arm i).getD 0 - 1)] }

/-- the receive handler of socket `i` got `len` bytes with hash `hash` -/
def specData (c : SpecSt) (i len : Nat) (hash : Tok) : Except String SpecSt :=
  match c.conn i with
  | none => .error s!"receive handler for unknown socket {i}"
  | some k =>
    if k.gone then .error s!"receive handler of socket {i} ran after its disconnect / destruction"
    else if len = 0 then .error s!"receive handler of socket {i} got an empty chunk"
    else if len > k.rx then .error s!"receive handler of socket {i} got {len} bytes, more than its buffer size {k.rx}"
    else
      let want := (k.stream.drop k.delivered).take len
      if want.length ≠ len ∨ hash ≠ .ord (fnv want).toNat then
        .error s!"receive handler of socket {i} got {len} bytes (hash {hash}) that are not the next bytes the peer sent (offset {k.delivered} of {k.stream.length})"
      else .ok (c.setConn { k with delivered := k.delivered + len })

/-- the disconnect handler of socket `i` ran with address `addr` -/
def specDisconnect (c : SpecSt) (i : Nat) (addr : Tok) (reason : String) : Except String SpecSt :=
  match c.conn i with
  | none => .error s!"disconnect handler for unknown socket {i}"
  | some k =>
    if k.gone then .error s!"disconnect handler of socket {i} ran a second time / after destruction"
    else if ¬ k.ended then .error s!"disconnect handler of socket {i} ran ({reason}) although the peer neither closed nor reset"
    else if k.delivered ≠ k.stream.length then
      .error s!"disconnect handler of socket {i} ran with {k.stream.length - k.delivered} byte(s) the peer sent before closing still undelivered"
    else if addr ≠ k.addr then .error s!"disconnect handler of socket {i} got address {addr}, the socket was created for {k.addr}"
    else .ok (c.setConn { k with gone := true })

/-- the connect handler of acceptor `a` ran: socket connected to `sock`, reported address `addr`;
the handler upgrades the connection to an async socket with buffers of `rx` bytes -/
def specConnect (c : SpecSt) (rx a : Nat) (sock addr : Tok) : Except String SpecSt :=
  match c.acc a with
  | none => .error s!"connect handler for unknown acceptor {a}"
  | some k =>
    if k.gone then .error s!"connect handler of acceptor {a} ran after its destruction"
    else match k.waiting with
      | [] => .error s!"connect handler of acceptor {a} ran although no connection is waiting (duplicate)"
      | (i, waddr) :: more =>
        if addr ≠ waddr then .error s!"connect handler of acceptor {a} reports peer {addr}, the next established connection is {i}"
        else if sock ≠ .ord i ∧ ¬ (sock = unusable ∧ ((c.conn i).map (·.ended)).getD false) then
          .error s!"connect handler of acceptor {a}: the socket handed over is connected to {sock}, not to {i}"
        else
          let c := c.setAcc { k with waiting := more }
          .ok (match c.conn i with | some x => c.setConn { x with registered := true, rx := rx } | none => c)

def specEv (c : SpecSt) (rx : Nat) : Ev → Except String SpecSt
  | .data i len hash => specData c i len hash
  | .disconnect i addr reason => specDisconnect c i addr reason
  | .connect a sock addr => specConnect c rx a sock addr
  | .bad msg => .error msg

/-- what one Step is allowed to show -/
def specStepObs (c : SpecSt) (o : StepObs) : Except String SpecSt :=
  match o.threw with
  | some x => .error s!"Step threw: {x}"
  | none =>
  if o.evs.length + o.sends.length > 1 then
    .error s!"more than one socket task in one step ({o.evs.length} handler calls, {o.sends.length} sends)"
  else
  match o.evs.find? (fun e => !e.onStepThread) with
  | some e => .error s!"handler ran on a thread other than the one executing Step: {e.text}"
  | none =>
  let res : Except String SpecSt :=
    match o.evs with
    | [] =>
      if o.sends.isEmpty then
        match c.owed with
        | some what => .error s!"Step did nothing although {what}"
        | none => .ok c
      else .ok c
    | [e] => specEv c o.rx e.ev
    | _ => .error "more than one handler call"    -- unreachable: excluded above
  match res with
  | .error msg => .error msg
  | .ok c =>
    let c := o.destroyed.foldl SpecSt.markDestroyed c
    .ok (match o.sends with | [some i] => c.wrote i | _ => c)

def specStep (c : SpecSt) : Obs → Except String SpecSt
  | .client i addr rx => .ok (c.setConn { i := i, addr := addr, registered := true, rx := rx })
  | .acceptor a => .ok (c.setAcc { a := a })
  | .pconnect a i addr =>
    let c := match c.acc a with | some k => c.setAcc { k with waiting := k.waiting ++ [(i, addr)] } | none => c
    .ok (c.setConn { i := i, addr := addr })
  | .send i bytes =>
    .ok (match c.conn i with | some k => c.setConn { k with stream := k.stream ++ bytes } | none => c)
  | .close i =>
    .ok (match c.conn i with | some k => c.setConn { k with ended := true } | none => c)
  | .arm i => .ok { c with arm := (c.arm.filter (·.1 ≠ i)) ++ [(i, (lookup c.arm i).getD 0 + 1)] }
  | .destroy i => .ok (c.markDestroyed i)
  | .outside => .error "a handler ran / an exception escaped outside Step"
  | .step o => specStepObs c o

def specRun (c : SpecSt) : List Obs → Except String SpecSt
  | [] => .ok c
  | o :: os => match specStep c o with | .ok c' => specRun c' os | .error e => .error e

/-! ## the observations of the model -/

def reasonText : Reason → String
  | .eof => "eof"
  | .fail => "fail"
  | .poll => "poll"

/-- a handler invocation of the model's log as the harness would record it (ordinals = model ids,
addresses = the model's addresses, on the Step thread) -/
def renderEv : Event → EvObs
  | .data s b _ => { ev := .data s b.length (.ord (fnv b).toNat) }
  | .disconnect s a r => { ev := .disconnect s (.ord a) (reasonText r) }
  | .connect a c addr => { ev := .connect a (.ord c) (.ord addr) }

/-- the observations the MODEL produces for one operation in state `s`.  An operation the model
ignores (a peer connecting to a socket that is not a registered acceptor, sending on a connection it
closed, a send request on an unregistered socket or while `POLLOUT` is already requested) and a step
whose `poll` is answered by the signalling pipe (`Unbump` only) are invisible.  The handler
invocations of a step are the entries the step appends to the model's log. -/
def modelObs (order : List Nat) (s : St) : Op → List Obs
  | .newClient addr rx => [.client s.nextId (.ord addr) (max 1 rx)]
  | .newAcceptor => [.acceptor s.nextId]
  | .peerConnect a addr =>
    if s.socks.any (fun k => k.id = a ∧ k.kind = .acceptor) then [.pconnect a s.nextId (.ord addr)] else []
  | .peerSend c bytes => if (s.conn c).ended then [] else [.send c bytes]
  | .peerClose c => [.close c]
  | .peerRst c => [.close c]
  | .wantSend i => if s.socks.any (·.id = i) && !s.wantOut i then [.arm i] else []
  | .destroy i => [.destroy i]
  | .step pipe chunk rx hdl =>
    if pipe then []
    else
      let evs := ((stepSockets order s false chunk rx hdl).log.drop s.log.length).map renderEv
      [.step { rx := max 1 rx
               evs := evs
               sends := match firstTask order s s.socks with | some (k, .writable) => [some k.id] | _ => []
               destroyed := if evs.isEmpty then [] else hdl }]

def modelTrace (order : List Nat) (s : St) : List Op → List Obs
  | [] => []
  | op :: ops => modelObs order s op ++ modelTrace order (apply order s op) ops

/-- the model's precondition on a history: a peer sends / closes / resets only connections that exist
(ids are allocated consecutively; the model keeps the inbound channel of *every* id, so an operation on
an id not yet allocated would pre-load the channel of a future connection) -/
def opWf (s : St) : Op → Bool
  | .peerSend c _ => decide (c < s.nextId)
  | .peerClose c => decide (c < s.nextId)
  | .peerRst c => decide (c < s.nextId)
  | _ => true

def histWf (order : List Nat) (s : St) : List Op → Bool
  | [] => true
  | op :: ops => opWf s op && histWf order (apply order s op) ops

/-! ## list lemmas for the reference book-keeping -/

theorem mem_upsert {α} {key : α → Nat} {l : List α} {k x : α} (h : x ∈ upsert key l k) :
    (x ∈ l ∧ key x ≠ key k) ∨ x = k := by
  unfold upsert at h
  split at h
  · obtain ⟨y, hy, rfl⟩ := List.mem_map.mp h
    by_cases hk : key y = key k
    · exact Or.inr (if_pos hk)
    · rw [if_neg hk]; exact Or.inl ⟨hy, hk⟩
  · rename_i hany
    rcases List.mem_append.mp h with h | h
    · exact Or.inl ⟨h, fun hk => hany (List.any_eq_true.mpr ⟨x, h, decide_eq_true hk⟩)⟩
    · exact Or.inr (List.mem_singleton.mp h)

theorem mem_upsert_of_ne {α} {key : α → Nat} {l : List α} {k x : α} (hx : x ∈ l) (hk : key x ≠ key k) :
    x ∈ upsert key l k := by
  unfold upsert
  split
  · exact List.mem_map.mpr ⟨x, hx, by simp [hk]⟩
  · exact List.mem_append_left _ hx

theorem find_replace {α} {key : α → Nat} (l : List α) (k : α) (j : Nat) :
    (l.map (fun x => if key x = key k then k else x)).find? (fun x => key x = j) =
      (l.find? (fun x => key x = j)).map (fun x => if key x = key k then k else x) := by
  induction l with
  | nil => rfl
  | cons y ys ih =>
    have hy : key (if key y = key k then k else y) = key y := by split <;> simp [*]
    simp only [List.map_cons, List.find?_cons, hy, ih]
    split <;> rfl

theorem find_upsert_self {α} {key : α → Nat} (l : List α) (k : α) :
    (upsert key l k).find? (fun x => key x = key k) = some k := by
  unfold upsert
  split
  · rename_i hany
    obtain ⟨y, hy, hk⟩ := List.any_eq_true.mp hany
    rw [find_replace]
    cases hf : l.find? (fun x => key x = key k) with
    | none => exact absurd hk (List.find?_eq_none.mp hf y hy)
    | some z => have : key z = key k := by simpa using List.find?_some hf
                simp [this]
  · rename_i hany
    rw [List.find?_append, List.find?_eq_none.mpr (fun x hx hk => hany (List.any_eq_true.mpr ⟨x, hx, hk⟩))]
    simp

theorem find_upsert_ne {α} {key : α → Nat} (l : List α) (k : α) {j : Nat} (hj : j ≠ key k) :
    (upsert key l k).find? (fun x => key x = j) = l.find? (fun x => key x = j) := by
  unfold upsert
  split
  · rw [find_replace]
    cases hf : l.find? (fun x => key x = j) with
    | none => rfl
    | some z =>
      have : key z = j := by simpa using List.find?_some hf
      simp [this, hj]
  · rw [List.find?_append]
    cases List.find? (fun x => decide (key x = j)) l with
    | some v => rfl
    | none => simp [Ne.symm hj]
theorem nodup_upsert {α} {key : α → Nat} {l : List α} (k : α) (h : (l.map key).Nodup) :
    ((upsert key l k).map key).Nodup := by
  unfold upsert
  split
  · rw [List.map_map, List.map_congr_left (g := key) fun x _ => by
      show key (if key x = key k then k else x) = key x
      split <;> simp [*]]
    exact h
  · rename_i hany
    exact nodup_map_snoc h fun x hx hk => hany (List.any_eq_true.mpr ⟨x, hx, decide_eq_true hk⟩)
/-! ## lemmas about the reference state -/

@[simp] theorem setConn_accs (c : SpecSt) (k : SConn) : (c.setConn k).accs = c.accs := rfl
@[simp] theorem setConn_arm (c : SpecSt) (k : SConn) : (c.setConn k).arm = c.arm := rfl
@[simp] theorem setAcc_conns (c : SpecSt) (k : SAcc) : (c.setAcc k).conns = c.conns := rfl
@[simp] theorem setAcc_arm (c : SpecSt) (k : SAcc) : (c.setAcc k).arm = c.arm := rfl
@[simp] theorem setConn_acc (c : SpecSt) (k : SConn) (a : Nat) : (c.setConn k).acc a = c.acc a := rfl
@[simp] theorem setAcc_conn (c : SpecSt) (k : SAcc) (i : Nat) : (c.setAcc k).conn i = c.conn i := rfl

theorem conn_some {c : SpecSt} {i : Nat} {k : SConn} (h : c.conn i = some k) : k ∈ c.conns ∧ k.i = i := by
  unfold SpecSt.conn at h
  exact ⟨List.mem_of_find?_eq_some h, by simpa using List.find?_some h⟩

theorem conn_none {c : SpecSt} {i : Nat} (h : c.conn i = none) : ∀ k ∈ c.conns, k.i ≠ i := by
  unfold SpecSt.conn at h
  simpa using h

theorem acc_some {c : SpecSt} {i : Nat} {k : SAcc} (h : c.acc i = some k) : k ∈ c.accs ∧ k.a = i := by
  unfold SpecSt.acc at h
  exact ⟨List.mem_of_find?_eq_some h, by simpa using List.find?_some h⟩

theorem acc_none {c : SpecSt} {i : Nat} (h : c.acc i = none) : ∀ k ∈ c.accs, k.a ≠ i := by
  unfold SpecSt.acc at h
  simpa using h

theorem conn_setConn_self (c : SpecSt) (k : SConn) : (c.setConn k).conn k.i = some k :=
  find_upsert_self (key := fun x : SConn => x.i) c.conns k

theorem conn_setConn_ne (c : SpecSt) (k : SConn) {j : Nat} (hj : j ≠ k.i) : (c.setConn k).conn j = c.conn j :=
  find_upsert_ne (key := fun x : SConn => x.i) c.conns k hj

theorem acc_setAcc_self (c : SpecSt) (k : SAcc) : (c.setAcc k).acc k.a = some k :=
  find_upsert_self (key := fun x : SAcc => x.a) c.accs k

theorem acc_setAcc_ne (c : SpecSt) (k : SAcc) {j : Nat} (hj : j ≠ k.a) : (c.setAcc k).acc j = c.acc j :=
  find_upsert_ne (key := fun x : SAcc => x.a) c.accs k hj

/-- a lookup in the state after `setConn k` -/
theorem conn_setConn_cases {c : SpecSt} {k x : SConn} {j : Nat} (h : (c.setConn k).conn j = some x) :
    (j = k.i ∧ x = k) ∨ (j ≠ k.i ∧ c.conn j = some x) := by
  by_cases hj : j = k.i
  · subst hj; rw [conn_setConn_self] at h; cases h; exact Or.inl ⟨rfl, rfl⟩
  · rw [conn_setConn_ne c k hj] at h; exact Or.inr ⟨hj, h⟩

theorem mem_setAcc {c : SpecSt} {k x : SAcc} (h : x ∈ (c.setAcc k).accs) : (x ∈ c.accs ∧ x.a ≠ k.a) ∨ x = k :=
  mem_upsert (key := fun x : SAcc => x.a) h

theorem conn_of_mem {c : SpecSt} (h : (c.conns.map (·.i)).Nodup) {k : SConn} (hk : k ∈ c.conns) : c.conn k.i = some k :=
  find_of_mem_nodup (key := fun x : SConn => x.i) h hk

theorem setConn_setConn {c : SpecSt} {k k' : SConn} (hi : k'.i = k.i) (hnone : c.conn k.i = none) :
    (c.setConn k).setConn k' = c.setConn k' := by
  have hno := conn_none hnone
  have h1 : c.conns.any (fun x => decide (x.i = k.i)) = false := by simpa using hno
  have h2 : c.conns.map (fun x => if x.i = k.i then k' else x) = c.conns :=
    (List.map_congr_left fun x hx => if_neg (hno x hx)).trans (List.map_id _)
  simp [SpecSt.setConn, upsert, hi, h1, h2]

theorem forall_conn_setConn' {c : SpecSt} {k : SConn} {P : Nat → SConn → Prop}
    (h : ∀ i x, c.conn i = some x → i ≠ k.i → P i x) (hk : P k.i k) :
    ∀ i x, (c.setConn k).conn i = some x → P i x := by
  intro i x hx
  rcases conn_setConn_cases hx with ⟨rfl, rfl⟩ | ⟨hi, hx⟩
  · exact hk
  · exact h i x hx hi

theorem forall_conn_setConn {c : SpecSt} {k : SConn} {P : Nat → SConn → Prop}
    (h : ∀ i x, c.conn i = some x → P i x) (hk : P k.i k) : ∀ i x, (c.setConn k).conn i = some x → P i x :=
  forall_conn_setConn' (fun i x hx _ => h i x hx) hk

theorem exists_conn_setConn {c : SpecSt} {k : SConn} {Q : SConn → Prop} {j : Nat}
    (h : ∃ x, c.conn j = some x ∧ Q x) (hk : ∀ x, c.conn k.i = some x → Q x → Q k) :
    ∃ x, (c.setConn k).conn j = some x ∧ Q x := by
  obtain ⟨x, hx, hq⟩ := h
  by_cases hj : j = k.i
  · subst hj; exact ⟨k, conn_setConn_self c k, hk x hx hq⟩
  · exact ⟨x, (conn_setConn_ne c k hj).trans hx, hq⟩

theorem exists_conn_setConn_ne {c : SpecSt} {k : SConn} {Q : SConn → Prop} {j : Nat}
    (h : ∃ x, c.conn j = some x ∧ Q x) (hj : j ≠ k.i) : ∃ x, (c.setConn k).conn j = some x ∧ Q x := by
  rw [conn_setConn_ne c k hj]; exact h

theorem forall_mem_setAcc {c : SpecSt} {k : SAcc} {P : SAcc → Prop} (h : ∀ x ∈ c.accs, x.a ≠ k.a → P x) (hk : P k) :
    ∀ x ∈ (c.setAcc k).accs, P x := by
  intro x hx
  rcases mem_setAcc hx with ⟨hx, hne⟩ | rfl
  · exact h x hx hne
  · exact hk

theorem exists_acc_setAcc {c : SpecSt} {k : SAcc} {Q : SAcc → Prop} {j : Nat}
    (h : ∃ x, c.acc j = some x ∧ Q x) (hk : ∀ x, c.acc k.a = some x → Q x → Q k) :
    ∃ x, (c.setAcc k).acc j = some x ∧ Q x := by
  obtain ⟨x, hx, hq⟩ := h
  by_cases hj : j = k.a
  · subst hj; exact ⟨k, acc_setAcc_self c k, hk x hx hq⟩
  · exact ⟨x, (acc_setAcc_ne c k hj).trans hx, hq⟩

theorem exists_acc_setAcc_ne {c : SpecSt} {k : SAcc} {Q : SAcc → Prop} {j : Nat}
    (h : ∃ x, c.acc j = some x ∧ Q x) (hj : j ≠ k.a) : ∃ x, (c.setAcc k).acc j = some x ∧ Q x := by
  rw [acc_setAcc_ne c k hj]; exact h

/-! ## the simulation relation and the one-step lemmas -/

/-- what the observer's book-keeping knows about the model state -/
structure Rel (m : St) (sp : SpecSt) : Prop where
  connNodup : (sp.conns.map (·.i)).Nodup
  connLt : ∀ i k, sp.conn i = some k → i < m.nextId
  accLt : ∀ k ∈ sp.accs, k.a < m.nextId
  -- ids not yet allocated have untouched channels; this is what `histWf` (peers act on existing connections only) keeps
  fresh : ∀ c, m.nextId ≤ c → (m.conn c).inbox = [] ∧ (m.conn c).ended = false ∧ m.backlog c = []
  connData : ∀ i k, sp.conn i = some k →
    k.delivered ≤ k.stream.length ∧ k.stream.drop k.delivered = (m.conn i).inbox ∧ k.ended = (m.conn i).ended
  goneReg : ∀ i k, sp.conn i = some k → k.gone = true → k.registered = true
  connSock : ∀ i k, sp.conn i = some k → k.registered = true → k.gone = false → ∃ x ∈ m.socks, x.id = i ∧ x.kind = .tcp
  sockConn : ∀ x ∈ m.socks, x.kind = .tcp →
    ∃ k, sp.conn x.id = some k ∧ k.registered = true ∧ k.gone = false ∧ k.rx = x.rxSize ∧ k.addr = .ord x.peerAddr
  accSock : ∀ k ∈ sp.accs, k.gone = false → ∃ x ∈ m.socks, x.id = k.a ∧ x.kind = .acceptor
  sockAcc : ∀ x ∈ m.socks, x.kind = .acceptor → ∃ k, sp.acc x.id = some k ∧ k.gone = false
  waiting : ∀ k ∈ sp.accs, k.waiting = (m.backlog k.a).map (fun x => (x.1, Tok.ord x.2))
  blConn : ∀ a x, x ∈ m.backlog a → ∃ k, sp.conn x.1 = some k ∧ k.registered = false ∧ k.addr = .ord x.2
  -- the model has one `POLLOUT` request per socket, not a queue: the observer counts at most one queued send
  armOk : ∀ p ∈ sp.arm, p.2 ≤ 1 ∧ (p.2 = 1 → m.wantOut p.1 = true)

theorem rel_init : Rel {} {} := by
  refine ⟨by simp, ?_, by simp, by simp, ?_, ?_, ?_, by simp, by simp, by simp, by simp, by simp, by simp⟩ <;>
    (intro i k h; simp [SpecSt.conn] at h)

/-- destroying a socket marks its connection record, then its acceptor record; `l` is what stays registered -/
theorem rel_markConn {m : St} {sp : SpecSt} (h : Rel m sp) (j : Nat) {l : List Sock}
    (hl : ∀ x, x ∈ l ↔ x ∈ m.socks ∧ ¬ (x.id = j ∧ x.kind = .tcp)) : Rel { m with socks := l } (sp.markConn j) := by
  have sub : ∀ x ∈ l, x ∈ m.socks := fun x hx => ((hl x).mp hx).1
  have accS : ∀ k ∈ sp.accs, k.gone = false → ∃ x ∈ l, x.id = k.a ∧ x.kind = .acceptor := fun k hk hg => by
    obtain ⟨x, hx, hxi, hxk⟩ := h.accSock k hk hg
    exact ⟨x, (hl x).mpr ⟨hx, fun hh => by rw [hxk] at hh; cases hh.2⟩, hxi, hxk⟩
  have connS : ∀ i k, sp.conn i = some k → k.registered = true → k.gone = false → i ≠ j →
      ∃ x ∈ l, x.id = i ∧ x.kind = .tcp := fun i k hk hr hg hij => by
    obtain ⟨x, hx, hxi, hxk⟩ := h.connSock i k hk hr hg
    exact ⟨x, (hl x).mpr ⟨hx, fun hh => hij (hxi.symm.trans hh.1)⟩, hxi, hxk⟩
  have unmarked : (∀ k, sp.conn j = some k → k.registered = false) → Rel { m with socks := l } sp := fun hno =>
    { h with
      connSock := fun i k hk hr hg => connS i k hk hr hg (fun hij => by
        subst hij; rw [hno k hk] at hr; cases hr)
      sockConn := fun x hx => h.sockConn x (sub x hx)
      accSock := accS
      sockAcc := fun x hx => h.sockAcc x (sub x hx) }
  unfold SpecSt.markConn
  cases hc : sp.conn j with
  | none => exact unmarked (fun k hk => by rw [hc] at hk; cases hk)
  | some k =>
    dsimp only
    split
    · rename_i hreg
      have hkj : k.i = j := (conn_some hc).2
      have hc' : sp.conn k.i = some k := hkj.symm ▸ hc
      exact
      { h with
        connNodup := nodup_upsert (key := fun x : SConn => x.i) _ h.connNodup
        connLt := forall_conn_setConn h.connLt (h.connLt k.i k hc')
        connData := forall_conn_setConn h.connData (h.connData k.i k hc')
        goneReg := forall_conn_setConn h.goneReg (fun _ => hreg)
        connSock := forall_conn_setConn'
          (fun i x hx hi hr hg => connS i x hx hr hg (fun hij => hi (hij.trans hkj.symm))) (fun _ hg => nomatch hg)
        sockConn := fun x hx hxk =>
          exists_conn_setConn_ne (h.sockConn x (sub x hx) hxk) (fun he => ((hl x).mp hx).2 ⟨he.trans hkj, hxk⟩)
        accSock := accS
        sockAcc := fun x hx => h.sockAcc x (sub x hx)
        blConn := fun a x hx => exists_conn_setConn (h.blConn a x hx) (fun y hy hq => by
          cases hc'.symm.trans hy; exact nomatch hreg.symm.trans hq.1) }
    · rename_i hreg
      exact unmarked (fun k' hk' => by rw [hc] at hk'; cases hk'; exact Bool.eq_false_iff.mpr hreg)

theorem rel_markAcc {m : St} {sp : SpecSt} (h : Rel m sp) (j : Nat) {l : List Sock}
    (hl : ∀ x, x ∈ l ↔ x ∈ m.socks ∧ ¬ (x.id = j ∧ x.kind = .acceptor)) : Rel { m with socks := l } (sp.markAcc j) := by
  have sub : ∀ x ∈ l, x ∈ m.socks := fun x hx => ((hl x).mp hx).1
  have connS : ∀ i k, sp.conn i = some k → k.registered = true → k.gone = false → ∃ x ∈ l, x.id = i ∧ x.kind = .tcp :=
    fun i k hk hr hg => by
      obtain ⟨x, hx, hxi, hxk⟩ := h.connSock i k hk hr hg
      exact ⟨x, (hl x).mpr ⟨hx, fun hh => by rw [hxk] at hh; cases hh.2⟩, hxi, hxk⟩
  have accS : ∀ k ∈ sp.accs, k.gone = false → k.a ≠ j → ∃ x ∈ l, x.id = k.a ∧ x.kind = .acceptor :=
    fun k hk hg hne => by
      obtain ⟨x, hx, hxi, hxk⟩ := h.accSock k hk hg
      exact ⟨x, (hl x).mpr ⟨hx, fun hh => hne (hxi.symm.trans hh.1)⟩, hxi, hxk⟩
  unfold SpecSt.markAcc
  cases ha : sp.acc j with
  | none =>
    exact
    { h with
      connSock := connS
      sockConn := fun x hx => h.sockConn x (sub x hx)
      accSock := fun k hk hg => accS k hk hg (acc_none ha k hk)
      sockAcc := fun x hx => h.sockAcc x (sub x hx) }
  | some a =>
    have haj : a.a = j := (acc_some ha).2
    exact
    { h with
      accLt := forall_mem_setAcc (fun k hk _ => h.accLt k hk) (h.accLt a (acc_some ha).1)
      connSock := connS
      sockConn := fun x hx => h.sockConn x (sub x hx)
      accSock := forall_mem_setAcc (fun k hk hne hg => accS k hk hg (fun he => hne (he.trans haj.symm)))
        (fun hg => nomatch hg)
      sockAcc := fun x hx hxk =>
        exists_acc_setAcc_ne (h.sockAcc x (sub x hx) hxk) (fun he => ((hl x).mp hx).2 ⟨he.trans haj, hxk⟩)
      waiting := forall_mem_setAcc (fun k hk _ => h.waiting k hk) (h.waiting a (acc_some ha).1) }

theorem rel_destroy {m : St} {sp : SpecSt} (h : Rel m sp) (j : Nat) : Rel (unregister m j) (sp.markDestroyed j) :=
  rel_markAcc (l := m.socks.filter (·.id ≠ j))
    (rel_markConn h j (l := m.socks.filter (fun x => ¬ (x.id = j ∧ x.kind = .tcp)))
      (fun x => by rw [List.mem_filter, decide_eq_true_eq])) j
    (fun x => by cases hk : x.kind <;> simp [hk])

theorem rel_destroyAll {m : St} {sp : SpecSt} (h : Rel m sp) (ids : List Nat) :
    Rel (destroyAll m ids) (ids.foldl SpecSt.markDestroyed sp) := by
  induction ids generalizing m sp with
  | nil => exact h
  | cons j js ih => exact ih (rel_destroy h j)

theorem conn_fresh_none {m : St} {sp : SpecSt} (h : Rel m sp) {i : Nat} (hi : m.nextId ≤ i) : sp.conn i = none := by
  cases hc : sp.conn i with
  | none => rfl
  | some k => have := h.connLt i k hc; omega

theorem exists_mem_append {l l' : List Sock} {P : Sock → Prop} : (∃ x ∈ l, P x) → ∃ x ∈ l ++ l', P x :=
  fun ⟨x, hx, hp⟩ => ⟨x, List.mem_append_left _ hx, hp⟩

theorem ok_newAcceptor {order : List Nat} {m : St} {sp : SpecSt} (h : Rel m sp) :
    ∃ sp', specRun sp (modelObs order m .newAcceptor) = .ok sp' ∧ Rel (apply order m .newAcceptor) sp' := by
  have hfr := h.fresh m.nextId (Nat.le_refl _)
  have hnone : sp.acc m.nextId = none := by
    cases hc : sp.acc m.nextId with
    | none => rfl
    | some k => exact absurd ((acc_some hc).2 ▸ h.accLt k (acc_some hc).1) (Nat.lt_irrefl _)
  exact ⟨sp.setAcc { a := m.nextId }, rfl,
  { h with
    connLt := fun j x hx => Nat.lt_succ_of_lt (h.connLt j x hx)
    accLt := forall_mem_setAcc (fun k hk _ => Nat.lt_succ_of_lt (h.accLt k hk)) (Nat.lt_succ_self _)
    fresh := fun c hc => h.fresh c (Nat.le_of_succ_le hc)
    connSock := fun j x hx hr hg => exists_mem_append (h.connSock j x hx hr hg)
    sockConn := forall_mem_snoc h.sockConn (fun hk => nomatch hk)
    accSock := forall_mem_setAcc (fun k hk _ hg => exists_mem_append (h.accSock k hk hg))
      (fun _ => ⟨_, List.mem_concat_self, rfl, rfl⟩)
    sockAcc := forall_mem_snoc
      (fun x hx hk => exists_acc_setAcc (h.sockAcc x hx hk) (fun y hy => nomatch hnone.symm.trans hy))
      (fun _ => ⟨_, acc_setAcc_self sp _, rfl⟩)
    waiting := forall_mem_setAcc (fun k hk _ => h.waiting k hk) (by
      show [] = List.map _ (m.backlog m.nextId)
      rw [hfr.2.2]; rfl) }⟩

/-- the inbound channel of connection `c` changes together with its reference record -/
theorem rel_updConn {m : St} {sp : SpecSt} (h : Rel m sp) {c : Nat} {k k' : SConn} (v : Conn) (hc : sp.conn c = some k)
    (hi : k'.i = k.i) (haddr : k'.addr = k.addr) (hreg : k'.registered = k.registered) (hgone : k'.gone = k.gone)
    (hrx : k'.rx = k.rx)
    (hdata : k'.delivered ≤ k'.stream.length ∧ k'.stream.drop k'.delivered = v.inbox ∧ k'.ended = v.ended) :
    Rel { m with conn := updC m.conn c v } (sp.setConn k') := by
  have hk'c : k'.i = c := hi.trans (conn_some hc).2
  have same : ∀ x, sp.conn k'.i = some x → x = k := fun x hx => by
    rw [hk'c, hc] at hx; exact (Option.some.inj hx).symm
  exact
  { h with
    connNodup := nodup_upsert (key := fun x : SConn => x.i) _ h.connNodup
    connLt := forall_conn_setConn h.connLt (hk'c ▸ h.connLt c k hc)
    fresh := fun j hj => by
      have : j ≠ c := Nat.ne_of_gt (Nat.lt_of_lt_of_le (h.connLt c k hc) hj)
      show (updC m.conn c v j).inbox = [] ∧ (updC m.conn c v j).ended = false ∧ _
      rw [updC_other _ _ _ _ this]; exact h.fresh j hj
    connData := forall_conn_setConn'
      (fun j x hx hj => by
        show _ ∧ _ = (updC m.conn c v j).inbox ∧ _ = (updC m.conn c v j).ended
        rw [updC_other _ _ _ _ (hk'c ▸ hj)]; exact h.connData j x hx)
      (by show _ ∧ _ = (updC m.conn c v k'.i).inbox ∧ _ = (updC m.conn c v k'.i).ended
          rw [hk'c, updC_same]; exact hdata)
    goneReg := forall_conn_setConn h.goneReg (fun hg => hreg ▸ h.goneReg c k hc (hgone ▸ hg))
    connSock := forall_conn_setConn h.connSock (fun hr hg => hk'c ▸ h.connSock c k hc (hreg ▸ hr) (hgone ▸ hg))
    sockConn := fun x hx hk => exists_conn_setConn (h.sockConn x hx hk) (fun y hy hq => by
      rw [same y hy] at hq; exact ⟨hreg ▸ hq.1, hgone ▸ hq.2.1, hrx ▸ hq.2.2.1, haddr ▸ hq.2.2.2⟩)
    blConn := fun a x hx => exists_conn_setConn (h.blConn a x hx) (fun y hy hq => by
      rw [same y hy] at hq; exact ⟨hreg ▸ hq.1, haddr ▸ hq.2⟩) }

/-- the inbound channel of an id that is no connection of the observer (an acceptor) changes -/
theorem rel_updConn_none {m : St} {sp : SpecSt} (h : Rel m sp) {c : Nat} (v : Conn) (hc : sp.conn c = none)
    (hlt : c < m.nextId) : Rel { m with conn := updC m.conn c v } sp :=
  { h with
    fresh := fun j hj => by
      show (updC m.conn c v j).inbox = [] ∧ (updC m.conn c v j).ended = false ∧ _
      rw [updC_other _ _ _ _ (Nat.ne_of_gt (Nat.lt_of_lt_of_le hlt hj))]; exact h.fresh j hj
    connData := fun j x hx => by
      have : j ≠ c := fun he => by rw [he, hc] at hx; cases hx
      show _ ∧ _ = (updC m.conn c v j).inbox ∧ _ = (updC m.conn c v j).ended
      rw [updC_other _ _ _ _ this]; exact h.connData j x hx }

theorem ok_peerSend {order : List Nat} {m : St} {sp : SpecSt} (h : Rel m sp) (c : Nat) (bytes : Bytes)
    (hwf : c < m.nextId) :
    ∃ sp', specRun sp (modelObs order m (.peerSend c bytes)) = .ok sp' ∧ Rel (apply order m (.peerSend c bytes)) sp' := by
  simp only [modelObs, apply]
  cases he : (m.conn c).ended with
  | true => exact ⟨sp, rfl, h⟩
  | false =>
    simp only [Bool.false_eq_true, ↓reduceIte]
    cases hc : sp.conn c with
    | none =>
      refine ⟨sp, by simp only [specRun, specStep, hc], ?_⟩
      exact rel_updConn_none h _ hc hwf
    | some k =>
      refine ⟨sp.setConn { k with stream := k.stream ++ bytes }, by simp only [specRun, specStep, hc], ?_⟩
      have hd := h.connData c k hc
      refine rel_updConn h _ hc rfl rfl rfl rfl rfl ⟨?_, ?_, ?_⟩
      · simp only [List.length_append]; omega
      · show List.drop k.delivered (k.stream ++ bytes) = (m.conn c).inbox ++ bytes
        rw [List.drop_append_of_le_length hd.1, hd.2.1]
      · exact hd.2.2.trans he

theorem ok_peerEnd {m : St} {sp : SpecSt} (h : Rel m sp) (c : Nat) (v : Conn) (hwf : c < m.nextId)
    (hv1 : v.inbox = (m.conn c).inbox) (hv2 : v.ended = true) :
    ∃ sp', specRun sp [.close c] = .ok sp' ∧ Rel { m with conn := updC m.conn c v } sp' := by
  cases hc : sp.conn c with
  | none => exact ⟨sp, by simp only [specRun, specStep, hc], rel_updConn_none h _ hc hwf⟩
  | some k =>
    refine ⟨sp.setConn { k with ended := true }, by simp only [specRun, specStep, hc], ?_⟩
    have hd := h.connData c k hc
    exact rel_updConn h _ hc rfl rfl rfl rfl rfl ⟨hd.1, by rw [hv1]; exact hd.2.1, hv2.symm⟩

theorem lookup_some_mem {l : List (Nat × Nat)} {i n : Nat} (h : lookup l i = some n) : (i, n) ∈ l := by
  obtain ⟨p, hf, rfl⟩ := Option.map_eq_some_iff.mp h
  have hp : p.1 = i := by simpa using List.find?_some hf
  exact hp ▸ List.mem_of_find?_eq_some hf

theorem armCount_le_one {m : St} {sp : SpecSt} (h : Rel m sp) (i : Nat) : (lookup sp.arm i).getD 0 ≤ 1 := by
  cases hl : lookup sp.arm i with
  | none => exact Nat.zero_le _
  | some n => exact (h.armOk _ (lookup_some_mem hl)).1

theorem rel_arm {m : St} {sp : SpecSt} (h : Rel m sp) (i : Nat) {n : Nat} {b : Bool} (hn : n ≤ 1)
    (hb : n = 1 → b = true) :
    Rel { m with wantOut := updB m.wantOut i b } { sp with arm := sp.arm.filter (·.1 ≠ i) ++ [(i, n)] } :=
  { h with
    armOk := fun p hp => by
      show p.2 ≤ 1 ∧ (p.2 = 1 → updB m.wantOut i b p.1 = true)
      rcases List.mem_append.mp hp with hp | hp
      · have hp' := List.mem_filter.mp hp
        rw [updB_other _ _ _ _ (by simpa using hp'.2)]
        exact h.armOk p hp'.1
      · rw [List.mem_singleton.mp hp, updB_same]
        exact ⟨hn, hb⟩ }

theorem ok_wantSend {order : List Nat} {m : St} {sp : SpecSt} (h : Rel m sp) (i : Nat) :
    ∃ sp', specRun sp (modelObs order m (.wantSend i)) = .ok sp' ∧ Rel (apply order m (.wantSend i)) sp' := by
  simp only [modelObs, apply]
  cases hany : m.socks.any (fun x => decide (x.id = i)) with
  | false => exact ⟨sp, rfl, h⟩
  | true =>
    simp only [Bool.true_and, ↓reduceIte]
    cases hw : m.wantOut i with
    | true =>
      refine ⟨sp, rfl, { h with armOk := fun p hp => ⟨(h.armOk p hp).1, fun h1 => ?_⟩ }⟩
      show updB m.wantOut i true p.1 = true
      unfold updB; split
      · rfl
      · exact (h.armOk p hp).2 h1
    | false =>
      simp only [Bool.not_false, ↓reduceIte]
      -- no send was queued: a count of 1 would mean `POLLOUT` is requested
      have hn : (lookup sp.arm i).getD 0 = 0 := by
        cases hl : lookup sp.arm i with
        | none => rfl
        | some n =>
          have := h.armOk _ (lookup_some_mem hl)
          cases n with
          | zero => rfl
          | succ n' =>
            have h1 : n' + 1 = 1 := Nat.le_antisymm this.1 (Nat.succ_le_succ (Nat.zero_le _))
            exact absurd (this.2 h1) (by rw [hw]; decide)
      exact ⟨_, rfl, rel_arm h i (by rw [hn]; exact Nat.le_refl 1) (fun _ => rfl)⟩

theorem rel_newConn {m : St} {sp : SpecSt} (h : Rel m sp) (addr : Nat) (made : List (Nat × Nat × Nat)) :
    Rel { m with made := made, nextId := m.nextId + 1 } (sp.setConn { i := m.nextId, addr := .ord addr }) :=
  have hfr := h.fresh m.nextId (Nat.le_refl _)
  have hnone : sp.conn m.nextId = none := conn_fresh_none h (Nat.le_refl _)
  { h with
    connNodup := nodup_upsert (key := fun x : SConn => x.i) _ h.connNodup
    connLt := forall_conn_setConn (fun j x hx => Nat.lt_succ_of_lt (h.connLt j x hx)) (Nat.lt_succ_self _)
    accLt := fun k hk => Nat.lt_succ_of_lt (h.accLt k hk)
    fresh := fun c hc => h.fresh c (Nat.le_of_succ_le hc)
    connData := forall_conn_setConn h.connData ⟨Nat.le_refl _, hfr.1.symm, hfr.2.1.symm⟩
    goneReg := forall_conn_setConn h.goneReg (fun hg => nomatch hg)
    connSock := forall_conn_setConn h.connSock (fun hr => nomatch hr)
    sockConn := fun x hx hk => exists_conn_setConn (h.sockConn x hx hk) (fun _ hy => nomatch hnone.symm.trans hy)
    blConn := fun a x hx => exists_conn_setConn (h.blConn a x hx) (fun _ hy => nomatch hnone.symm.trans hy) }

/-- the backlog of acceptor `a` and the observer's waiting list change together (queueing and dequeueing) -/
theorem rel_backlog {m : St} {sp : SpecSt} (h : Rel m sp) {a : Nat} {k : SAcc} (hk : sp.acc a = some k)
    (bl : List (Nat × Nat))
    (hbl : ∀ y ∈ bl, ∃ z, sp.conn y.1 = some z ∧ z.registered = false ∧ z.addr = .ord y.2) :
    Rel { m with backlog := updB m.backlog a bl }
      (sp.setAcc { k with waiting := bl.map (fun y => (y.1, Tok.ord y.2)) }) :=
  have hka : k.a = a := (acc_some hk).2
  have hkm := (acc_some hk).1
  have same : ∀ z, sp.acc k.a = some z → z = k := fun z hz => by
    rw [hka, hk] at hz; exact (Option.some.inj hz).symm
  { h with
    accLt := forall_mem_setAcc (fun x hx _ => h.accLt x hx) (h.accLt k hkm)
    fresh := fun j hj => by
      refine ⟨(h.fresh j hj).1, (h.fresh j hj).2.1, ?_⟩
      show updB m.backlog a bl j = []
      rw [updB_other _ _ _ _ (Nat.ne_of_gt (Nat.lt_of_lt_of_le (hka ▸ h.accLt k hkm) hj))]
      exact (h.fresh j hj).2.2
    accSock := forall_mem_setAcc (fun x hx _ => h.accSock x hx) (h.accSock k hkm)
    sockAcc := fun x hx hkind =>
      exists_acc_setAcc (h.sockAcc x hx hkind) (fun z hz hq => by rw [same z hz] at hq; exact hq)
    waiting := forall_mem_setAcc
      (fun x hx hne => by
        show x.waiting = List.map _ (updB m.backlog a bl x.a)
        rw [updB_other _ _ _ _ (fun he => hne (he.trans hka.symm))]; exact h.waiting x hx)
      (by show List.map _ bl = List.map _ (updB m.backlog a bl k.a)
          rw [hka, updB_same])
    blConn := fun b y hy => by
      have hy' : y ∈ updB m.backlog a bl b := hy
      unfold updB at hy'; split at hy'
      · exact hbl y hy'
      · exact h.blConn b y hy' }

theorem ok_peerConnect {order : List Nat} {m : St} {sp : SpecSt} (h : Rel m sp) (a addr : Nat) :
    ∃ sp', specRun sp (modelObs order m (.peerConnect a addr)) = .ok sp' ∧ Rel (apply order m (.peerConnect a addr)) sp' := by
  simp only [modelObs, apply]
  cases hany : m.socks.any (fun k => decide (k.id = a ∧ k.kind = .acceptor)) with
  | false => exact ⟨sp, rfl, h⟩
  | true =>
    simp only [↓reduceIte]
    simp only [List.any_eq_true, decide_eq_true_eq] at hany
    obtain ⟨xa, hxa, rfl, hxkind⟩ := hany
    obtain ⟨k, hk, _⟩ := h.sockAcc xa hxa hxkind
    have h1 := rel_newConn h addr (m.made ++ [(xa.id, m.nextId, addr)])
    have h2 := rel_backlog h1 (a := xa.id) (k := k) hk (m.backlog xa.id ++ [(m.nextId, addr)]) (fun y hy => by
      rcases List.mem_append.mp hy with hy | hy
      · exact h1.blConn xa.id y hy
      · rw [List.mem_singleton.mp hy]; exact ⟨_, conn_setConn_self sp _, rfl, rfl⟩)
    have hw := h.waiting k (acc_some hk).1
    rw [(acc_some hk).2] at hw
    rw [List.map_append, ← hw] at h2
    exact ⟨_, by simp only [specRun, specStep, hk]; rfl, h2⟩

/-- nothing is owed (reference view) when no registered socket of the model has an event -/
theorem owed_none {m : St} {sp : SpecSt} (h : Rel m sp)
    (hidle : ∀ k ∈ m.socks, pick Consts.dispatchOrder (m.revents k) = none) : sp.owed = none := by
  have h1 : sp.conns.find? (fun k => k.registered ∧ ¬ k.gone ∧ (k.delivered < k.stream.length ∨ k.ended)) = none := by
    rw [List.find?_eq_none]
    intro k hk hP
    obtain ⟨hr, hg, hw⟩ := of_decide_eq_true hP
    have hc := conn_of_mem h.connNodup hk
    obtain ⟨x, hx, hxi, hxk⟩ := h.connSock k.i k hc hr (Bool.eq_false_iff.mpr hg)
    have hd := h.connData k.i k hc
    have hf := (pick_consts_none (hidle x hx)).1
    simp only [St.revents, hxk, hxi, Bool.or_eq_false_iff, Bool.not_eq_false'] at hf
    rcases hw with hw | hw
    · have hlen : ((m.conn k.i).inbox).length = k.stream.length - k.delivered := by rw [← hd.2.1, List.length_drop]
      rw [List.isEmpty_iff.mp hf.1, List.length_nil] at hlen
      omega
    · rw [hd.2.2, hf.2] at hw; cases hw
  have h2 : sp.accs.find? (fun a => ¬ a.gone ∧ ¬ a.waiting.isEmpty) = none := by
    rw [List.find?_eq_none]
    intro a ha hP
    obtain ⟨hg, hw⟩ := of_decide_eq_true hP
    obtain ⟨x, hx, hxi, hxk⟩ := h.accSock a ha (Bool.eq_false_iff.mpr hg)
    have hf := (pick_consts_none (hidle x hx)).1
    simp only [St.revents, hxk, hxi] at hf
    rw [h.waiting a ha] at hw
    simp at hw hf
    exact hw hf
  have h3 : sp.arm.find? (fun p => decide (p.2 > 0) && sp.live p.1) = none := by
    rw [List.find?_eq_none]
    intro p hp hP
    simp only [Bool.and_eq_true, decide_eq_true_eq] at hP
    obtain ⟨hn, hl⟩ := hP
    have ha := h.armOk p hp
    have hw := ha.2 (by omega)
    unfold SpecSt.live at hl
    cases hc : sp.conn p.1 with
    | none => rw [hc] at hl; cases hl
    | some k =>
      rw [hc] at hl
      simp only [Bool.and_eq_true, Bool.not_eq_eq_eq_not, Bool.not_true] at hl
      obtain ⟨x, hx, hxi, hxk⟩ := h.connSock p.1 k hc hl.1 hl.2
      have hf := (pick_consts_none (hidle x hx)).2.1
      simp only [St.revents, hxk, hxi] at hf
      rw [hw] at hf; cases hf
  unfold SpecSt.owed
  rw [h1, h2, h3]

/-- a writable task on socket `i`: the model clears the `POLLOUT` request, the observer consumes one queued send -/
theorem rel_wrote {m : St} {sp : SpecSt} (h : Rel m sp) (i : Nat) :
    Rel { m with wantOut := updB m.wantOut i false } (sp.wrote i) :=
  have := armCount_le_one h i
  rel_arm h i (by omega) (by omega)

/-- `DriverDisconnect` of the registered TCP socket `k`: unregistered in the model, gone for the observer -/
theorem rel_disconnect {m : St} {sp : SpecSt} (hinv : DInv m) (h : Rel m sp) {k : Sock} (hk : k ∈ m.socks)
    (hkind : k.kind = .tcp) {kk : SConn} (hc : sp.conn k.id = some kk) :
    Rel (unregister m k.id) (sp.setConn { kk with gone := true }) := by
  have hreg : kk.registered = true := by
    obtain ⟨y, hy1, hy2, _⟩ := h.sockConn k hk hkind
    rw [hc] at hy1; cases hy1; exact hy2
  have hmark : sp.markConn k.id = sp.setConn { kk with gone := true } := by
    simp only [SpecSt.markConn, hc, hreg, ↓reduceIte]
  rw [← hmark]
  -- ids are unique: the only registered socket with the id of `k` is `k`, a TCP socket
  refine rel_markConn h k.id (l := (unregister m k.id).socks) (fun x => ?_)
  rw [unregister_socks, List.mem_filter, decide_eq_true_eq]
  exact ⟨fun ⟨hx, hne⟩ => ⟨hx, fun hh => hne hh.1⟩,
    fun ⟨hx, hne⟩ => ⟨hx, fun he => hne ⟨he, sock_unique hinv hx hk he ▸ hkind⟩⟩⟩

theorem rel_register {m : St} {sp : SpecSt} (h : Rel m sp) {x : SConn} (hx : sp.conn x.i = some x)
    (hxreg : x.registered = false) {addr : Nat} (hxaddr : x.addr = .ord addr) (rx : Nat)
    (hbl : ∀ b y, y ∈ m.backlog b → y.1 ≠ x.i) (hsock : ∀ y ∈ m.socks, y.id ≠ x.i) :
    Rel { m with socks := m.socks ++ [⟨x.i, .tcp, rx, addr⟩] } (sp.setConn { x with registered := true, rx := rx }) :=
  have hxgone : x.gone = false := Bool.eq_false_iff.mpr fun hg => nomatch hxreg.symm.trans (h.goneReg x.i x hx hg)
  { h with
    connNodup := nodup_upsert (key := fun x : SConn => x.i) _ h.connNodup
    connLt := forall_conn_setConn h.connLt (h.connLt x.i x hx)
    connData := forall_conn_setConn h.connData (h.connData x.i x hx)
    goneReg := forall_conn_setConn h.goneReg (fun _ => rfl)
    connSock := forall_conn_setConn (fun j y hy hr hg => exists_mem_append (h.connSock j y hy hr hg))
      (fun _ _ => ⟨_, List.mem_concat_self, rfl, rfl⟩)
    sockConn := forall_mem_snoc (fun y hy hyk => exists_conn_setConn_ne (h.sockConn y hy hyk) (hsock y hy))
      (fun _ => ⟨_, conn_setConn_self _ _, rfl, hxgone, rfl, hxaddr⟩)
    accSock := fun a ha hg => exists_mem_append (h.accSock a ha hg)
    sockAcc := forall_mem_snoc h.sockAcc (fun hyk => nomatch hyk)
    blConn := fun b y hy => exists_conn_setConn_ne (h.blConn b y hy) (hbl b y hy) }

/-- `DriverConnect` of acceptor `k`: dequeue the front connection, then register its socket -/
theorem rel_connect {m : St} {sp : SpecSt} (hinv : DInv m) (h : Rel m sp) {k : Sock}
    {c addr : Nat} {rest : List (Nat × Nat)} (hb : m.backlog k.id = (c, addr) :: rest) (rx : Nat)
    {ka : SAcc} (hka : sp.acc k.id = some ka) {x : SConn} (hx : sp.conn c = some x) :
    Rel { m with backlog := updB m.backlog k.id rest, socks := m.socks ++ [⟨c, .tcp, rx, addr⟩] }
      ((sp.setAcc { ka with waiting := rest.map (fun y => (y.1, Tok.ord y.2)) }).setConn { x with registered := true, rx := rx }) := by
  obtain rfl : x.i = c := (conn_some hx).2
  have hin : (x.i, addr) ∈ m.backlog k.id := by rw [hb]; exact List.mem_cons_self
  obtain ⟨x0, hx0, hxreg, hxaddr⟩ := h.blConn k.id (x.i, addr) hin
  rw [hx] at hx0; cases hx0
  have hbl := backlog_pop hinv hb
  have h1 := rel_backlog h hka rest (fun y hy => h.blConn k.id y (by rw [hb]; exact List.mem_cons_of_mem _ hy))
  exact rel_register h1 hx hxreg hxaddr rx (fun b y hy => (hbl b y hy).2)
    (fun y hy he => (hinv.blFresh k.id (x.i, addr) hin).2 (List.mem_map.mpr ⟨y, hinv.sub y hy, he⟩))

theorem ok_newClient {order : List Nat} {m : St} {sp : SpecSt} (hinv : DInv m) (h : Rel m sp) (addr rx : Nat) :
    ∃ sp', specRun sp (modelObs order m (.newClient addr rx)) = .ok sp' ∧ Rel (apply order m (.newClient addr rx)) sp' := by
  have h2 := rel_register (x := { i := m.nextId, addr := .ord addr }) (rel_newConn h addr m.made)
    (conn_setConn_self sp _) rfl rfl (max 1 rx) (fun b y hy => Nat.ne_of_lt (hinv.blFresh b y hy).1)
    (fun y hy => Nat.ne_of_lt (sock_lt hinv hy))
  rw [setConn_setConn (k := { i := m.nextId, addr := .ord addr }) (k' := { i := m.nextId, addr := .ord addr, registered := true, rx := max 1 rx })
    rfl (conn_fresh_none h (Nat.le_refl _))] at h2
  exact ⟨_, rfl, { h2 with }⟩
theorem specRun_single (c : SpecSt) (o : Obs) : specRun c [o] = specStep c o := by
  simp only [specRun]; cases specStep c o <;> rfl

theorem specStepObs_idle (c : SpecSt) (rx : Nat) (h : c.owed = none) : specStepObs c { rx := rx } = .ok c := by
  simp [specStepObs, h]

theorem specStepObs_send (c : SpecSt) (rx i : Nat) : specStepObs c { rx := rx, sends := [some i] } = .ok (c.wrote i) := by
  simp [specStepObs]

theorem specStepObs_ev (c c1 : SpecSt) (rx : Nat) (e : EvObs) (hdl : List Nat) (ht : e.onStepThread = true)
    (he : specEv c rx e.ev = .ok c1) :
    specStepObs c { rx := rx, evs := [e], destroyed := hdl } = .ok (hdl.foldl SpecSt.markDestroyed c1) := by
  simp [specStepObs, ht, he]

theorem specData_ok {c : SpecSt} {i n : Nat} {k : SConn} (hk : c.conn i = some k) (hg : k.gone = false) (h1 : 1 ≤ n)
    (hrx : n ≤ k.rx) {bytes : Bytes} (hb : (k.stream.drop k.delivered).take n = bytes) (hlen : bytes.length = n) :
    specData c i n (.ord (fnv bytes).toNat) = .ok (c.setConn { k with delivered := k.delivered + n }) := by
  simp only [specData, hk, hg, hb, hlen]
  rw [if_neg (by simp), if_neg (by omega), if_neg (by omega), if_neg (by simp)]

theorem specDisconnect_ok {c : SpecSt} {i : Nat} {k : SConn} (hk : c.conn i = some k) (hg : k.gone = false)
    (hend : k.ended = true) (hdel : k.delivered = k.stream.length) (reason : String) :
    specDisconnect c i k.addr reason = .ok (c.setConn { k with gone := true }) := by
  simp [specDisconnect, hk, hg, hend, hdel]

theorem specConnect_ok {c : SpecSt} {a i : Nat} {k : SAcc} {waddr : Tok} {more : List (Nat × Tok)} (rx : Nat)
    (hk : c.acc a = some k) (hg : k.gone = false) (hw : k.waiting = (i, waddr) :: more) :
    specConnect c rx a (.ord i) waddr =
      .ok (match (c.setAcc { k with waiting := more }).conn i with
           | some x => (c.setAcc { k with waiting := more }).setConn { x with registered := true, rx := rx }
           | none => c.setAcc { k with waiting := more }) := by
  simp only [specConnect, hk, hg, hw]
  rw [if_neg (by simp), if_neg (by simp), if_neg (by simp)]

/-- what `modelObs` shows of a step that served the task `t` on socket `k` and ended in `m'` -/
def taskObs (m : St) (k : Sock) (t : Task) (rx : Nat) (hdl : List Nat) (m' : St) : StepObs :=
  { rx := max 1 rx
    evs := (m'.log.drop m.log.length).map renderEv
    sends := match t with | .writable => [some k.id] | _ => []
    destroyed := if ((m'.log.drop m.log.length).map renderEv).isEmpty then [] else hdl }

theorem modelObs_idle {order : List Nat} {m : St} (hf : firstTask order m m.socks = none) (chunk rx : Nat)
    (hdl : List Nat) : modelObs order m (.step false chunk rx hdl) = [.step { rx := max 1 rx }] := by
  have hs : stepSockets order m false chunk rx hdl = m := by simp [stepSockets, hf]
  simp [modelObs, hs, hf]

theorem modelObs_task {order : List Nat} {m : St} {k : Sock} {t : Task} (hf : firstTask order m m.socks = some (k, t))
    (chunk rx : Nat) (hdl : List Nat) :
    modelObs order m (.step false chunk rx hdl) = [.step (taskObs m k t rx hdl (doTask m k t chunk rx hdl))] := by
  have hs : stepSockets order m false chunk rx hdl = doTask m k t chunk rx hdl := by simp [stepSockets, hf]
  simp only [modelObs, hs, hf, taskObs, Bool.false_eq_true, ↓reduceIte]
  cases t <;> rfl

theorem taskObs_writable (m : St) (k : Sock) (rx : Nat) (hdl : List Nat) (w : Nat → Bool) :
    taskObs m k .writable rx hdl { m with wantOut := w } = { rx := max 1 rx, sends := [some k.id] } := by
  simp [taskObs]

theorem ok_handler {m m1 : St} {sp sp1 : SpecSt} {ev : Event} (hlog : m1.log = m.log ++ [ev]) (k : Sock) {t : Task}
    (ht : t ≠ .writable) (rx : Nat) (hdl : List Nat) (he : specEv sp (max 1 rx) (renderEv ev).ev = .ok sp1)
    (hrel : Rel m1 sp1) :
    ∃ sp', specStepObs sp (taskObs m k t rx hdl (destroyAll m1 hdl)) = .ok sp' ∧ Rel (destroyAll m1 hdl) sp' := by
  simp only [taskObs, destroyAll_log, hlog, List.drop_left, List.map_cons, List.map_nil, List.isEmpty_cons,
    Bool.false_eq_true, ↓reduceIte]
  exact ⟨_, specStepObs_ev sp sp1 _ _ hdl (by cases ev <;> rfl) he, rel_destroyAll hrel hdl⟩

theorem ok_task {m : St} {sp : SpecSt} (hinv : DInv m) (h : Rel m sp) {k : Sock} {t : Task} (hk : k ∈ m.socks)
    (hp : pick Consts.dispatchOrder (m.revents k) = some t) (chunk rx : Nat) (hdl : List Nat) :
    ∃ sp', specStepObs sp (taskObs m k t rx hdl (doTask m k t chunk rx hdl)) = .ok sp' ∧
      Rel (doTask m k t chunk rx hdl) sp' := by
  refine doTask_cases (motive := fun m' => ∃ sp', specStepObs sp (taskObs m k t rx hdl m') = .ok sp' ∧ Rel m' sp')
    hp chunk rx hdl ?_ ?_ ?_ ?_ ?_
  · intro ht _ _
    subst ht
    rw [taskObs_writable]
    exact ⟨sp.wrote k.id, specStepObs_send sp _ k.id, rel_wrote h k.id⟩
  · intro ht hkind hnil hend r
    subst ht
    obtain ⟨kk, hc, _, hgone, _, haddr⟩ := h.sockConn k hk hkind
    have hd := h.connData k.id kk hc
    have hdel : kk.delivered = kk.stream.length := by
      have := hd.2.1
      rw [hnil, List.drop_eq_nil_iff] at this
      exact Nat.le_antisymm hd.1 this
    -- `Rel` does not read the handler log
    refine ok_handler (sp1 := sp.setConn { kk with gone := true }) rfl k (by decide) rx hdl ?_
      { rel_disconnect hinv h hk hkind hc with }
    show specDisconnect sp k.id (.ord k.peerAddr) _ = _
    rw [← haddr]
    exact specDisconnect_ok hc hgone (hd.2.2.trans hend) hdel _
  · intro ht hkind hrst
    exact absurd (ht ▸ hp) (no_hangup hkind (hinv.rstEnded k.id hrst))
  · intro ht hkind n h1 hrxn hlen
    subst ht
    obtain ⟨kk, hc, _, hgone, hrx, _⟩ := h.sockConn k hk hkind
    have hd := h.connData k.id kk hc
    have htl : ((m.conn k.id).inbox.take n).length = n := by rw [List.length_take]; omega
    have hin : (m.conn k.id).inbox.length = kk.stream.length - kk.delivered := by rw [← hd.2.1, List.length_drop]
    refine ok_handler (sp1 := sp.setConn { kk with delivered := kk.delivered + n }) rfl k (by decide) rx hdl ?_ ?_
    · show specData sp k.id ((m.conn k.id).inbox.take n).length _ = _
      rw [htl]
      exact specData_ok hc hgone h1 (hrx ▸ hrxn (hinv.rxPos k (hinv.sub k hk))) (by rw [hd.2.1]) htl
    · refine { rel_updConn (k' := { kk with delivered := kk.delivered + n }) h
        { m.conn k.id with inbox := (m.conn k.id).inbox.drop n } hc rfl rfl rfl rfl rfl ⟨?_, ?_, hd.2.2⟩ with }
      · show kk.delivered + n ≤ kk.stream.length
        have := hd.1
        omega
      · show List.drop (kk.delivered + n) kk.stream = List.drop n (m.conn k.id).inbox
        rw [← hd.2.1, List.drop_drop]
  · intro ht hkind c addr rest hb
    subst ht
    obtain ⟨ka, hka, hkag⟩ := h.sockAcc k hk hkind
    have hw := h.waiting ka (acc_some hka).1
    rw [(acc_some hka).2, hb, List.map_cons] at hw
    obtain ⟨x, hx, _, _⟩ := h.blConn k.id (c, addr) (by rw [hb]; exact List.mem_cons_self)
    refine ok_handler rfl k (by decide) rx hdl ?_
      { rel_connect hinv h hb (max 1 rx) hka hx with }
    show specConnect sp (max 1 rx) k.id (.ord c) (.ord addr) = _
    rw [specConnect_ok (max 1 rx) hka hkag hw]
    simp only [setAcc_conn, hx]

theorem ok_step {m : St} {sp : SpecSt} (hinv : DInv m) (h : Rel m sp) (pipe : Bool) (chunk rx : Nat) (hdl : List Nat) :
    ∃ sp', specRun sp (modelObs Consts.dispatchOrder m (.step pipe chunk rx hdl)) = .ok sp' ∧
      Rel (apply Consts.dispatchOrder m (.step pipe chunk rx hdl)) sp' := by
  cases pipe with
  | true => exact ⟨sp, rfl, h⟩
  | false =>
    cases hf : firstTask Consts.dispatchOrder m m.socks with
    | none =>
      have hs : apply Consts.dispatchOrder m (.step false chunk rx hdl) = m := by simp [apply, stepSockets, hf]
      rw [modelObs_idle hf, hs, specRun_single]
      exact ⟨sp, specStepObs_idle sp _ (owed_none h (firstTask_none hf)), h⟩
    | some p =>
      obtain ⟨k, t⟩ := p
      have hs : apply Consts.dispatchOrder m (.step false chunk rx hdl) = doTask m k t chunk rx hdl := by
        simp [apply, stepSockets, hf]
      rw [modelObs_task hf, hs, specRun_single]
      exact ok_task hinv h (firstTask_spec hf).1 (firstTask_spec hf).2 chunk rx hdl

theorem specRun_append (s : SpecSt) (a b : List Obs) :
    specRun s (a ++ b) = match specRun s a with | .ok s' => specRun s' b | .error e => .error e := by
  induction a generalizing s with
  | nil => rfl
  | cons o os ih =>
    simp only [List.cons_append, specRun]
    cases specStep s o with
    | ok s' => exact ih s'
    | error e => rfl

/-- one operation: the spec accepts the model's observations and the relation is re-established -/
theorem spec_step_ok {m : St} {sp : SpecSt} (hinv : DInv m) (h : Rel m sp) (op : Op) (hwf : opWf m op = true) :
    ∃ sp', specRun sp (modelObs Consts.dispatchOrder m op) = .ok sp' ∧ Rel (apply Consts.dispatchOrder m op) sp' := by
  cases op with
  | newClient addr rx => exact ok_newClient hinv h addr rx
  | newAcceptor => exact ok_newAcceptor h
  | peerConnect a addr => exact ok_peerConnect h a addr
  | peerSend c bytes => exact ok_peerSend h c bytes (by simpa [opWf] using hwf)
  | peerClose c | peerRst c => exact ok_peerEnd h c _ (by simpa [opWf] using hwf) rfl rfl
  | wantSend i => exact ok_wantSend h i
  | destroy i => exact ⟨sp.markDestroyed i, rfl, rel_destroy h i⟩
  | step pipe chunk rx hdl => exact ok_step hinv h pipe chunk rx hdl

/-- from any related pair of states -/
theorem model_satisfies_spec_from (ops : List Op) (m : St) (sp : SpecSt) (hinv : DInv m) (hrel : Rel m sp)
    (hwf : histWf Consts.dispatchOrder m ops = true) :
    ∃ s, specRun sp (modelTrace Consts.dispatchOrder m ops) = .ok s := by
  induction ops generalizing m sp with
  | nil => exact ⟨sp, rfl⟩
  | cons op ops ih =>
    simp only [histWf, Bool.and_eq_true] at hwf
    obtain ⟨s1, h1, hrel1⟩ := spec_step_ok hinv hrel op hwf.1
    obtain ⟨s2, h2⟩ := ih _ s1 (inv_apply hinv op) hrel1 hwf.2
    refine ⟨s2, ?_⟩
    simp only [modelTrace]
    rw [specRun_append, h1]
    exact h2

/-- **The property predicate that `./check C03` evaluates on the implementation is a theorem of the
model**: for every history of user operations (new client sockets and acceptors, send requests,
destruction), peer operations (connect, send any bytes, close, reset - on connections that exist) and
driver steps of any length, with every segmentation, every receive-buffer size and every set of
sockets destroyed by the handlers, the model's own observations are accepted by every clause of
`Spec.C03`. -/
theorem model_satisfies_spec (ops : List Op) (hwf : histWf Consts.dispatchOrder {} ops = true) :
    ∃ s, specRun {} (modelTrace Consts.dispatchOrder {} ops) = .ok s :=
  model_satisfies_spec_from ops {} {} inv_init rel_init hwf

end SockModel.Dispatch.Spec
