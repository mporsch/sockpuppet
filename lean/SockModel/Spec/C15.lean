import SockModel.Model.PeerFailLemmas
/-!
# Spec.C15 - "peer failure at any point is reported, never fatal" as an executable predicate over
typed observations, the scenario model, and the proof that the model satisfies the predicate

`specStep` / `specRun` / `specFinal` are what `./check C15` evaluates on the IMPLEMENTATION's transcript:
`Drive/C15.lean` parses every transcript line into an `Obs` (`toObs`) and calls exactly these functions.
The observer's state `SpecSt` mentions no model state: it is derived from what the harness did (the
`setup`, `after` op lines, the `peer kill`, `destroy`, `enq` notes, the `pre done` / `got` / `state` lines)
and from what the implementation was seen to do (`api` / `ret` / `os poll` / `os send` / `rx` / `disc` /
`fut` lines, crash / hang / death by signal).

Clauses:
* the process is never killed by a signal, does not crash, does not hang;
* every raw `send` carries MSG_NOSIGNAL;
* waits stay within the timeout semantics of the call they belong to (unlimited: only unlimited waits;
  zero: only `poll(0)`; limited: never unlimited, never over the remaining budget);
* a peer failure is a runtime error: no `std::logic_error` leaves `Send` / `Receive`, nothing is thrown out
  of `Driver::Step`; the receive handler never gets an empty buffer; the disconnect handler never runs twice;
* futures tell the truth: no success for a buffer enqueued after the disconnect, none left pending by the
  destruction, none abandoned while the socket is alive;
* at the end: what was delivered is a prefix of what the peer sent; after the peer's close / half close /
  reset the failure was reported (async: disconnect handler exactly once, every enqueued buffer's future
  resolved or broken after destruction; sync: `Receive` threw, a `Send` of >= 1 MB more threw); for an orderly
  close the complete stream was delivered before the report.

The second half of the file composes the existing model functions (`PeerFail.recvT`, `sendT`, `pEnqueue`,
`pTask` over `Net.Script.world`; nothing is re-defined) into the scenario the harness plays, lists the
observations the MODEL produces for an arbitrary history (`modelTrace`) and proves
`model_satisfies_spec_partial`: the predicate accepts the model's trace of every history that satisfies the
environment assumptions K1 / A-TCP (`histOk`, decidable) - for the plain socket; what a statement that includes TLS
endpoints would need is said next to the theorem.
-/
namespace SockModel.PeerFail.Spec
open SockModel.Net SockModel.Tls

/-! ## typed observations -/

/-- one phase letter of the `after order=…` op line -/
inductive Phase where
  | r | s | other
  deriving DecidableEq, Repr

/-- what the peer did (`peer kill <kind> …`) -/
inductive KillKind where
  | close | shutwr | rst
  | other (name : String)
  deriving DecidableEq, Repr

def KillKind.name : KillKind → String
  | .close => "close" | .shutwr => "shutwr" | .rst => "rst" | .other n => n

inductive ApiOp where
  | send | recv | other
  deriving DecidableEq, Repr

/-- how a synchronous call on X ended: returned, or threw (`logic`: the class is `std::logic_error`;
`sendErr`: the text names a failed `send:`) -/
inductive Ret where
  | returned
  | threw (logic sendErr : Bool)
  deriving DecidableEq, Repr

/-- state of a future as the harness reports it -/
inductive Fut where
  | ok | exn | pending | broken | other
  deriving DecidableEq, Repr

inductive Abort where
  | crash | hang | killed
  deriving DecidableEq, Repr

/-- one transcript line, typed.  Lines without a meaning for the property (engine / BIO calls, `os recv`,
`dpoll`, the peer's own lines, events of an endpoint other than `x`) have no `Obs`. -/
inductive Obs where
  /-- op line `setup x=<kind> tls=<0|1> …`: the endpoint exists from here on -/
  | setup (async tls : Bool)
  /-- `-> setup ok … ppay=<hex>`: the payload the peer is going to send -/
  | payload (ppay : Bytes)
  /-- `-> pre done xsent=<n> …` -/
  | pre (xsent : Nat)
  /-- op line `after order=<phases> big=<n> …` -/
  | after (order : List Phase) (big : Nat)
  /-- `-> api x <op> <T> …`: a synchronous call on X begins -/
  | api (op : ApiOp) (T : Option Int)
  /-- `-> os x poll <dir> <t> <ready|timeout>` -/
  | poll (t : Int) (ready : Bool)
  /-- `-> os <who> send <len> ns=<0|1> …` (`who` only quoted) -/
  | send (who : String) (noSignal : Bool)
  /-- `-> ret x …` -/
  | ret (r : Ret)
  /-- `-> ret dx throw …`: an exception left `Driver::Step` -/
  | stepThrew (text : String)
  /-- `-> rx x <n>`: receive handler -/
  | rx (n : Nat)
  /-- `-> disc x <why>`: disconnect handler -/
  | disc (sendErr : Bool)
  /-- `-> enq x <n>`: a buffer is handed to the asynchronous `Send` -/
  | enq
  /-- `-> fut x <i> <state>` -/
  | fut (i : Nat) (r : Fut)
  /-- `-> peer kill <kind> sent=<n> read=<n>` -/
  | kill (kind : KillKind) (pread : Nat)
  /-- `-> destroy x` -/
  | destroy
  /-- `-> got x <hex>`: everything X's caller / receive handler obtained -/
  | got (bs : Bytes)
  /-- `-> state x … psent=<n>`: bytes the peer has sent -/
  | state (psent : Nat)
  /-- `-> crash …` / `-> hang …` / `-> killed …` -/
  | abort (what : Abort) (text : String)
  deriving Repr

/-! ## the observer's state -/

/-- endpoint X as observed -/
structure EpSt where
  async : Bool
  tls : Bool
  discSeen : Nat := 0
  recvOp : Bool := false
  /-- timeout of the synchronous Send / Receive in progress -/
  callT : Option Int := none
  /-- virtual ms its timed-out waits have consumed so far -/
  spent : Int := 0
  deriving DecidableEq, Repr

structure SpecSt where
  ep : Option EpSt := none
  spay : Bytes := []
  /-- the latest `peer kill`: kind, bytes the peer had read -/
  kill : Option (KillKind × Nat) := none
  /-- the first `after` line: order, big -/
  order : Option (List Phase × Nat) := none
  /-- the first `pre done` line -/
  xsentAtKill : Option Nat := none
  threwAfterKill : Bool := false
  sendErrEndedRecv : Bool := false
  destroyed : Bool := false
  /-- per enqueued buffer, oldest first: was it enqueued after the disconnect? -/
  enqs : List Bool := []
  /-- futures reported resolved or broken -/
  futs : Nat := 0
  got : Bytes := []
  psent : Nat := 0
  deriving DecidableEq, Repr

/-! ## the predicate -/

/-- the first one wins -/
def firstOf {α : Type} (old : Option α) (new : α) : Option α :=
  match old with
  | some x => some x
  | none => some new

/-- the C07 clauses of one wait inside a synchronous call with timeout `T` -/
def pollClause (ep : EpSt) (T : Int) (t : Int) (ready : Bool) : Except String EpSt :=
  if T < 0 then
    if t ≥ 0 then .error s!"x: call with unlimited timeout issued a bounded wait poll({t})" else .ok ep
  else if T = 0 then
    if t ≠ 0 then .error s!"x: call with timeout 0 issued a blocking wait poll({t})" else .ok ep
  else if t < 0 then .error s!"x: call with timeout {T} ms issued an unlimited wait"
  else if ep.spent + t > T then
    .error s!"x: call with timeout {T} ms waits poll({t}) after its earlier waits already consumed {ep.spent} ms: over budget"
  else .ok { ep with spent := ep.spent + (if ready then 0 else t) }

def futClause (s : SpecSt) (i : Nat) (r : Fut) : Except String SpecSt :=
  let late := s.enqs[i]? == some true
  if r = .ok ∧ late then .error s!"future {i} of a buffer enqueued after the disconnect reports success"
  else if r = .pending then .error s!"future {i} still unresolved after the socket was destroyed"
  else if r = .broken ∧ ¬ s.destroyed then
    .error s!"future {i} was abandoned (broken promise) while the socket is still alive - its failure was swallowed"
  else .ok { s with futs := s.futs + 1 }

def Abort.msg : Abort → String
  | .crash => "crash: " | .hang => "hang: " | .killed => "process killed by a signal: "

def specStep (s : SpecSt) : Obs → Except String SpecSt
  | .setup async tls => .ok { s with ep := some { async, tls } }
  | .payload p => .ok { s with spay := p }
  | .pre x => .ok { s with xsentAtKill := firstOf s.xsentAtKill x }
  | .after o b => .ok { s with order := firstOf s.order (o, b) }
  | .api op T =>
    match s.ep with
    | some ep => .ok { s with ep := some { ep with recvOp := op == .recv, callT := if op == .other then none else T, spent := 0 } }
    | none => .ok s
  | .poll t ready =>
    match s.ep with
    | some ep =>
      match ep.callT with
      | none => .ok s
      | some T => (pollClause ep T t ready).map fun ep' => { s with ep := some ep' }
    | none => .ok s
  | .send who ns => if ns then .ok s else .error s!"{who}: raw send without MSG_NOSIGNAL"
  | .ret r =>
    let s := match s.ep with
      | some ep => { s with ep := some { ep with callT := none } }
      | none => s
    match r with
    | .returned => .ok s
    | .threw logic sendErr =>
      if logic then .error "x: std::logic_error escaped (logic_error) - a peer failure must be reported as a runtime error"
      else
        let recvOp := s.ep.map (·.recvOp) == some true
        let s := if recvOp ∧ sendErr then { s with sendErrEndedRecv := true } else s
        .ok (if s.kill.isSome then { s with threwAfterKill := true } else s)
  | .stepThrew text => .error s!"Driver::Step threw instead of reporting through the handlers: {text}"
  | .rx n =>
    match s.ep with
    | some _ => if n = 0 then .error "x: receive handler invoked with an empty buffer" else .ok s
    | none => .ok s
  | .disc sendErr =>
    match s.ep with
    | some ep =>
      if ep.discSeen ≥ 1 then .error "x: disconnect handler invoked twice"
      else
        let s := { s with ep := some { ep with discSeen := ep.discSeen + 1 } }
        .ok (if sendErr then { s with sendErrEndedRecv := true } else s)
    | none => .ok (if sendErr then { s with sendErrEndedRecv := true } else s)
  | .enq =>
    let afterDisc := s.ep.map (·.discSeen) != some 0
    .ok { s with enqs := s.enqs ++ [afterDisc] }
  | .fut i r => futClause s i r
  | .kill kind pread => .ok { s with kill := some (kind, pread) }
  | .destroy => .ok { s with destroyed := true }
  | .got bs => .ok { s with got := bs }
  | .state p => .ok { s with psent := p }
  | .abort w text => .error (w.msg ++ text)

def specRun (s : SpecSt) : List Obs → Except String SpecSt
  | [] => .ok s
  | o :: rest =>
    match specStep s o with
    | .ok s' => specRun s' rest
    | .error m => .error m

/-- "the failure is reported" -/
def reportClause (s : SpecSt) (ep : EpSt) (kind : KillKind) (order : List Phase) (big : Nat) : Option String :=
  if ep.async then
    if ep.discSeen ≠ 1 ∧ order ≠ [] then some s!"x: disconnect handler ran {ep.discSeen} times after the peer's {kind.name}"
    else if s.destroyed ∧ s.enqs.length ≠ s.futs then
      some s!"x: {s.enqs.length} buffers were enqueued but {s.futs} futures resolved or broke"
    else none
  else
    if order.contains .r ∧ ¬ s.threwAfterKill then some s!"x: Receive never reported the peer's {kind.name} (no exception)"
    else if order.contains .s ∧ kind ≠ .shutwr ∧ big ≥ 1000000 ∧ ¬ s.threwAfterKill then
      some s!"x: Send of {big} more bytes never reported the peer's {kind.name} (no exception)"
    else none

/-- "the complete stream for an orderly close" -/
def orderlyClause (s : SpecSt) (ep : EpSt) (kind : KillKind) (pread : Nat) (order : List Phase) : Option String :=
  let orderly := kind = .shutwr ∨ (kind = .close ∧ pread ≥ s.xsentAtKill.getD 0)
  let readFirst := ep.async ∨ order.head? = some .r
  if orderly ∧ readFirst ∧ order ≠ [] ∧ s.got.length ≠ s.psent then
    if ep.tls ∧ s.sendErrEndedRecv then
      some s!"tls-write-error-in-receive: x (TLS) reported the peer's orderly {kind.name} through a failed SEND inside Receive (session tickets), delivering {s.got.length} of the {s.psent} bytes the peer had sent"
    else some s!"x: orderly {kind.name} after the peer had sent {s.psent} bytes, but only {s.got.length} were delivered before the report"
  else none

/-- the end-of-case part of the predicate; `none` = satisfied -/
def specFinal (s : SpecSt) : Option String :=
  match s.ep with
  | none => some "no endpoint"
  | some ep =>
    if ¬ s.got.isPrefixOf s.spay then some s!"x: delivered bytes are not a prefix of what the peer sent ({s.got.length} bytes)"
    else if s.got.length > s.psent then some s!"x: delivered {s.got.length} bytes, the peer only sent {s.psent}"
    else
      match s.kill with
      | none => none
      | some (kind, pread) =>
        if kind.name = "" then none
        else
          let order := (s.order.map (·.1)).getD []
          let big := (s.order.map (·.2)).getD 0
          match reportClause s ep kind order big with
          | some m => some m
          | none => orderlyClause s ep kind pread order

/-- the whole predicate: every line is accepted and the end-of-case clauses hold -/
def specCheck (obs : List Obs) : Except String Unit :=
  match specRun {} obs with
  | .error m => .error m
  | .ok s => match specFinal s with | some m => .error m | none => .ok ()


/-! ## the scenario model

One library socket X (plain TCP; `async = false`: the synchronous `Send` / `Receive` of the basic and buffered level,
`async = true`: the asynchronous socket on a driver) against the harness' peer.  The kernel is `Net.Script.world`:
any finite list of scripted `poll` / `send` answers and the peer's segments as scripted `recv` answers; `dead`
(assumption **K1**) is switched on by the peer's kill.  Everything the library does is `PeerFail.sendT`,
`recvT`, `pEnqueue`, `pTask` as they are. -/

structure Sys where
  async : Bool
  rsz : Nat
  ppay : Bytes
  x : PSt Script := { w := { dead := false } }
  /-- bytes of `ppay` the peer has sent -/
  psent : Nat := 0
  /-- what X's caller / receive handler obtained -/
  got : Bytes := []
  killed : Option (KillKind × Nat) := none
  /-- the peer's kill discarded data (reset) -/
  lossy : Bool := false
  xsentPre : Option Nat := none
  ord : Option (List Phase × Nat) := none
  destroyed : Bool := false
  /-- ghost: a synchronous call / a `Receive` threw after the kill -/
  threw : Bool := false
  rthrew : Bool := false

/-- an orderly end of the peer's stream: half close, or close after the peer has read what X had sent -/
def orderly (kind : KillKind) (pread : Nat) (xsentPre : Option Nat) : Bool :=
  kind = .shutwr ∨ (kind = .close ∧ pread ≥ xsentPre.getD 0)

/-- a history: what the harness and the environment do -/
inductive Op where
  /-- the peer sends the next `n` bytes of its payload; they reach X's kernel as one segment (at most `rsz` bytes) -/
  | psend (n : Nat)
  /-- `Send(data, T)`; `waits` / `sends`: further scripted kernel answers -/
  | send (T : Int) (data : Bytes) (waits : List WaitAns) (sends : List SendAns)
  /-- `Receive(rsz, T)` -/
  | recv (T : Int) (waits : List WaitAns)
  /-- asynchronous `Send(buffer)` -/
  | enq (data : Bytes)
  /-- `Driver::Step` in which `poll` reported `rev` for X -/
  | step (rev : REvents) (sends : List SendAns)
  /-- the `pre done xsent=…` line -/
  | pre (xsent : Nat)
  /-- the peer closes / half-closes / resets after having read `pread` bytes; `reset = some (k, e)`: only the first
  `k` segments X has not read yet survive, then `recv` fails with `e`; `sends`: the `send` answers the kernel still
  gives before it fails with EPIPE -/
  | kill (kind : KillKind) (pread : Nat) (reset : Option (Nat × Nat)) (sends : List SendAns)
  /-- the `after order=… big=…` op line -/
  | after (order : List Phase) (big : Nat)
  /-- the asynchronous socket is destroyed -/
  | destroy
  deriving Repr

def callObs : Call → Option Obs
  | .wait _ t ready => some (.poll t ready)
  | .send _ _ ns => some (.send "x" ns)
  | .recv _ _ => none

/-- the `os …` lines of a call log (newest first) -/
def callsObs (calls : List Call) : List Obs := calls.reverse.filterMap callObs

def Exn.isLogic : Exn → Bool
  | .logic _ => true
  | _ => false

def retOf (e : Option Exn) (sendErr : Bool) : Ret :=
  match e with
  | none => .returned
  | some e => .threw (Exn.isLogic e) sendErr

def futOf : FutRes → Fut
  | .ok => .ok
  | .exn => .exn

/-- the script with further answers appended and an empty call log -/
def arm (w : Script) (waits : List WaitAns) (sends : List SendAns) : Script :=
  { w with waits := w.waits ++ waits, sends := w.sends ++ sends, calls := [] }

/-- the elements a step pushed onto a newest-first ghost list -/
def pushed {α : Type} (before after : List α) : List α := after.take (after.length - before.length)

/-- observations of one driver step: raw sends, handler calls, what left `Step`, futures resolved -/
def stepObs (a : Async) (o : Out Unit) (p : PSt Script) : List Obs :=
  callsObs p.w.calls
  ++ (pushed a.delivered p.a.delivered).map (fun bs => Obs.rx bs.length)
  ++ (if p.a.disconnects = a.disconnects + 1 then [Obs.disc false] else [])
  ++ (match o with
      | .ok () => []
      | .exn _ => [Obs.stepThrew "logic_error"]
      | .abort m => [Obs.abort .crash m])
  ++ (pushed a.futures p.a.futures).map (fun f => Obs.fut a.futures.length (futOf f))

/-- the `recv` answers left after the peer's kill -/
def killRecvs (recvs : List RecvAns) : Option (Nat × Nat) → List RecvAns
  | none => recvs
  | some (k, e) => recvs.take k ++ [.fail e]

/-- the promises still queued when the socket is destroyed are reported broken -/
def brokenObs (start : Nat) : Nat → List Obs
  | 0 => []
  | n + 1 => Obs.fut start .broken :: brokenObs (start + 1) n

def sysStep (m : Sys) : Op → Sys × List Obs
  | .psend n =>
    let chunk := (m.ppay.drop m.psent).take (min n m.rsz)
    if m.killed.isSome ∨ chunk = [] then (m, [])
    else ({ m with x := { m.x with w := { m.x.w with recvs := m.x.w.recvs ++ [.data chunk] } },
                   psent := m.psent + chunk.length }, [])
  | .send T data waits sends =>
    if m.async then (m, []) else
    let r := sendT Script.world (arm m.x.w waits sends) data T
    ({ m with x := { m.x with w := r.w }, threw := m.threw || (m.killed.isSome && r.exn.isSome) },
     [.api .send (some T)] ++ callsObs r.w.calls ++ [.ret (retOf r.exn true)])
  | .recv T waits =>
    if m.async then (m, []) else
    match recvT Script.world (arm m.x.w waits []) m.rsz T with
    | .got bs w' => ({ m with x := { m.x with w := w' }, got := m.got ++ bs },
                     [.api .recv (some T)] ++ callsObs w'.calls ++ [.ret .returned])
    | .nothing w' => ({ m with x := { m.x with w := w' } }, [.api .recv (some T)] ++ callsObs w'.calls ++ [.ret .returned])
    | .exn e w' => ({ m with x := { m.x with w := w' }, threw := m.threw || m.killed.isSome, rthrew := m.rthrew || m.killed.isSome },
                    [.api .recv (some T)] ++ callsObs w'.calls ++ [.ret (retOf (some e) false)])
  | .enq data =>
    if ¬ m.async ∨ m.destroyed then (m, []) else ({ m with x := pEnqueue m.x data }, [.enq])
  | .step rev sends =>
    if ¬ m.async ∨ m.destroyed then (m, []) else
    let (o, p) := pTask Script.world m.rsz { m.x with w := arm m.x.w [] sends } rev
    ({ m with x := p, got := m.got ++ (pushed m.x.a.delivered p.a.delivered).flatten }, stepObs m.x.a o p)
  | .pre xsent => ({ m with xsentPre := firstOf m.xsentPre xsent }, [.pre xsent])
  | .kill kind pread reset sends =>
    if m.killed.isSome then (m, []) else
    ({ m with x := { m.x with w := { m.x.w with dead := true, waits := [], sends := m.x.w.sends ++ sends,
                                                recvs := killRecvs m.x.w.recvs reset } },
              killed := some (kind, pread), lossy := reset.isSome }, [.kill kind pread])
  | .after o b => ({ m with ord := firstOf m.ord (o, b) }, [.after o b])
  | .destroy =>
    if ¬ m.async ∨ m.destroyed then (m, []) else
    ({ m with destroyed := true },
     [.destroy] ++ brokenObs m.x.a.futures.length m.x.a.sendQ.length)

def modelOps (m : Sys) : List Op → Sys × List Obs
  | [] => (m, [])
  | op :: rest =>
    let (m1, o1) := sysStep m op
    let (m2, o2) := modelOps m1 rest
    (m2, o1 ++ o2)

def Sys.init (async : Bool) (rsz : Nat) (ppay : Bytes) : Sys := { async, rsz, ppay }

/-- what the harness prints at the end of the case -/
def finalObs (m : Sys) : List Obs := [.got m.got, .state m.psent]

/-- the observations the MODEL produces for a history -/
def modelTrace (async : Bool) (rsz : Nat) (ppay : Bytes) (history : List Op) : List Obs :=
  let r := modelOps (Sys.init async rsz ppay) history
  [.setup async false, .payload ppay] ++ r.2 ++ finalObs r.1


/-! ## the environment assumptions, as a decidable predicate on histories

* **kernel**: `send` never answers 0 for a non-empty buffer (`saneSends`); `Send` is called with a non-empty buffer;
* **K1** (kernel after the peer is gone): from the kill on `poll` reports X ready (no scripted `poll` answers any
  more; a driver step finds X readable), `send` fails after the answers given with the kill, `recv` yields the
  unread segments and then end of stream - or, only when the end is not orderly (reset, or close with data of X
  unread), some of them and then an error; while the peer is alive `poll` reports neither HUP / ERR nor POLLIN
  without data;
* **the scenario is played to its end** (what the `after` line promises): after the kill the asynchronous driver
  is stepped more often than there are unread segments (before the socket is destroyed); with `r` in the order
  `Receive` is called more often than there are unread segments; with `s` (and >= 1 MB, not a half close, no `r`)
  `Send` is called more often than the kernel still accepts. -/

def firstAfter : List Op → Option (List Phase × Nat)
  | [] => none
  | .after o b :: _ => some (o, b)
  | _ :: rest => firstAfter rest

def saneSends (l : List SendAns) : Bool := l.all fun a => a != .accept 0

/-- driver steps before the socket is destroyed -/
def liveSteps : List Op → Nat
  | [] => 0
  | .step _ _ :: rest => liveSteps rest + 1
  | .destroy :: _ => 0
  | _ :: rest => liveSteps rest

def recvOps : List Op → Nat
  | [] => 0
  | .recv _ _ :: rest => recvOps rest + 1
  | _ :: rest => recvOps rest

def sendOps : List Op → Nat
  | [] => 0
  | .send _ _ _ _ :: rest => sendOps rest + 1
  | _ :: rest => sendOps rest

def KillKind.real : KillKind → Bool
  | .other _ => false
  | _ => true

def ordList (ord : Option (List Phase × Nat)) : List Phase := (ord.map (·.1)).getD []
def ordBig (ord : Option (List Phase × Nat)) : Nat := (ord.map (·.2)).getD 0

/-- must a big `Send` report the failure? -/
def needSend (ord : Option (List Phase × Nat)) (kind : KillKind) : Bool :=
  (ordList ord).contains .s && kind != .shutwr && decide (ordBig ord ≥ 1000000)

/-- `ord` here and below: the first `after` line of the whole history (`firstAfter`), looked up ahead of time because
what is required of a `kill` depends on what the scenario promises to play after it -/
def opOk (ord : Option (List Phase × Nat)) (m : Sys) (op : Op) (rest : List Op) : Bool :=
  match op with
  | .psend _ => true
  | .send _ data waits sends =>
    m.async || (data != [] && saneSends sends && (m.killed.isNone || (waits.isEmpty && sends.isEmpty)))
  | .recv _ waits => m.async || m.killed.isNone || waits.isEmpty
  | .enq _ => true
  | .step rev sends =>
    !m.async || m.destroyed ||
      (saneSends sends &&
        (if m.killed.isSome then rev.rd && sends.isEmpty
         else !rev.hupErr && (!rev.rd || !m.x.w.recvs.isEmpty)))
  | .pre _ => m.killed.isNone || m.xsentPre.isSome
  | .kill kind pread reset sends =>
    m.killed.isSome ||
      (kind.real && saneSends sends && (reset.isNone || !orderly kind pread m.xsentPre) &&
        (let n := (killRecvs m.x.w.recvs reset).length
         if m.async then (ordList ord).isEmpty || (!m.destroyed && decide (liveSteps rest > n))
         else (!(ordList ord).contains .r || decide (recvOps rest > n)) &&
              (!needSend ord kind || (ordList ord).contains .r || decide (sendOps rest > (m.x.w.sends ++ sends).length))))
  | .after _ _ => true
  | .destroy => true

def histOkFrom (ord : Option (List Phase × Nat)) (m : Sys) : List Op → Bool
  | [] => true
  | op :: rest => opOk ord m op rest && histOkFrom ord (sysStep m op).1 rest

def histOk (async : Bool) (rsz : Nat) (ppay : Bytes) (history : List Op) : Bool :=
  histOkFrom (firstAfter history) (Sys.init async rsz ppay) history


/-! ## the proof: the predicate accepts every trace of the model

### the calls of `Send` / `Receive` against the scripted kernel -/

def pollOk (T spent t : Int) : Bool :=
  if T < 0 then decide (t < 0) else if T = 0 then decide (t = 0) else decide (0 ≤ t) && decide (spent + t ≤ T)

def nextSpent (T spent t : Int) (r : Bool) : Int :=
  if T < 0 then spent else if T = 0 then spent else spent + (if r then 0 else t)

@[simp] theorem nextSpent_ready (T spent t : Int) : nextSpent T spent t true = spent := by
  unfold nextSpent; split
  · rfl
  · split <;> simp

/-- a chronological call log satisfies the wait / MSG_NOSIGNAL clauses of a call with timeout `T` -/
def okLog (T : Int) : Int → List Call → Bool
  | _, [] => true
  | sp, .wait _ t r :: rest => pollOk T sp t && okLog T (nextSpent T sp t r) rest
  | sp, .send _ _ ns :: rest => ns && okLog T sp rest
  | sp, .recv _ _ :: rest => okLog T sp rest

def spendLog (T : Int) : Int → List Call → Int
  | sp, [] => sp
  | sp, .wait _ t r :: rest => spendLog T (nextSpent T sp t r) rest
  | sp, _ :: rest => spendLog T sp rest

theorem pollClause_ok (ep : EpSt) (T t : Int) (r : Bool) (h : pollOk T ep.spent t = true) :
    pollClause ep T t r = .ok { ep with spent := nextSpent T ep.spent t r } := by
  unfold pollOk at h
  unfold pollClause nextSpent
  by_cases h1 : T < 0
  · simp only [h1, if_true, decide_eq_true_eq] at h
    have : ¬ t ≥ 0 := by omega
    simp [h1, this]
  · by_cases h2 : T = 0
    · subst h2
      simp at h
      simp [h]
    · simp only [h1, h2, if_false, Bool.and_eq_true, decide_eq_true_eq] at h
      have a1 : ¬ t < 0 := by omega
      have a2 : ¬ ep.spent + t > T := by omega
      simp [h1, h2, a1, a2]

/-- the observer accepts the `os …` lines of a log that satisfies `okLog` -/
theorem specRun_log (T : Int) : ∀ (l : List Call) (sp : SpecSt) (ep : EpSt) (tail : List Obs),
    sp.ep = some ep → ep.callT = some T → okLog T ep.spent l = true →
    specRun sp (l.filterMap callObs ++ tail)
      = specRun { sp with ep := some { ep with spent := spendLog T ep.spent l } } tail := by
  intro l
  induction l with
  | nil =>
    intro sp ep tail h1 _ _
    have : sp = { sp with ep := some { ep with spent := ep.spent } } := by cases sp; simp_all
    simp only [List.filterMap_nil, List.nil_append, spendLog]
    rw [← this]
  | cons c l ih =>
    intro sp ep tail h1 h2 h3
    cases c with
    | wait d t r =>
      simp only [okLog, Bool.and_eq_true] at h3
      have hp := pollClause_ok ep T t r h3.1
      have hstep : specStep sp (.poll t r) = .ok { sp with ep := some { ep with spent := nextSpent T ep.spent t r } } := by
        simp [specStep, h1, h2, hp, Except.map]
      simp only [List.filterMap_cons, callObs, List.cons_append, specRun, hstep, spendLog]
      exact ih _ { ep with spent := nextSpent T ep.spent t r } tail rfl h2 h3.2
    | send bs a ns =>
      simp only [okLog, Bool.and_eq_true] at h3
      simp only [List.filterMap_cons, callObs, List.cons_append, specRun, specStep, h3.1, if_true, spendLog]
      exact ih sp ep tail h1 h2 h3.2
    | recv n a =>
      simp only [okLog] at h3
      simp only [List.filterMap_cons, callObs, spendLog]
      exact ih sp ep tail h1 h2 h3


theorem sendNoSignal_true : sendNoSignal = true := by decide

/-- `w'` is reached from `w` by the chronological calls `l`; the pending `recv` answers are untouched -/
structure SendRun (w w' : Script) (l : List Call) : Prop where
  calls : w'.calls = l.reverse ++ w.calls
  recvs : w'.recvs = w.recvs
  dead : w'.dead = w.dead
  clock : w.clock ≤ w'.clock
  waits : w.waits = [] → w'.waits = []
  sends : ∃ k, w'.sends = w.sends.drop k

theorem SendRun.refl (w : Script) : SendRun w w [] :=
  ⟨by simp, rfl, rfl, Int.le_refl _, id, ⟨0, by simp⟩⟩

theorem SendRun.trans {a b c : Script} {l1 l2 : List Call} (h1 : SendRun a b l1) (h2 : SendRun b c l2) :
    SendRun a c (l1 ++ l2) := by
  obtain ⟨k1, hk1⟩ := h1.sends
  obtain ⟨k2, hk2⟩ := h2.sends
  refine ⟨?_, ?_, ?_, ?_, ?_, ⟨k1 + k2, ?_⟩⟩
  · rw [h2.calls, h1.calls]; simp
  · rw [h2.recvs, h1.recvs]
  · rw [h2.dead, h1.dead]
  · exact Int.le_trans h1.clock h2.clock
  · intro h; exact h2.waits (h1.waits h)
  · rw [hk2, hk1, List.drop_drop]

theorem SendRun.sendsLen {w w' : Script} {l : List Call} (h : SendRun w w' l) : w'.sends.length ≤ w.sends.length := by
  obtain ⟨k, hk⟩ := h.sends
  rw [hk, List.length_drop]; omega

theorem SendRun.sane {w w' : Script} {l : List Call} (h : SendRun w w' l) (hs : saneSends w.sends = true) :
    saneSends w'.sends = true := by
  obtain ⟨k, hk⟩ := h.sends
  simp only [hk, saneSends, List.all_eq_true] at hs ⊢
  exact fun a ha => hs a (List.mem_of_mem_drop ha)

/-- one `poll` of the scripted kernel; after the peer is gone (no scripted answers left) it reports ready -/
theorem wait_run (w : Script) (d : Dir) (t : Int) :
    SendRun w (Script.world.wait w d t).2 [.wait d t (Script.world.wait w d t).1] ∧
    (w.dead = true → w.waits = [] → (Script.world.wait w d t).1 = true) := by
  obtain ⟨waits, sends, recvs, dead, clock, calls⟩ := w
  cases waits with
  | nil =>
    cases dead
    · refine ⟨⟨rfl, rfl, rfl, ?_, id, ⟨0, rfl⟩⟩, fun h => nomatch h⟩
      show clock ≤ clock + (if (d == .wr) = true then 0 else if t > 0 then t else 0)
      split
      · omega
      · split <;> omega
    · exact ⟨⟨rfl, rfl, rfl, Int.le_refl _, id, ⟨0, rfl⟩⟩, fun _ _ => rfl⟩
  | cons a rest =>
    refine ⟨⟨rfl, rfl, rfl, ?_, (fun h => nomatch h), ⟨0, rfl⟩⟩, fun _ h => nomatch h⟩
    show clock ≤ clock + a.elapsed
    omega

/-- `SendNow` against the scripted kernel -/
theorem sendNow_run (w : Script) (bs : Bytes) (hs : saneSends w.sends = true) :
    (∃ a, SendRun w (sendNow Script.world w bs).w [.send bs a true]) ∧
    (∀ e, (sendNow Script.world w bs).exn = some e → Exn.isLogic e = false) ∧
    (w.dead = true → (sendNow Script.world w bs).exn = none → (sendNow Script.world w bs).w.sends.length < w.sends.length) := by
  obtain ⟨waits, sends, recvs, dead, clock, calls⟩ := w
  cases sends with
  | nil =>
    cases dead
    · have e : sendNow Script.world ⟨waits, [], recvs, false, clock, calls⟩ bs
          = ⟨bs.length, none, ⟨waits, [], recvs, false, clock, .send bs (.accept bs.length) true :: calls⟩⟩ := by
        simp [sendNow, Script.world, sendNoSignal_true]
      rw [e]
      exact ⟨⟨_, rfl, rfl, rfl, Int.le_refl _, id, ⟨0, rfl⟩⟩, (fun e h => nomatch h), fun h => nomatch h⟩
    · exact ⟨⟨.fail epipe, rfl, rfl, rfl, Int.le_refl _, id, ⟨0, rfl⟩⟩, (fun e h => by cases h; rfl), fun _ h => nomatch h⟩
  | cons a rest =>
    cases a with
    | fail e1 =>
      exact ⟨⟨.fail e1, rfl, rfl, rfl, Int.le_refl _, id, ⟨1, rfl⟩⟩, (fun e h => by cases h; rfl), fun _ h => nomatch h⟩
    | accept k =>
      -- a sane kernel does not answer 0 for a non-empty buffer: no `logic_error`
      have hk : ¬ (k = 0 ∧ bs ≠ []) := fun h => by simp [saneSends, h.1] at hs
      have e : sendNow Script.world ⟨waits, .accept k :: rest, recvs, dead, clock, calls⟩ bs
          = ⟨min k bs.length, none, ⟨waits, rest, recvs, dead, clock, .send bs (.accept k) true :: calls⟩⟩ := if_neg hk
      rw [e]
      exact ⟨⟨.accept k, rfl, rfl, rfl, Int.le_refl _, id, ⟨1, rfl⟩⟩, (fun e h => nomatch h), fun _ _ => Nat.lt_succ_self _⟩


/-- what the proof needs to know about one `Send` against the scripted kernel -/
structure SendFacts (T : Int) (w : Script) (r : SendRes Script) : Prop where
  run : ∃ l, SendRun w r.w l ∧ okLog T 0 l = true
  nologic : ∀ e, r.exn = some e → Exn.isLogic e = false
  live : w.dead = true → w.waits = [] → r.exn = none → r.w.sends.length < w.sends.length

theorem SendFacts.timeout {T : Int} {w : Script} {r : SendRes Script} (t : Int)
    (hp : pollOk T 0 t = true) (hf : (Script.world.wait w .wr t).1 = false)
    (hw : r.w = (Script.world.wait w .wr t).2) (hx : r.exn = none) : SendFacts T w r := by
  obtain ⟨hwt, hready⟩ := wait_run w .wr t
  rw [← hw] at hwt
  refine ⟨⟨_, hwt, by simp [okLog, hp]⟩, fun e h => (by rw [hx] at h; cases h), fun hd hwe => ?_⟩
  rw [hready hd hwe] at hf; cases hf

theorem SendFacts.last {T : Int} {w : Script} {bs : Bytes} {r : SendRes Script} (t : Int)
    (hs : saneSends w.sends = true) (hp : pollOk T 0 t = true)
    (hw : r.w = (sendNow Script.world (Script.world.wait w .wr t).2 bs).w)
    (hx : r.exn = (sendNow Script.world (Script.world.wait w .wr t).2 bs).exn) : SendFacts T w r := by
  obtain ⟨hwt, -⟩ := wait_run w .wr t
  obtain ⟨⟨a, hn⟩, hl, hv⟩ := sendNow_run (Script.world.wait w .wr t).2 bs (hwt.sane hs)
  rw [← hw] at hn hv
  rw [← hx] at hl hv
  refine ⟨⟨_, hwt.trans hn, by simp [okLog, hp]⟩, hl, fun hd _ hx' => ?_⟩
  have := hv (hwt.dead.trans hd) hx'
  have := hwt.sendsLen
  omega

/-- after a round `WaitWritable(t)`, `SendNow` that threw nothing and used up none of the budget, the loop goes on -/
theorem SendFacts.more {T : Int} {w : Script} {bs : Bytes} {r : SendRes Script} (t : Int)
    (hs : saneSends w.sends = true) (hp : pollOk T 0 t = true)
    (hsp : nextSpent T 0 t (Script.world.wait w .wr t).1 = 0)
    (hx : (sendNow Script.world (Script.world.wait w .wr t).2 bs).exn = none)
    (ih : saneSends (sendNow Script.world (Script.world.wait w .wr t).2 bs).w.sends = true →
      w.clock ≤ (Script.world.wait w .wr t).2.clock →
      (Script.world.wait w .wr t).2.clock ≤ (sendNow Script.world (Script.world.wait w .wr t).2 bs).w.clock →
      SendFacts T (sendNow Script.world (Script.world.wait w .wr t).2 bs).w r) : SendFacts T w r := by
  obtain ⟨hwt, -⟩ := wait_run w .wr t
  obtain ⟨⟨a, hn⟩, -, hv⟩ := sendNow_run (Script.world.wait w .wr t).2 bs (hwt.sane hs)
  obtain ⟨⟨l, hr, hok⟩, il, -⟩ := ih (hn.sane (hwt.sane hs)) hwt.clock hn.clock
  refine ⟨⟨_, (hwt.trans hn).trans hr, by simp [okLog, hp, hsp, hok]⟩, il, fun hd _ _ => ?_⟩
  have := hv (hwt.dead.trans hd) hx
  have := hwt.sendsLen
  have := hr.sendsLen
  omega

theorem sendAll_facts (T : Int) (hT : T < 0) (w : Script) (bs : Bytes) (acc : Nat) (hs : saneSends w.sends = true) :
    SendFacts T w (sendAll Script.world w bs acc) := by
  have hp : pollOk T 0 (-1) = true := by simp [pollOk, hT]
  fun_induction Net.sendAll Script.world w bs acc with
  | case1 w bs acc r0 hx => exact .last (-1) hs hp rfl rfl
  | case2 w bs acc r0 hx hrest => exact .last (-1) hs hp rfl (Option.not_isSome_iff_eq_none.mp hx).symm
  | case3 w bs acc r0 hx hrest hpos ih =>
    exact .more (-1) hs hp (by simp [nextSpent, hT]) (by simpa using hx) fun h _ _ => ih h
  | case4 w bs acc r0 hx hrest hpos =>
    exact absurd (sendNow_pos Script.world _ bs (fun h => hrest (by simp [h])) (by simpa using hx)) hpos

theorem pollOk_rem (T deadline tick : Int) (hT : 0 < T) (h1 : deadline - T ≤ tick) :
    pollOk T 0 (remainingMs deadline tick) = true := by
  unfold pollOk remainingMs
  have a1 : ¬ T < 0 := by omega
  have a2 : ¬ T = 0 := by omega
  simp only [a1, a2, if_false, Bool.and_eq_true, decide_eq_true_eq]
  split <;> omega

theorem sendSome_facts (T : Int) (hT : 0 < T) (w : Script) (bs : Bytes) (deadline tick : Int) (acc : Nat)
    (hs : saneSends w.sends = true) (h1 : deadline - T ≤ tick) (h2 : deadline - T ≤ w.clock) :
    SendFacts T w (sendSome Script.world w bs deadline tick acc).1 := by
  fun_induction Net.sendSome Script.world w bs deadline tick acc with
  | case1 w bs tick acc wt hf => exact .timeout _ (pollOk_rem T deadline tick hT h1) hf rfl rfl
  | case2 w bs tick acc wt hf tick' r hx => exact .last _ hs (pollOk_rem T deadline tick hT h1) rfl rfl
  | case3 w bs tick acc wt hf tick' r hx hrest =>
    exact .last _ hs (pollOk_rem T deadline tick hT h1) rfl (Option.not_isSome_iff_eq_none.mp hx).symm
  | case4 w bs tick acc wt hf tick' r hx hrest hlt hpos ih =>
    have hf' : (Script.world.wait w .wr (remainingMs deadline tick)).1 = true := by simpa using hf
    refine .more _ hs (pollOk_rem T deadline tick hT h1) (by rw [hf']; exact nextSpent_ready ..) (by simpa using hx)
      fun h c1 c2 => ih h ?_ ?_
    · show deadline - T ≤ (Script.world.wait w .wr (remainingMs deadline tick)).2.clock; omega
    · exact Int.le_trans (Int.le_trans h2 c1) c2
  | case5 w bs tick acc wt hf tick' r hx hrest hlt hpos =>
    exact absurd (sendNow_pos Script.world _ bs (fun h => hrest (by simp [h])) (by simpa using hx)) hpos
  | case6 w bs tick acc wt hf tick' r hx hrest hlt =>
    exact .last _ hs (pollOk_rem T deadline tick hT h1) rfl (Option.not_isSome_iff_eq_none.mp hx).symm

/-- `Send(data, T)` against the scripted kernel, every timeout mode -/
theorem send_facts (T : Int) (w : Script) (bs : Bytes) (hs : saneSends w.sends = true) :
    SendFacts T w (sendT Script.world w bs T) := by
  unfold sendT Net.send
  split
  · rename_i h; exact sendAll_facts T h w bs 0 hs
  · split
    · rename_i h1 h2
      subst h2
      unfold sendTry
      rcases hwt : Script.world.wait w .wr 0 with ⟨r, w1⟩
      cases r
      · exact .timeout 0 rfl (by rw [hwt]) (by rw [hwt]) rfl
      · exact .last 0 hs rfl (by rw [hwt]) (by rw [hwt])
    · rename_i h1 h2
      have h0 : Script.world.now w + T - T ≤ w.clock := by show w.clock + T - T ≤ w.clock; omega
      exact sendSome_facts T (by omega) w bs _ _ 0 hs h0 h0


/-! ### the simulation -/

/-- the bytes of the pending `recv` answers -/
def dataOf : List RecvAns → Bytes
  | [] => []
  | .data bs :: rest => bs ++ dataOf rest
  | .fail _ :: rest => dataOf rest

/-- pending `recv` answers: non-empty segments of at most `rsz` bytes; only after a lossy kill one error, last -/
def recvsOk (rsz : Nat) (lossy : Bool) : List RecvAns → Prop
  | [] => True
  | .data bs :: rest => bs ≠ [] ∧ bs.length ≤ rsz ∧ recvsOk rsz lossy rest
  | .fail _ :: rest => lossy = true ∧ rest = []

theorem dataOf_append (a b : List RecvAns) : dataOf (a ++ b) = dataOf a ++ dataOf b := by
  induction a with
  | nil => rfl
  | cons x a ih => cases x <;> simp [dataOf, ih]

theorem recvsOk_snoc (rsz : Nat) (c : Bytes) (hc : c ≠ []) (hl : c.length ≤ rsz) :
    ∀ l, recvsOk rsz false l → recvsOk rsz false (l ++ [.data c])
  | [], _ => ⟨hc, hl, trivial⟩
  | .data bs :: rest, h => ⟨h.1, h.2.1, recvsOk_snoc rsz c hc hl rest h.2.2⟩
  | .fail _ :: _, h => by cases h.1

theorem recvsOk_kill (rsz : Nat) (e : Nat) : ∀ (k : Nat) (l : List RecvAns), recvsOk rsz false l →
    recvsOk rsz true (l.take k ++ [.fail e])
  | 0, _, _ => ⟨rfl, rfl⟩
  | _ + 1, [], _ => ⟨rfl, rfl⟩
  | k + 1, .data bs :: rest, h => ⟨h.1, h.2.1, recvsOk_kill rsz e k rest h.2.2⟩
  | _ + 1, .fail _ :: _, h => by cases h.1

theorem recvsOk_mono (rsz : Nat) : ∀ l, recvsOk rsz false l → recvsOk rsz true l
  | [], _ => trivial
  | .data _ :: rest, h => ⟨h.1, h.2.1, recvsOk_mono rsz rest h.2.2⟩
  | .fail _ :: _, h => by cases h.1

def ordOr {α : Type} (a b : Option α) : Option α :=
  match a with
  | some x => some x
  | none => b

/-- invariant of the scenario model.  `stream`: delivered + pending + lost = what the peer sent, nothing lost unless the
kill was lossy; `dead` / `kwaits` / `sane`: the kernel after the kill (K1) and its `send` answers; `lossyK`: a lossy
kill is not an orderly one; `kreal`: the kind of the kill is one of close / half close / reset; `adisc` / `areg` / `unreg`: the disconnect handler ran at most once, exactly
when X was unregistered, and then nothing is pending; `pollq`: POLLOUT is requested only with a buffer queued;
`rthrew` / `threwK`: the ghosts "a `Receive` / a call threw after the kill" -/
structure MInv (m : Sys) : Prop where
  psent : m.psent ≤ m.ppay.length
  recvs : recvsOk m.rsz m.lossy m.x.w.recvs
  stream : ∃ lost, m.ppay.take m.psent = m.got ++ dataOf m.x.w.recvs ++ lost ∧ (m.lossy = false → lost = [])
  dead : m.x.w.dead = m.killed.isSome
  kwaits : m.killed.isSome = true → m.x.w.waits = []
  sane : saneSends m.x.w.sends = true
  lossyK : m.lossy = true → ∃ k p, m.killed = some (k, p) ∧ orderly k p m.xsentPre = false
  kreal : ∀ k p, m.killed = some (k, p) → k.real = true
  adisc : m.x.a.disconnects ≤ 1
  areg : m.x.a.disconnects = 1 ↔ m.x.a.registered = false
  pollq : m.x.a.pollOut = true → m.x.a.sendQ ≠ []
  unreg : m.x.a.registered = false → m.killed.isSome = true ∧ m.x.w.recvs = []
  rthrew : m.rthrew = true → m.killed.isSome = true ∧ m.x.w.recvs = [] ∧ m.threw = true
  threwK : m.threw = true → m.killed.isSome = true

/-- the observer's state against the model's: what it noted of the harness' lines equals the model's fields; `enqs` has
one entry per buffer resolved or queued, all `false` (not late) while X is registered; `futs` counts the resolved ones,
after the destruction also the broken ones -/
structure Rel (m : Sys) (sp : SpecSt) : Prop where
  ep : ∃ ep, sp.ep = some ep ∧ ep.async = m.async ∧ ep.tls = false ∧ ep.callT = none ∧ ep.discSeen = m.x.a.disconnects
  spay : sp.spay = m.ppay
  kill : sp.kill = m.killed
  pre : sp.xsentAtKill = m.xsentPre
  ord : sp.order = m.ord
  threw : m.threw = true → sp.threwAfterKill = true
  destroyed : sp.destroyed = m.destroyed
  enqs : sp.enqs.length = m.x.a.futures.length + m.x.a.sendQ.length
  live : m.x.a.registered = true → ∀ b ∈ sp.enqs, b = false
  futs : sp.futs = m.x.a.futures.length + (if m.destroyed then m.x.a.sendQ.length else 0)

/-- what is left of the history is enough to play the scenario to its end -/
structure Live (ord : Option (List Phase × Nat)) (m : Sys) (rest : List Op) : Prop where
  ordEq : ordOr m.ord (firstAfter rest) = ord
  steps : m.async = true → m.killed.isSome = true → m.x.a.registered = true → ordList ord ≠ [] →
    m.destroyed = false ∧ liveSteps rest > m.x.w.recvs.length
  recvs : m.async = false → m.killed.isSome = true → m.rthrew = false → (ordList ord).contains .r = true →
    recvOps rest > m.x.w.recvs.length
  sends : m.async = false → ∀ k p, m.killed = some (k, p) → m.threw = false → needSend ord k = true →
    (ordList ord).contains .r = false → sendOps rest > m.x.w.sends.length

def StepOk (ord : Option (List Phase × Nat)) (m : Sys) (sp : SpecSt) (op : Op) (rest : List Op) : Prop :=
  ∃ sp', (∀ tail, specRun sp ((sysStep m op).2 ++ tail) = specRun sp' tail) ∧
    Rel (sysStep m op).1 sp' ∧ MInv (sysStep m op).1 ∧ Live ord (sysStep m op).1 rest

variable {ord : Option (List Phase × Nat)} {m : Sys} {sp : SpecSt} {rest : List Op}

theorem specRun_append {s s' : SpecSt} {l : List Obs} (h : specRun s l = .ok s') (tail : List Obs) :
    specRun s (l ++ tail) = specRun s' tail := by
  induction l generalizing s with
  | nil => cases h; rfl
  | cons o l ih =>
    simp only [List.cons_append, specRun] at h ⊢
    cases hs : specStep s o with
    | ok s1 => rw [hs] at h; exact ih h
    | error e => rw [hs] at h; cases h

theorem StepOk.intro {m' : Sys} {op : Op} {obs : List Obs} (sp' : SpecSt) (hs : sysStep m op = (m', obs))
    (hrun : specRun sp obs = .ok sp') (hR : Rel m' sp') (hI : MInv m') (hL : Live ord m' rest) : StepOk ord m sp op rest := by
  unfold StepOk
  rw [hs]
  exact ⟨sp', specRun_append hrun, hR, hI, hL⟩

theorem StepOk.skip {op : Op} (hs : sysStep m op = (m, [])) (hR : Rel m sp) (hI : MInv m) (hL : Live ord m rest) :
    StepOk ord m sp op rest :=
  StepOk.intro sp hs rfl hR hI hL

theorem not_or_bool {a d : Bool} (hc : ¬ (¬ a = true ∨ d = true)) : a = true ∧ d = false := by
  cases a <;> cases d <;> simp_all

theorem MInv.alive (hI : MInv m) (nk : ¬ m.killed.isSome = true) :
    m.lossy = false ∧ recvsOk m.rsz false m.x.w.recvs ∧ m.ppay.take m.psent = m.got ++ dataOf m.x.w.recvs ++ [] ∧
    m.x.a.registered = true ∧ m.rthrew = false ∧ m.threw = false := by
  have hlossy : m.lossy = false := Bool.eq_false_iff.mpr fun h => by
    obtain ⟨k, p, hkk, _⟩ := hI.lossyK h
    exact nk (Option.isSome_of_eq_some hkk)
  obtain ⟨lost, hs, hl⟩ := hI.stream
  cases hl hlossy
  refine ⟨hlossy, hlossy ▸ hI.recvs, hs, ?_, Bool.eq_false_iff.mpr fun h => nk (hI.rthrew h).1,
    Bool.eq_false_iff.mpr fun h => nk (hI.threwK h)⟩
  cases h : m.x.a.registered
  · exact absurd (hI.unreg h).1 nk
  · rfl

theorem MInv.disc0 (hI : MInv m) (hreg : m.x.a.registered = true) : m.x.a.disconnects = 0 :=
  (disconnect_once hI.adisc hI.areg hreg).1

theorem Live.ofSync (ha : m.async = false)
    (ho : ordOr m.ord (firstAfter rest) = ord)
    (hr : m.killed.isSome = true → m.rthrew = false → (ordList ord).contains .r = true → recvOps rest > m.x.w.recvs.length)
    (hs : ∀ k p, m.killed = some (k, p) → m.threw = false → needSend ord k = true → (ordList ord).contains .r = false →
      sendOps rest > m.x.w.sends.length) : Live ord m rest :=
  ⟨ho, fun a => absurd a (Bool.eq_false_iff.mp ha), fun _ => hr, fun _ => hs⟩

theorem Live.ofAsync (ha : m.async = true)
    (ho : ordOr m.ord (firstAfter rest) = ord)
    (hs : m.killed.isSome = true → m.x.a.registered = true → ordList ord ≠ [] →
      m.destroyed = false ∧ liveSteps rest > m.x.w.recvs.length) : Live ord m rest :=
  ⟨ho, fun _ => hs, fun a => absurd ha (Bool.eq_false_iff.mp a), fun a => absurd ha (Bool.eq_false_iff.mp a)⟩

theorem step_pre (ord) (m : Sys) (sp : SpecSt) (x : Nat) (rest : List Op)
    (hR : Rel m sp) (hI : MInv m) (hL : Live ord m (.pre x :: rest)) (hok : opOk ord m (.pre x) rest = true) :
    StepOk ord m sp (.pre x) rest := by
  refine StepOk.intro { sp with xsentAtKill := firstOf sp.xsentAtKill x } rfl rfl { hR with pre := ?_ }
    { hI with lossyK := ?_ } ⟨hL.ordEq, hL.steps, hL.recvs, hL.sends⟩
  · show firstOf sp.xsentAtKill x = firstOf m.xsentPre x
    rw [hR.pre]
  · -- after a lossy kill the first `pre` line has been seen (`opOk`), so `xsentPre` stays
    intro hl
    obtain ⟨k, p, hk, ho⟩ := hI.lossyK hl
    refine ⟨k, p, hk, ?_⟩
    have hp : m.xsentPre.isSome = true := by simpa [opOk, hk] using hok
    show orderly k p (firstOf m.xsentPre x) = false
    cases hx : m.xsentPre with
    | none => rw [hx] at hp; cases hp
    | some v => rw [hx] at ho; exact ho

theorem step_after (ord) (m : Sys) (sp : SpecSt) (o : List Phase) (b : Nat) (rest : List Op)
    (hR : Rel m sp) (hI : MInv m) (hL : Live ord m (.after o b :: rest)) :
    StepOk ord m sp (.after o b) rest := by
  refine StepOk.intro { sp with order := firstOf sp.order (o, b) } rfl rfl { hR with ord := ?_ } { hI with }
    ⟨?_, hL.steps, hL.recvs, hL.sends⟩
  · show firstOf sp.order (o, b) = firstOf m.ord (o, b)
    rw [hR.ord]
  · show ordOr (firstOf m.ord (o, b)) (firstAfter rest) = ord
    rw [← hL.ordEq]
    cases m.ord <;> rfl

theorem take_add_drop (l : Bytes) (a n : Nat) : l.take (a + ((l.drop a).take n).length) = l.take a ++ (l.drop a).take n := by
  rw [List.take_add]
  congr 1
  rw [List.length_take]
  exact (List.take_eq_take_min (l := l.drop a) (i := n)).symm

theorem step_psend (ord) (m : Sys) (sp : SpecSt) (n : Nat) (rest : List Op)
    (hR : Rel m sp) (hI : MInv m) (hL : Live ord m (.psend n :: rest)) :
    StepOk ord m sp (.psend n) rest := by
  have hL' : Live ord m rest := ⟨hL.ordEq, hL.steps, hL.recvs, hL.sends⟩
  by_cases hc : m.killed.isSome ∨ (m.ppay.drop m.psent).take (min n m.rsz) = []
  · exact StepOk.skip (by simp only [sysStep, if_pos hc]) hR hI hL'
  have nk : ¬ m.killed.isSome = true := fun h => hc (Or.inl h)
  obtain ⟨hlossy, hrec, hs, hreg, hrt, -⟩ := hI.alive nk
  unfold StepOk
  simp only [sysStep, if_neg hc]
  refine ⟨sp, fun _ => rfl, { hR with },
    { hI with psent := ?_, recvs := ?_, stream := ⟨[], ?_, fun _ => rfl⟩,
              unreg := fun h => absurd hreg (Bool.eq_false_iff.mp h),
              rthrew := fun h => absurd h (Bool.eq_false_iff.mp hrt) },
    ⟨hL'.ordEq, fun _ h => absurd h nk, fun _ h => absurd h nk, fun _ k p h => absurd (Option.isSome_of_eq_some h) nk⟩⟩
  · have := hI.psent
    simp only [List.length_take, List.length_drop]
    omega
  · show recvsOk m.rsz m.lossy (m.x.w.recvs ++ [.data ((m.ppay.drop m.psent).take (min n m.rsz))])
    rw [hlossy]
    exact recvsOk_snoc _ _ (fun h => hc (Or.inr h)) (by simp only [List.length_take]; omega) _ hrec
  · dsimp only
    rw [take_add_drop, hs, dataOf_append]
    simp [dataOf]

theorem saneSends_append (a b : List SendAns) (ha : saneSends a = true) (hb : saneSends b = true) :
    saneSends (a ++ b) = true := by
  simp only [saneSends, List.all_append, Bool.and_eq_true] at *
  exact ⟨ha, hb⟩

theorem step_kill (ord) (m : Sys) (sp : SpecSt) (kind : KillKind) (pread : Nat) (reset : Option (Nat × Nat))
    (sends : List SendAns) (rest : List Op)
    (hR : Rel m sp) (hI : MInv m) (hL : Live ord m (.kill kind pread reset sends :: rest))
    (hok : opOk ord m (.kill kind pread reset sends) rest = true) :
    StepOk ord m sp (.kill kind pread reset sends) rest := by
  have hL' : Live ord m rest := ⟨hL.ordEq, hL.steps, hL.recvs, hL.sends⟩
  cases hk : m.killed.isSome with
  | true => exact StepOk.skip (by simp only [sysStep, hk, if_true]) hR hI hL'
  | false =>
    obtain ⟨hlossy, hrec, hs, hreg, hrthrew, hthrew⟩ := hI.alive (Bool.eq_false_iff.mp hk)
    simp only [opOk, hk, Bool.false_or, Bool.and_eq_true] at hok
    obtain ⟨⟨⟨hreal, hsane⟩, hreset⟩, hcount⟩ := hok
    unfold StepOk
    simp only [sysStep, hk, Bool.false_eq_true, if_false]
    refine ⟨{ sp with kill := some (kind, pread) }, fun _ => rfl,
      { hR with kill := rfl, threw := fun h => absurd h (Bool.eq_false_iff.mp hthrew) },
      { hI with recvs := ?_, stream := ?_, dead := rfl, kwaits := fun _ => rfl,
                sane := saneSends_append _ _ hI.sane hsane, lossyK := ?_,
                kreal := fun k p h => by cases (h : some (kind, pread) = some (k, p)); exact hreal,
                unreg := fun h => absurd hreg (Bool.eq_false_iff.mp h),
                rthrew := fun h => absurd h (Bool.eq_false_iff.mp hrthrew), threwK := fun _ => rfl }, ?_⟩
    · cases reset with
      | none => exact hrec
      | some ke => exact recvsOk_kill _ _ _ _ hrec
    · cases reset with
      | none => exact ⟨[], hs, fun _ => rfl⟩
      | some ke =>
        obtain ⟨k, e⟩ := ke
        refine ⟨dataOf (m.x.w.recvs.drop k), ?_, fun h => by cases h⟩
        simp only [killRecvs]
        rw [hs, dataOf_append]
        conv => lhs; rw [← List.take_append_drop k m.x.w.recvs, dataOf_append]
        simp [dataOf]
    · intro h
      refine ⟨kind, pread, rfl, ?_⟩
      cases reset with
      | none => cases (h : false = true)
      | some ke => simpa using hreset
    · rcases Bool.eq_false_or_eq_true m.async with ha | ha
      · simp only [ha, if_true, Bool.or_eq_true, List.isEmpty_iff, Bool.and_eq_true, Bool.not_eq_true',
          decide_eq_true_eq] at hcount
        exact Live.ofAsync ha hL'.ordEq fun _ _ ho => hcount.resolve_left ho
      · simp only [ha, Bool.false_eq_true, if_false, Bool.and_eq_true, Bool.or_eq_true, Bool.not_eq_true',
          decide_eq_true_eq] at hcount
        refine Live.ofSync ha hL'.ordEq (fun _ _ hr => hcount.1.resolve_left (Bool.eq_false_iff.mp · hr)) ?_
        intro k p h _ hn hr
        cases (h : some (kind, pread) = some (k, p))
        exact hcount.2.resolve_left fun h =>
          h.elim (Bool.eq_false_iff.mp · hn) (absurd · (Bool.eq_false_iff.mp hr))

theorem specRun_broken : ∀ (n start : Nat) (s : SpecSt), s.destroyed = true →
    specRun s (brokenObs start n) = .ok { s with futs := s.futs + n }
  | 0, _, _, _ => rfl
  | n + 1, start, s, hd => by
    have hstep : specStep s (.fut start .broken) = .ok { s with futs := s.futs + 1 } := by
      simp [specStep, futClause, hd]
    simp only [brokenObs, specRun, hstep]
    refine (specRun_broken n (start + 1) { s with futs := s.futs + 1 } hd).trans ?_
    simp only [Nat.add_assoc, Nat.add_comm 1 n]

theorem step_destroy (ord) (m : Sys) (sp : SpecSt) (rest : List Op)
    (hR : Rel m sp) (hI : MInv m) (hL : Live ord m (.destroy :: rest)) :
    StepOk ord m sp .destroy rest := by
  -- `liveSteps` stops at the destruction: the disconnect has been delivered before
  have hsteps : m.async = true → m.killed.isSome = true → m.x.a.registered = true → ordList ord ≠ [] → False :=
    fun a b c d => Nat.not_lt_zero _ (hL.steps a b c d).2
  by_cases hc : ¬ m.async = true ∨ m.destroyed = true
  · exact StepOk.skip (by simp only [sysStep, if_pos hc]) hR hI
      ⟨hL.ordEq, fun a b c d => (hsteps a b c d).elim, hL.recvs, hL.sends⟩
  obtain ⟨ha, hd⟩ := not_or_bool hc
  unfold StepOk
  simp only [sysStep, if_neg hc]
  refine ⟨{ sp with destroyed := true, futs := sp.futs + m.x.a.sendQ.length }, specRun_append ?_,
    { hR with destroyed := rfl, futs := ?_ }, { hI with },
    Live.ofAsync ha hL.ordEq fun b c d => (hsteps ha b c d).elim⟩
  · show specRun { sp with destroyed := true } (brokenObs _ _) = _
    exact specRun_broken _ _ _ rfl
  · have := hR.futs
    rw [hd] at this
    show sp.futs + m.x.a.sendQ.length = m.x.a.futures.length + m.x.a.sendQ.length
    rw [this]; rfl

theorem step_enq (ord) (m : Sys) (sp : SpecSt) (data : Bytes) (rest : List Op)
    (hR : Rel m sp) (hI : MInv m) (hL : Live ord m (.enq data :: rest)) :
    StepOk ord m sp (.enq data) rest := by
  have hL' : Live ord m rest := ⟨hL.ordEq, hL.steps, hL.recvs, hL.sends⟩
  by_cases hc : ¬ m.async = true ∨ m.destroyed = true
  · exact StepOk.skip (by simp only [sysStep, if_pos hc]) hR hI hL'
  obtain ⟨-, hd⟩ := not_or_bool hc
  obtain ⟨ep, hep, -, -, -, he4⟩ := hR.ep
  unfold StepOk
  simp only [sysStep, if_neg hc]
  refine ⟨{ sp with enqs := sp.enqs ++ [sp.ep.map (·.discSeen) != some 0] }, fun _ => rfl,
    { hR with enqs := ?_, live := ?_, futs := ?_ },
    { hI with pollq := fun _ => by show m.x.a.sendQ ++ [data] ≠ []; simp },
    ⟨hL'.ordEq, hL'.steps, hL'.recvs, hL'.sends⟩⟩
  · show (sp.enqs ++ [_]).length = m.x.a.futures.length + (m.x.a.sendQ ++ [data]).length
    simp only [List.length_append, List.length_cons, List.length_nil]
    have := hR.enqs
    omega
  · -- a registered socket has not been disconnected: the new buffer is not a late one
    intro hreg b hb
    simp only [List.mem_append, List.mem_singleton] at hb
    rcases hb with hb | hb
    · exact hR.live hreg b hb
    · rw [hb, hep]
      simp [he4, hI.disc0 hreg]
  · have := hR.futs
    rw [hd] at this
    show sp.futs = m.x.a.futures.length + (if m.destroyed = true then (m.x.a.sendQ ++ [data]).length else 0)
    rw [hd]
    exact this

/-! ### the library moves X's kernel state

`Send`, `Receive` and a driver step do the same to the scenario model: some waits and sends (a `SendRun`), then at
most one `ReceiveNow`. -/

/-- X's kernel state went from `m.x.w` to `w'` while what X obtained grew from `m.got` to `g'` -/
structure Moved (m : Sys) (w' : Script) (g' : Bytes) : Prop where
  dead : w'.dead = m.x.w.dead
  waits : m.killed.isSome = true → w'.waits = []
  sane : saneSends w'.sends = true
  sends : m.killed.isSome = true → w'.sends.length ≤ m.x.w.sends.length
  recvs : recvsOk m.rsz m.lossy w'.recvs
  stream : g' ++ dataOf w'.recvs = m.got ++ dataOf m.x.w.recvs
  drained : m.x.w.recvs = [] → w'.recvs = []
  fewer : w'.recvs.length ≤ m.x.w.recvs.length

theorem Moved.arm (hI : MInv m) {waits : List WaitAns} {sends : List SendAns} (hs : saneSends sends = true)
    (hk : m.killed.isSome = true → waits = [] ∧ sends = []) : Moved m (arm m.x.w waits sends) m.got where
  dead := rfl
  waits h := by show m.x.w.waits ++ waits = []; rw [(hk h).1, hI.kwaits h]; rfl
  sane := saneSends_append _ _ hI.sane hs
  sends h := by show (m.x.w.sends ++ sends).length ≤ _; rw [(hk h).2, List.append_nil]; exact Nat.le_refl _
  recvs := hI.recvs
  stream := rfl
  drained := id
  fewer := Nat.le_refl _

theorem Moved.run {w w' : Script} {g : Bytes} {l : List Call} (h : Moved m w g) (hr : SendRun w w' l) :
    Moved m w' g where
  dead := hr.dead.trans h.dead
  waits hk := hr.waits (h.waits hk)
  sane := hr.sane h.sane
  sends hk := Nat.le_trans hr.sendsLen (h.sends hk)
  recvs := hr.recvs ▸ h.recvs
  stream := hr.recvs ▸ h.stream
  drained h0 := hr.recvs ▸ h.drained h0
  fewer := hr.recvs ▸ h.fewer

theorem Moved.cast {w : Script} {g g' : Bytes} (h : Moved m w g) (e : g' = g) : Moved m w g' := e ▸ h

theorem Moved.got {w : Script} {g bs : Bytes} {rest : List RecvAns} {c : List Call} (h : Moved m w g)
    (hr : w.recvs = .data bs :: rest) : Moved m { w with recvs := rest, calls := c } (g ++ bs) where
  dead := h.dead
  waits := h.waits
  sane := h.sane
  sends := h.sends
  recvs := by have := h.recvs; rw [hr] at this; exact this.2.2
  stream := by rw [← h.stream, hr]; simp only [dataOf, List.append_assoc]
  drained h0 := by have := h.drained h0; rw [hr] at this; cases this
  fewer := by have := h.fewer; rw [hr] at this; exact Nat.le_of_succ_le this

theorem Moved.ended {w : Script} {g : Bytes} {c : List Call} (h : Moved m w g) (hd : dataOf w.recvs = []) :
    Moved m { w with recvs := [], calls := c } g where
  dead := h.dead
  waits := h.waits
  sane := h.sane
  sends := h.sends
  recvs := trivial
  stream := by rw [← h.stream, hd]; rfl
  drained _ := rfl
  fewer := Nat.zero_le _

theorem MInv.moved (hI : MInv m) {w' : Script} {g' : Bytes} (hM : Moved m w' g') {t rt : Bool}
    (ht : t = true → m.killed.isSome = true) (hrt : rt = true → m.killed.isSome = true ∧ w'.recvs = [] ∧ t = true) :
    MInv { m with x := { m.x with w := w' }, got := g', threw := t, rthrew := rt } :=
  { hI with
    recvs := hM.recvs
    stream := by
      obtain ⟨lost, hs, hl⟩ := hI.stream
      refine ⟨lost, ?_, hl⟩
      show m.ppay.take m.psent = g' ++ dataOf w'.recvs ++ lost
      rw [hM.stream]; exact hs
    dead := hM.dead.trans hI.dead
    kwaits := hM.waits
    sane := hM.sane
    unreg := fun h => ⟨(hI.unreg h).1, hM.drained (hI.unreg h).2⟩
    rthrew := hrt
    threwK := ht }

theorem MInv.moved_w (hI : MInv m) {w' : Script} {g' : Bytes} (hM : Moved m w' g') :
    MInv { m with x := { m.x with w := w' }, got := g' } :=
  hI.moved hM hI.threwK fun h => ⟨(hI.rthrew h).1, hM.drained (hI.rthrew h).2.1, (hI.rthrew h).2.2⟩

theorem Exn.isLogic_eq (e : Exn) : Exn.isLogic e = !e.isRuntime := by cases e <;> rfl

theorem recvNow_script (w : Script) (n : Nat) (lossy : Bool) (h : recvsOk n lossy w.recvs) :
    (∃ bs rest, w.recvs = .data bs :: rest ∧ bs ≠ [] ∧
      recvNow Script.world w n = .got bs { w with recvs := rest, calls := .recv n (.data bs) :: w.calls }) ∨
    (∃ e a, dataOf w.recvs = [] ∧ e.isRuntime = true ∧ (w.recvs = [] ∨ lossy = true) ∧
      recvNow Script.world w n = .exn e { w with recvs := [], calls := .recv n a :: w.calls }) := by
  rw [recvNow_script_eq]
  obtain ⟨waits, sends, recvs, dead, clock, calls⟩ := w
  cases recvs with
  | nil =>
    refine Or.inr ?_
    cases dead
    · exact ⟨.system 11, .fail 11, rfl, rfl, Or.inl rfl, rfl⟩
    · exact ⟨.closed, .data [], rfl, rfl, Or.inl rfl, rfl⟩
  | cons a rest =>
    cases a with
    | fail e =>
      cases h.2
      exact Or.inr ⟨.system e, .fail e, rfl, rfl, Or.inr h.1, rfl⟩
    | data bs =>
      have : bs.take n = bs := List.take_of_length_le h.2.1
      refine Or.inl ⟨bs, rest, rfl, h.1, ?_⟩
      show (if bs.take n = [] then _ else _) = _
      rw [this, if_neg h.1]

/-! ### synchronous `Send` / `Receive` -/

/-- the observer's state after the lines of one synchronous call -/
def callSp (sp : SpecSt) (ep : EpSt) (recvOp : Bool) (spent : Int) (threw : Bool) : SpecSt :=
  { sp with ep := some { ep with recvOp := recvOp, callT := none, spent := spent },
            threwAfterKill := if threw = true ∧ sp.kill.isSome = true then true else sp.threwAfterKill }

theorem specRun_call {ep : EpSt} (hep : sp.ep = some ep) (op : ApiOp) (hop : (op == .other) = false) (T : Int)
    (l : List Call) (hl : okLog T 0 l = true) (threw sendErr : Bool) (hse : ((op == .recv) && sendErr) = false) :
    specRun sp (.api op (some T) :: (l.filterMap callObs ++ [.ret (if threw then .threw false sendErr else .returned)]))
      = .ok (callSp sp ep (op == .recv) (spendLog T 0 l) threw) := by
  have h1 : specStep sp (.api op (some T))
      = .ok { sp with ep := some { ep with recvOp := op == .recv, callT := some T, spent := 0 } } := by
    simp [specStep, hep, hop]
  simp only [specRun, h1]
  rw [specRun_log T l _ { ep with recvOp := op == .recv, callT := some T, spent := 0 } _ rfl rfl hl]
  have hse' : ¬ (op = .recv ∧ sendErr = true) := by simpa using hse
  cases threw
  · simp [specRun, specStep, callSp]
  · cases hk : sp.kill <;> simp [specRun, specStep, callSp, hse', hk]

theorem retOf_eq {e : Option Exn} (h : ∀ x, e = some x → Exn.isLogic x = false) (sendErr : Bool) :
    retOf e sendErr = if e.isSome then .threw false sendErr else .returned := by
  cases e with
  | none => rfl
  | some x => simp [retOf, h x rfl]

theorem Rel.call (hR : Rel m sp) {ep : EpSt}
    (he : ep.async = m.async ∧ ep.tls = false ∧ ep.callT = none ∧ ep.discSeen = m.x.a.disconnects)
    (recvOp : Bool) (spent : Int) {threw : Bool} {w' : Script} {g' : Bytes} {t rt : Bool}
    (ht : t = true → m.threw = true ∨ (threw = true ∧ m.killed.isSome = true)) :
    Rel { m with x := { m.x with w := w' }, got := g', threw := t, rthrew := rt } (callSp sp ep recvOp spent threw) :=
  { hR with
    ep := ⟨_, rfl, he.1, he.2.1, rfl, he.2.2.2⟩
    threw := fun h => by
      show (if threw = true ∧ sp.kill.isSome = true then true else sp.threwAfterKill) = true
      rcases ht h with h' | h'
      · split
        · rfl
        · exact hR.threw h'
      · rw [if_pos ⟨h'.1, by rw [hR.kill]; exact h'.2⟩] }

@[simp] theorem callsObs_nil : callsObs [] = [] := rfl

@[simp] theorem callsObs_recv (n : Nat) (a : RecvAns) (l : List Call) : callsObs (.recv n a :: l) = callsObs l := by
  simp [callsObs, callObs]

theorem callsObs_run {w0 w' : Script} {l : List Call} (h : SendRun w0 w' l) (h0 : w0.calls = []) :
    callsObs w'.calls = l.filterMap callObs := by
  simp [callsObs, h.calls, h0]

theorem step_send (ord) (m : Sys) (sp : SpecSt) (T : Int) (data : Bytes) (waits : List WaitAns) (sends : List SendAns)
    (rest : List Op) (hR : Rel m sp) (hI : MInv m) (hL : Live ord m (.send T data waits sends :: rest))
    (hok : opOk ord m (.send T data waits sends) rest = true) :
    StepOk ord m sp (.send T data waits sends) rest := by
  by_cases hc : m.async = true
  · exact StepOk.skip (by simp only [sysStep, if_pos hc]) hR hI
      ⟨hL.ordEq, hL.steps, hL.recvs, fun a => absurd hc (Bool.eq_false_iff.mp a)⟩
  · have ha : m.async = false := Bool.eq_false_iff.mpr hc
    simp only [opOk, ha, Bool.false_or, Bool.and_eq_true, bne_iff_ne, ne_eq, Bool.or_eq_true,
      Option.isNone_iff_eq_none, List.isEmpty_iff] at hok
    obtain ⟨⟨-, hsane⟩, hkw⟩ := hok
    obtain ⟨ep, hep, he⟩ := hR.ep
    have hA := Moved.arm hI hsane fun hk => hkw.resolve_left (Option.ne_none_iff_isSome.mpr hk)
    obtain ⟨⟨l, hrun, hlog⟩, hnl, hlive⟩ := send_facts T (arm m.x.w waits sends) data hA.sane
    have hM := hA.run hrun
    have hcalls := callsObs_run hrun rfl
    unfold StepOk
    simp only [sysStep, if_neg hc]
    generalize sendT Script.world (arm m.x.w waits sends) data T = r at hrun hnl hlive hM hcalls ⊢
    refine ⟨callSp sp ep false (spendLog T 0 l) r.exn.isSome, specRun_append ?_, hR.call he _ _ fun h => ?_,
      hI.moved hM (fun h => ?_) fun h => ⟨(hI.rthrew h).1, hM.drained (hI.rthrew h).2.1, by rw [(hI.rthrew h).2.2]; rfl⟩,
      Live.ofSync ha hL.ordEq (fun hk hr ho => Nat.lt_of_le_of_lt hM.fewer (hL.recvs ha hk hr ho)) ?_⟩
    · rw [hcalls, retOf_eq hnl]
      exact specRun_call hep .send rfl T l hlog _ true rfl
    · simp only [Bool.or_eq_true, Bool.and_eq_true] at h
      exact h.imp_right fun h => ⟨h.2, h.1⟩
    · simp only [Bool.or_eq_true, Bool.and_eq_true] at h
      exact h.elim hI.threwK (·.1)
    · -- a `Send` after the kill that did not throw used up one of the answers the kernel still gives
      intro k p hk ht hn ho
      have hks := Option.isSome_of_eq_some (hk : m.killed = some (k, p))
      have ht' : (m.threw || (m.killed.isSome && r.exn.isSome)) = false := ht
      simp only [Bool.or_eq_false_iff, hks, Bool.true_and] at ht'
      have h1 := hlive (hI.dead.trans hks) (hA.waits hks)
        (Option.not_isSome_iff_eq_none.mp (Bool.eq_false_iff.mp ht'.2))
      have h2 := hL.sends ha k p hk ht'.1 hn ho
      have h3 := hA.sends hks
      simp only [sendOps] at h2
      show sendOps rest > r.w.sends.length
      omega

theorem pollOk_self (T : Int) : pollOk T 0 T = true := by
  unfold pollOk
  split
  · simpa using ‹T < 0›
  · split
    · simpa using ‹T = 0›
    · simp only [Bool.and_eq_true, decide_eq_true_eq]; omega

theorem step_recv (ord) (m : Sys) (sp : SpecSt) (T : Int) (waits : List WaitAns)
    (rest : List Op) (hR : Rel m sp) (hI : MInv m) (hL : Live ord m (.recv T waits :: rest))
    (hok : opOk ord m (.recv T waits) rest = true) :
    StepOk ord m sp (.recv T waits) rest := by
  by_cases hc : m.async = true
  · exact StepOk.skip (by simp only [sysStep, if_pos hc]) hR hI
      ⟨hL.ordEq, hL.steps, fun a => absurd hc (Bool.eq_false_iff.mp a), hL.sends⟩
  · have ha : m.async = false := Bool.eq_false_iff.mpr hc
    simp only [opOk, ha, Bool.false_or, Bool.or_eq_true, Option.isNone_iff_eq_none, List.isEmpty_iff] at hok
    obtain ⟨ep, hep, he⟩ := hR.ep
    have hA := Moved.arm hI (sends := []) rfl fun hk => ⟨hok.resolve_left (Option.ne_none_iff_isSome.mpr hk), rfl⟩
    obtain ⟨hw, hready⟩ := wait_run (arm m.x.w waits []) .rd T
    rcases hwt : Script.world.wait (arm m.x.w waits []) .rd T with ⟨r, w1⟩
    rw [hwt] at hw hready
    have hM := hA.run hw
    have hcalls : callsObs w1.calls = [.poll T r] := by rw [show w1.calls = [.wait .rd T r] from hw.calls]; rfl
    unfold StepOk
    have hspec : ∀ threw cs, callsObs cs = callsObs w1.calls →
        specRun sp ([.api .recv (some T)] ++ callsObs cs ++ [.ret (if threw then .threw false false else .returned)])
          = .ok (callSp sp ep true (nextSpent T 0 T r) threw) := fun threw cs h => by
      rw [h, hcalls]
      exact specRun_call hep .recv rfl T [.wait .rd T r] (by simp [okLog, pollOk_self]) threw false rfl
    cases r with
    | false =>
      -- timed out: only while the peer is alive (K1)
      have nk : ¬ m.killed.isSome = true := fun hk => by cases hready (hI.dead.trans hk) (hA.waits hk)
      simp only [sysStep, if_neg hc, recvT, receive, hwt]
      exact ⟨_, specRun_append (hspec false _ rfl), hR.call he true _ Or.inl, hI.moved_w hM,
        Live.ofSync ha hL.ordEq (fun h => absurd h nk) fun k p h => absurd (Option.isSome_of_eq_some h) nk⟩
    | true =>
      rcases recvNow_script w1 m.rsz m.lossy hM.recvs with ⟨bs, rest', hr, -, hv⟩ | ⟨e, a, hd, hrt, -, hv⟩
      · simp only [sysStep, if_neg hc, recvT, receive, hwt, hv]
        refine ⟨_, specRun_append (hspec false _ (callsObs_recv ..)), hR.call he true _ Or.inl, hI.moved_w (hM.got hr),
          Live.ofSync ha hL.ordEq (fun hk hrt ho => ?_) fun k p hk ht hn ho =>
            Nat.lt_of_le_of_lt (hM.sends (Option.isSome_of_eq_some hk)) (hL.sends ha k p hk ht hn ho)⟩
        · have := Nat.lt_of_le_of_lt hM.fewer (hL.recvs ha hk hrt ho)
          rw [hr] at this
          exact Nat.lt_of_succ_lt_succ this
      · have hlog : Exn.isLogic e = false := by rw [Exn.isLogic_eq, hrt]; rfl
        simp only [sysStep, if_neg hc, recvT, receive, hwt, hv, retOf, hlog]
        refine ⟨_, specRun_append (hspec true _ (callsObs_recv ..)), hR.call he true _ fun h => ?_,
          hI.moved (hM.ended hd) (fun h => ?_) fun h => ?_,
          Live.ofSync ha hL.ordEq (fun hk h => ?_) fun k p hk h => ?_⟩
        · simp only [Bool.or_eq_true] at h
          exact h.imp_right fun h => ⟨rfl, h⟩
        · simp only [Bool.or_eq_true] at h
          exact h.elim hI.threwK id
        · simp only [Bool.or_eq_true] at h
          have hk : m.killed.isSome = true := h.elim (fun h => (hI.rthrew h).1) id
          exact ⟨hk, rfl, by rw [hk, Bool.or_true]⟩
        · exact absurd hk (Bool.eq_false_iff.mp (Bool.or_eq_false_iff.mp h).2)
        · exact absurd (Option.isSome_of_eq_some hk) (Bool.eq_false_iff.mp (Bool.or_eq_false_iff.mp h).2)

/-! ### the asynchronous socket: one driver step -/

theorem specStep_send (s : SpecSt) (who : String) : specStep s (.send who true) = .ok s := rfl

@[simp] theorem pushed_self {α : Type} (l : List α) : pushed l l = [] := by simp [pushed]

@[simp] theorem pushed_cons {α : Type} (x : α) (l : List α) : pushed l (x :: l) = [x] := by simp [pushed]

theorem enqs_not_late (l : List Bool) (i : Nat) (h : ∀ b ∈ l, b = false) : (l[i]? == some true) = false := by
  cases hg : l[i]? with
  | none => rfl
  | some b =>
    have := h b (List.mem_of_getElem? hg)
    subst this
    rfl

theorem specStep_fut (sp : SpecSt) (i : Nat) (f : FutRes) (h : ∀ b ∈ sp.enqs, b = false) :
    specStep sp (.fut i (futOf f)) = .ok { sp with futs := sp.futs + 1 } := by
  cases f <;> simp [specStep, futClause, futOf, enqs_not_late _ _ h]

theorem step_step (ord) (m : Sys) (sp : SpecSt) (rev : REvents) (sends : List SendAns)
    (rest : List Op) (hR : Rel m sp) (hI : MInv m) (hL : Live ord m (.step rev sends :: rest))
    (hok : opOk ord m (.step rev sends) rest = true) :
    StepOk ord m sp (.step rev sends) rest := by
  by_cases hc : ¬ m.async = true ∨ m.destroyed = true
  · refine StepOk.skip (by simp only [sysStep, if_pos hc]) hR hI ⟨hL.ordEq, fun a b c d => ?_, hL.recvs, hL.sends⟩
    rcases hc with hc | hc
    · exact absurd a hc
    · exact absurd hc (Bool.eq_false_iff.mp (hL.steps a b c d).1)
  obtain ⟨ha, hd⟩ := not_or_bool hc
  simp only [opOk, ha, hd, Bool.not_true, Bool.false_or, Bool.and_eq_true] at hok
  obtain ⟨hsane, hcond⟩ := hok
  obtain ⟨ep, hep, he⟩ := hR.ep
  have hA : Moved m (arm m.x.w [] sends) m.got := Moved.arm hI hsane fun hk => by
    simp only [hk, if_true, Bool.and_eq_true, List.isEmpty_iff] at hcond
    exact ⟨rfl, hcond.2⟩
  -- the step's result `(o, p)`; each case below finds its value and substitutes it
  rcases hp : pTask Script.world m.rsz ⟨m.x.a, arm m.x.w [] sends⟩ rev with ⟨o, p⟩
  have hstep : sysStep m (.step rev sends) = ({ m with x := p, got := m.got ++ (pushed m.x.a.delivered p.a.delivered).flatten },
      stepObs m.x.a o p) := by simp only [sysStep, if_neg hc, hp]
  have hr0 : (arm m.x.w [] sends).recvs = m.x.w.recvs := rfl
  have hc0 : (arm m.x.w [] sends).calls = [] := rfl
  generalize arm m.x.w [] sends = w0 at hA hp hr0 hc0
  have hAI := pTask_inv Script.world m.rsz ⟨m.x.a, w0⟩ rev _ ⟨hI.adisc, hI.areg, rfl⟩
  rw [hp] at hAI
  have hidle : (o, p) = (.ok (), ⟨m.x.a, w0⟩) → (m.killed.isSome = true → m.x.a.registered = false) →
      StepOk ord m sp (.step rev sends) rest := fun e hi => by
    cases e
    exact StepOk.intro sp hstep (by simp [stepObs, hc0, specRun]) { hR with } (hI.moved_w (hA.cast (by simp)))
      (Live.ofAsync ha hL.ordEq fun hk hr => absurd hr (Bool.eq_false_iff.mp (hi hk)))
  cases hreg : m.x.a.registered with
  | false => exact hidle (hp.symm.trans (pTask_unreg _ _ ⟨m.x.a, w0⟩ _ hreg)) fun _ => hreg
  | true =>
    have hz := hI.disc0 hreg
    cases hrd : rev.rd with
    | true =>
      -- POLLIN: DriverReceive
      rw [pTask_rd _ _ ⟨m.x.a, w0⟩ _ hreg hrd] at hp
      rcases recvNow_script w0 m.rsz m.lossy hA.recvs with
        ⟨bs, rest', hr, hne, hv⟩ | ⟨e, a, hd0, hrt, hwhy, hv⟩
      · -- the next segment goes to the receive handler
        simp only [pReadable, hv] at hp
        cases hp
        have hlen : bs.length ≠ 0 := fun h => hne (List.eq_nil_of_length_eq_zero h)
        refine StepOk.intro sp hstep (by simp [stepObs, hc0, specRun, specStep, hep, hlen])
          { hR with } { hI.moved_w ((hA.got hr).cast (by simp)) with }
          (Live.ofAsync ha hL.ordEq fun hk _ ho => ?_)
        have := hL.steps ha hk hreg ho
        rw [← hr0, hr] at this
        exact ⟨this.1, Nat.lt_of_succ_lt_succ this.2⟩
      · -- end of the stream or an error - only after the kill (K1): disconnect handler
        have hk : m.killed.isSome = true := by
          rcases hwhy with h | h
          · exact Decidable.by_contra fun nk => by simp [nk, hrd, hr0.symm.trans h] at hcond
          · obtain ⟨k, p, hkk, _⟩ := hI.lossyK h
            exact Option.isSome_of_eq_some hkk
        simp only [pReadable, hv, hrt, if_true] at hp
        cases hp
        refine StepOk.intro { sp with ep := some { ep with discSeen := ep.discSeen + 1 } } hstep
          (by simp [stepObs, pDisconnect, hc0, specRun, specStep, hep, he.2.2.2, hz])
          { hR with ep := ⟨_, rfl, he.1, he.2.1, he.2.2.1, by show ep.discSeen + 1 = m.x.a.disconnects + 1; rw [he.2.2.2]⟩,
                    live := fun h => (Bool.false_ne_true h).elim }
          { hI.moved_w ((hA.ended hd0).cast (by simp [pDisconnect])) with
            adisc := hAI.1
            areg := hAI.2.1
            unreg := fun _ => ⟨hk, rfl⟩ }
          (Live.ofAsync ha hL.ordEq fun _ h => (Bool.false_ne_true h).elim)
    | false =>
      -- no POLLIN: only while the peer is alive (K1: after the kill the socket is readable)
      have nk : ¬ m.killed.isSome = true := fun hk => by simp [hk, hrd] at hcond
      have hup : rev.hupErr = false := by simpa [nk, hrd] using hcond
      by_cases hwr : rev.wr = true ∧ m.x.a.pollOut = true
      · -- POLLOUT with a queued buffer: DriverSend
        rcases hq : m.x.a.sendQ with _ | ⟨buf, rest'⟩
        · exact absurd hq (hI.pollq hwr.2)
        obtain ⟨⟨a, hn⟩, hnl, -⟩ := sendNow_run w0 buf hA.sane
        have hM := hA.run hn
        have hcalls : callsObs (sendNow Script.world w0 buf).w.calls = [.send "x" true] :=
          callsObs_run hn hc0
        rw [pTask_wr _ _ ⟨m.x.a, w0⟩ _ hreg hrd hwr, pWritable_cons Script.world ⟨m.x.a, w0⟩ hq fun e hx => by
          simpa [Exn.isLogic_eq] using hnl e hx] at hp
        generalize sendNow Script.world w0 buf = r at hM hcalls hp
        have henq := hR.enqs
        have hfut := hR.futs
        rw [hq] at henq hfut
        split at hp <;> cases hp
        · -- accepted in part: the rest stays queued
          exact StepOk.intro sp hstep (by simp [stepObs, hcalls, specRun, specStep_send])
            { hR with enqs := henq, futs := hfut }
            { hI.moved_w (hM.cast (by simp)) with pollq := fun _ => List.cons_ne_nil _ _ }
            (Live.ofAsync ha hL.ordEq fun h => absurd h nk)
        · -- the promise of the buffer at the head of the queue is resolved
          rw [hd] at hfut
          exact StepOk.intro { sp with futs := sp.futs + 1 } hstep
            (by simp [stepObs, hcalls, specRun, specStep_send, specStep_fut _ _ _ (hR.live hreg)])
            { hR with enqs := henq.trans (Nat.add_right_comm m.x.a.futures.length rest'.length 1)
                      futs := by show sp.futs + 1 = _ + 1 + (if m.destroyed = true then _ else 0); rw [hd, hfut]; rfl }
            { hI.moved_w (hM.cast (by simp)) with
              pollq := fun h he => by
                have h' : (if rest'.isEmpty = true then false else m.x.a.pollOut) = true := h
                rw [show rest' = [] from he] at h'; cases h' }
            (Live.ofAsync ha hL.ordEq fun h => absurd h nk)
      · -- nothing for X in this step
        exact hidle (hp.symm.trans (pTask_idle _ _ ⟨m.x.a, w0⟩ _ hreg hrd hwr hup)) fun h => absurd h nk


/-! ### induction over the history, the end of the case, the theorem -/

theorem step_ok (ord) (m : Sys) (sp : SpecSt) (op : Op) (rest : List Op)
    (hR : Rel m sp) (hI : MInv m) (hL : Live ord m (op :: rest)) (hok : opOk ord m op rest = true) :
    StepOk ord m sp op rest := by
  cases op with
  | psend n => exact step_psend ord m sp n rest hR hI hL
  | send T data waits sends => exact step_send ord m sp T data waits sends rest hR hI hL hok
  | recv T waits => exact step_recv ord m sp T waits rest hR hI hL hok
  | enq data => exact step_enq ord m sp data rest hR hI hL
  | step rev sends => exact step_step ord m sp rev sends rest hR hI hL hok
  | pre x => exact step_pre ord m sp x rest hR hI hL hok
  | kill kind pread reset sends => exact step_kill ord m sp kind pread reset sends rest hR hI hL hok
  | after o b => exact step_after ord m sp o b rest hR hI hL
  | destroy => exact step_destroy ord m sp rest hR hI hL

theorem run_ok (ord) : ∀ (hist : List Op) (m : Sys) (sp : SpecSt), Rel m sp → MInv m → Live ord m hist →
    histOkFrom ord m hist = true →
    ∃ sp', (∀ tail, specRun sp ((modelOps m hist).2 ++ tail) = specRun sp' tail) ∧
      Rel (modelOps m hist).1 sp' ∧ MInv (modelOps m hist).1 ∧ Live ord (modelOps m hist).1 []
  | [], m, sp, hR, hI, hL, _ => ⟨sp, fun _ => rfl, hR, hI, hL⟩
  | op :: rest, m, sp, hR, hI, hL, hok => by
    simp only [histOkFrom, Bool.and_eq_true] at hok
    obtain ⟨sp1, hrun1, hR1, hI1, hL1⟩ := step_ok ord m sp op rest hR hI hL hok.1
    obtain ⟨sp2, hrun2, hR2, hI2, hL2⟩ := run_ok ord rest (sysStep m op).1 sp1 hR1 hI1 hL1 hok.2
    refine ⟨sp2, fun tail => ?_, hR2, hI2, hL2⟩
    show specRun sp (((sysStep m op).2 ++ (modelOps (sysStep m op).1 rest).2) ++ tail) = _
    rw [List.append_assoc, hrun1, hrun2]

theorem KillKind.real_name (k : KillKind) (h : k.real = true) : k.name ≠ "" := by
  cases k <;> simp [KillKind.name, KillKind.real] at h ⊢

theorem ordOr_none {α : Type} (a : Option α) : ordOr a none = a := by cases a <;> rfl

theorem Live.unreg (hL : Live ord m []) (ha : m.async = true)
    (hk : m.killed.isSome = true) (ho : ordList ord ≠ []) : m.x.a.registered = false :=
  Bool.eq_false_iff.mpr fun hreg => Nat.not_lt_zero _ (hL.steps ha hk hreg ho).2

theorem Live.rthrew (hL : Live ord m []) (ha : m.async = false)
    (hk : m.killed.isSome = true) (hr : (ordList ord).contains .r = true) : m.rthrew = true := by
  cases h : m.rthrew
  · exact absurd (hL.recvs ha hk h hr) (Nat.not_lt_zero _)
  · rfl

theorem Live.drained (hL : Live ord m []) (hI : MInv m)
    (hk : m.killed.isSome = true) (ho : ordList ord ≠ []) (hr : m.async = true ∨ (ordList ord).contains .r = true) :
    m.x.w.recvs = [] := by
  rcases Bool.eq_false_or_eq_true m.async with ha | ha
  · exact (hI.unreg (hL.unreg ha hk ho)).2
  · exact (hI.rthrew (hL.rthrew ha hk (hr.resolve_left (Bool.eq_false_iff.mp ha)))).2.1

theorem final_report {ep : EpSt} {kind : KillKind} {pread : Nat}
    (hR : Rel m sp) (hI : MInv m) (hL : Live ord m []) (he1 : ep.async = m.async) (he4 : ep.discSeen = m.x.a.disconnects)
    (hk : m.killed = some (kind, pread)) : reportClause sp ep kind (ordList ord) (ordBig ord) = none := by
  have hks := Option.isSome_of_eq_some hk
  unfold reportClause
  rw [he1]
  rcases Bool.eq_false_or_eq_true m.async with ha | ha
  · rw [if_pos ha, if_neg, if_neg]
    · intro ⟨hd, hne⟩
      have := hR.futs
      rw [← hR.destroyed, hd, if_pos rfl, ← hR.enqs] at this
      exact hne this.symm
    · intro ⟨hne, ho⟩
      exact hne (he4.trans (hI.areg.mpr (hL.unreg ha hks ho)))
  · have hth : (ordList ord).contains .r = true → sp.threwAfterKill = true := fun hr =>
      hR.threw (hI.rthrew (hL.rthrew ha hks hr)).2.2
    rw [if_neg (Bool.eq_false_iff.mp ha), if_neg fun h => h.2 (hth h.1), if_neg]
    intro ⟨hs, hsh, hbig, hno⟩
    apply hno
    cases hr : (ordList ord).contains .r with
    | true => exact hth hr
    | false =>
      cases ht : m.threw with
      | true => exact hR.threw ht
      | false =>
        have hn : needSend ord kind = true := by
          simp only [needSend, Bool.and_eq_true, bne_iff_ne, ne_eq, decide_eq_true_eq]
          exact ⟨⟨hs, hsh⟩, hbig⟩
        exact absurd (hL.sends ha kind pread hk ht hn hr) (Nat.not_lt_zero _)

theorem final_orderly {ep : EpSt} {kind : KillKind} {pread : Nat}
    (hR : Rel m sp) (hI : MInv m) (hL : Live ord m []) (hg : sp.got = m.got) (hp : sp.psent = m.psent)
    (he1 : ep.async = m.async) (hk : m.killed = some (kind, pread)) :
    orderlyClause sp ep kind pread (ordList ord) = none := by
  have hks := Option.isSome_of_eq_some hk
  unfold orderlyClause
  simp only
  rw [if_neg]
  intro ⟨hO, hF, hne, hbad⟩
  apply hbad
  rw [hR.pre] at hO
  rw [he1] at hF
  have hnl : m.lossy = false := Bool.eq_false_iff.mpr fun hlo => by
    obtain ⟨k, p, hkk, hno⟩ := hI.lossyK hlo
    cases hk.symm.trans hkk
    exact absurd hO (by simpa [orderly] using hno)
  have hrec0 : m.x.w.recvs = [] := hL.drained hI hks hne <| hF.imp_right fun hF => by
    cases hol : ordList ord with
    | nil => exact absurd hol hne
    | cons x xs =>
      rw [hol] at hF
      cases (Option.some.inj hF : x = .r)
      rfl
  obtain ⟨lost, hs, hl⟩ := hI.stream
  rw [hrec0, hl hnl] at hs
  have := congrArg List.length hs
  simp only [List.length_take, dataOf, List.append_nil] at this
  have := hI.psent
  rw [hg, hp]
  omega

/-- the end-of-case clauses hold in the model once the scenario has been played to its end -/
theorem final_core (ord) (m : Sys) (sp : SpecSt) (hR : Rel m sp) (hg : sp.got = m.got) (hp : sp.psent = m.psent)
    (hI : MInv m) (hL : Live ord m []) : specFinal sp = none := by
  obtain ⟨ep, hep, he1, -, -, he4⟩ := hR.ep
  obtain ⟨lost, hs, -⟩ := hI.stream
  have hord : m.ord = ord := (ordOr_none _).symm.trans hL.ordEq
  have hpre : m.got <+: m.ppay := by
    refine ⟨dataOf m.x.w.recvs ++ lost ++ m.ppay.drop m.psent, ?_⟩
    have := List.take_append_drop m.psent m.ppay
    rw [hs] at this
    simpa [List.append_assoc] using this
  have hlen : m.got.length ≤ m.psent := by
    have := congrArg List.length hs
    simp only [List.length_take, List.length_append] at this
    omega
  simp only [specFinal, hep, hg, hp, hR.spay, List.isPrefixOf_iff_prefix.mpr hpre, not_true_eq_false, if_false]
  rw [if_neg (by omega), hR.kill]
  cases hk : m.killed with
  | none => rfl
  | some kp =>
    obtain ⟨kind, pread⟩ := kp
    have h1 : reportClause sp ep kind ((sp.order.map (·.1)).getD []) ((sp.order.map (·.2)).getD 0) = none := by
      rw [hR.ord, hord]; exact final_report hR hI hL he1 he4 hk
    have h2 : orderlyClause sp ep kind pread ((sp.order.map (·.1)).getD []) = none := by
      rw [hR.ord, hord]; exact final_orderly hR hI hL hg hp he1 hk
    simp only [if_neg (KillKind.real_name kind (hI.kreal kind pread hk)), h1, h2]


theorem final_ok (ord) (m : Sys) (sp : SpecSt) (hR : Rel m sp) (hI : MInv m) (hL : Live ord m []) :
    ∃ s, specRun sp (finalObs m) = .ok s ∧ specFinal s = none :=
  ⟨{ sp with got := m.got, psent := m.psent }, rfl, final_core ord m _ { hR with } rfl rfl hI hL⟩


theorem init_inv (async : Bool) (rsz : Nat) (ppay : Bytes) : MInv (Sys.init async rsz ppay) where
  psent := Nat.zero_le _
  recvs := trivial
  stream := ⟨[], by simp [Sys.init, dataOf], fun _ => rfl⟩
  dead := rfl
  kwaits h := by cases h
  sane := rfl
  lossyK h := by cases h
  kreal _ _ h := by cases h
  adisc := Nat.zero_le _
  areg := by show (0 : Nat) = 1 ↔ true = false; simp
  pollq h := by cases h
  unreg h := by cases h
  rthrew h := by cases h
  threwK h := by cases h

theorem init_rel (async : Bool) (rsz : Nat) (ppay : Bytes) :
    Rel (Sys.init async rsz ppay) { ep := some { async := async, tls := false }, spay := ppay } :=
  ⟨⟨_, rfl, rfl, rfl, rfl, rfl⟩, rfl, rfl, rfl, rfl, (fun h => by cases h), rfl, rfl, (fun _ _ h => by cases h), rfl⟩

theorem init_live (async : Bool) (rsz : Nat) (ppay : Bytes) (history : List Op) :
    Live (firstAfter history) (Sys.init async rsz ppay) history :=
  ⟨rfl, (fun _ h => by cases h), (fun _ h => by cases h), (fun _ _ _ h => by cases h)⟩

/-- **model_satisfies_spec_partial.**  (`_partial`: endpoints without TLS only - see the comment below.)  For every API level (`async`), every receive buffer size, every payload of the peer and
every history of any length - any interleaving of peer sends, synchronous `Send` / `Receive` with any timeout and any
scripted kernel answers (short writes, errors, time-outs, ready), asynchronous `Send` and driver steps with any
`poll` result, one close / half close / reset of the peer at any point, with or without loss of unread data,
destruction of the asynchronous socket - that satisfies the environment assumptions `histOk` (kernel sanity, K1,
scenario played to its end), the predicate accepts every line of the model's trace and the end-of-case clauses hold. -/
theorem model_satisfies_spec_partial (async : Bool) (rsz : Nat) (ppay : Bytes) (history : List Op)
    (h : histOk async rsz ppay history = true) :
    ∃ s, specRun {} (modelTrace async rsz ppay history) = .ok s ∧ specFinal s = none := by
  obtain ⟨sp1, hrun, hR, hI, hL⟩ := run_ok (firstAfter history) history (Sys.init async rsz ppay)
    { ep := some { async := async, tls := false }, spay := ppay }
    (init_rel async rsz ppay) (init_inv async rsz ppay) (init_live async rsz ppay history) h
  obtain ⟨s, hs, hf⟩ := final_ok _ _ sp1 hR hI hL
  -- the `setup` and `payload` lines in front are accepted by computation
  exact ⟨s, (hrun _).trans hs, hf⟩

/- The full statement, NOT proved (hence `_partial` above): the same for `tls = true`, i.e. with the library side
`Tls.sendT` / `receiveT` / `enqueue` / `aQuery` / `aTask` of `Model/Tls.lean` over an engine `E : Engine σ`,

  theorem model_satisfies_spec (C : Cfg) (E : Engine σ) (e0 : σ) (async tls : Bool) (rsz : Nat) (ppay : Bytes)
      (history : List Op) (h : histOk … history = true) (hE : <the engine is a faithful TLS implementation>) :
      ∃ s, specRun {} (modelTrace C E e0 async tls rsz ppay history) = .ok s ∧ specFinal s = none

What is missing is `hE`: the engine is abstract in the model (the driver replays OpenSSL's observed answers), so
"delivered is a prefix of / all of what the peer sent", "no logic_error" (`DriverPending`: "unexpected receive") and
"the failure is reported" are for a TLS endpoint statements about which plaintext `SSL_read` hands out and that it
answers a dead connection with a fatal code - hypotheses on a function-valued `Engine` that are not decidable and
amount to the conclusion.  The engine-independent clauses are theorems of the TLS model already
(`nosignal_everywhere`, `tls_peer_failure_reported` in Props/C15.lean); the wait-budget clause for the TLS glue would
need `Script.calls` related to `Glue.remainingTime` through `interp` (not done). -/

/-- the check the driver performs (`specRun`, then `specFinal`) passes on every trace of the model -/
theorem model_passes_check (async : Bool) (rsz : Nat) (ppay : Bytes) (history : List Op)
    (h : histOk async rsz ppay history = true) : specCheck (modelTrace async rsz ppay history) = .ok () := by
  obtain ⟨s, hs, hf⟩ := model_satisfies_spec_partial async rsz ppay history h
  simp [specCheck, hs, hf]


/-! ### examples: the hypothesis is satisfiable, the predicate rejects bad traces, each assumption is needed -/

def rejects (t : List Obs) : Bool :=
  match specCheck t with
  | .ok _ => false
  | .error _ => true

/-- synchronous socket: transfer in both directions with a short write and a failed `send`, the peer closes after
having read everything, three `Receive`s drain the two pending segments and report the closure, two more `Send`s -/
def demoSync : List Op :=
  [.psend 3, .send 0 [1, 2, 3] [⟨true, 0⟩] [.accept 2], .recv 30 [⟨true, 5⟩], .psend 10, .recv 0 [⟨false, 0⟩],
   .send 0 [3] [] [.fail 104], .pre 2, .kill .close 2 none [.accept 1], .after [.r, .s] 3000000,
   .recv 0 [], .recv 0 [], .recv 0 [], .send 0 [9, 9] [] [], .send 0 [9] [] []]

/-- asynchronous socket: partial and failed driver sends, a reset that discards everything unread, buffers enqueued
before and after the disconnect, destruction with three promises still queued -/
def demoAsync : List Op :=
  [.enq [1, 2, 3], .psend 4, .step { wr := true } [.accept 2], .step { rd := true, wr := true } [], .step { wr := true } [.fail 32],
   .psend 2, .enq [7], .pre 3, .kill .rst 0 (some (0, 104)) [], .after [.s] 0, .enq [8, 8],
   .step { rd := true, hupErr := true } [], .step { rd := true } [], .enq [5], .destroy]

example : histOk false 4 [1, 2, 3, 4, 5, 6, 7, 8] demoSync = true := by decide
example : histOk true 4 [1, 2, 3, 4, 5, 6, 7, 8] demoAsync = true := by decide
example : specCheck (modelTrace false 4 [1, 2, 3, 4, 5, 6, 7, 8] demoSync) = .ok () :=
  model_passes_check _ _ _ _ (by decide)
example : specCheck (modelTrace true 4 [1, 2, 3, 4, 5, 6, 7, 8] demoAsync) = .ok () :=
  model_passes_check _ _ _ _ (by decide)
example : (modelTrace true 4 [1, 2, 3, 4, 5, 6, 7, 8] demoAsync).length = 20 := by decide

/-- the seeded changes C15_agentC / C15_r4_agentJ (SendTry without MSG_NOSIGNAL) -/
example : rejects [.setup false false, .payload [], .api .send (some 0), .send "x" false, .ret .returned, .got [], .state 0] = true := by
  decide
/-- death by SIGPIPE -/
example : rejects [.setup false false, .payload [], .kill .rst 0, .api .send (some 0), .abort .killed "signal 13 SIGPIPE"] = true := by
  decide
/-- `recv == 0` mapped to a 0-byte success: `Receive` never reports the closure -/
example : rejects [.setup false false, .payload [1, 2], .pre 0, .kill .close 0, .after [.r] 0,
    .api .recv (some 0), .poll 0 true, .ret .returned, .got [1, 2], .state 2] = true := by decide
/-- a closure reported before the data the peer had sent was delivered -/
example : rejects [.setup false false, .payload [1, 2], .pre 0, .kill .shutwr 0, .after [.r] 0,
    .api .recv (some 0), .poll 0 true, .ret (.threw false false), .got [1], .state 2] = true := by decide
/-- the send error swallowed: the promise is abandoned while the socket is alive -/
example : rejects [.setup true false, .payload [], .enq, .kill .rst 0, .send "x" true, .fut 0 .broken] = true := by decide
/-- an unlimited `Send` that polls with a bounded timeout -/
example : rejects [.setup false false, .payload [], .api .send (some (-1)), .poll 30 false] = true := by decide

/-- the assumptions are needed.  A kernel that accepts 0 bytes of a non-empty buffer makes the model (like the code)
throw `std::logic_error`: -/
example : histOk false 4 [] [.send 0 [1] [] [.accept 0]] = false ∧
    rejects (modelTrace false 4 [] [.send 0 [1] [] [.accept 0]]) = true := by decide
/-- K1: if `poll` reported HUP without POLLIN while a segment is unread, the driver would call the disconnect handler
at once (driver_impl.cpp: HUP|ERR without POLLIN goes to `onError`) and the segment would be lost: -/
example : histOk true 4 [1, 2] [.psend 2, .kill .shutwr 0 none [], .after [.r] 0, .step { hupErr := true } [], .step { rd := true } []] = false ∧
    rejects (modelTrace true 4 [1, 2] [.psend 2, .kill .shutwr 0 none [], .after [.r] 0, .step { hupErr := true } [], .step { rd := true } []]) = true := by
  decide
/-- a scenario that stops before the failure can be reported is not a trace of a finished case: -/
example : histOk false 4 [1, 2] [.psend 2, .kill .close 0 none [], .after [.r] 0, .recv 0 []] = false ∧
    rejects (modelTrace false 4 [1, 2] [.psend 2, .kill .close 0 none [], .after [.r] 0, .recv 0 []]) = true := by decide

end SockModel.PeerFail.Spec
