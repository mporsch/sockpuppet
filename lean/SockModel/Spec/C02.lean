import SockModel.Model.AsyncQLemmas
/-!
# Spec.C02 - the property as an executable predicate over typed observations, and the proof that the
model satisfies it for every history

`specStep` / `specRun` / `specRunL` are what `./check C02` evaluates on the IMPLEMENTATION's transcript
(`Drive/C02.lean` parses the transcript lines into `Obs` and calls these very functions).  The
predicate is an *ideal FIFO pipeline fed with the same OS answers*: it keeps the buffers whose future
must still be pending (`pend`, in `Send` order, the front one with its unsent remainder), the expected
letter of every future (`status`), and the bytes the OS accepted that the peer has not read yet (`acc`).
It mentions no model state (`POLLOUT`, `wasEmpty`, `pendingArm`, ... do not occur).

`modelObs` / `modelTrace` are the observations the MODEL (`Model/AsyncQ.lean`, the very `step` function
the theorems of `Props/C02.lean` are about) produces for a history of API operations with arbitrary
environment answers.  `model_satisfies_spec` proves that `specRun` accepts every such trace - so a spec
failure on the implementation is a genuine difference between implementation and model (or a kernel
that answers 0 to an unscripted `send`), and every clause of the predicate is a consequence of the
model's definitions for histories of any length.

The multi-threaded runs (`mt ...` lines: several producer threads and a `Run()` thread) are judged by
the byte-stream parser `specMt` of the driver; its verdict enters here only as `Obs.external`.
-/
namespace SockModel.AsyncQ

def fnv (bs : Bytes) : UInt64 :=
  bs.foldl (fun h b => (h ^^^ b.toUInt64) * 1099511628211) 14695981039346656037

/-! ## typed observations -/

/-- one intercepted `send()` of the socket under test: bytes offered, result -/
inductive Sys where
  | sent (len r : Nat)
  | fail (len : Nat)
  deriving Repr, BEq, DecidableEq

/-- `st fut=<letters> ret=<ids>`: state of every future in creation order (p=pending v=value
e=exception b=broken) and the buffers found back in the send pool, in the order they were found -/
structure StObs where
  futs : String
  ret : List Nat
  deriving Repr

/-- what the harness reports for one operation (`none` = the observation line is missing) -/
inductive Obs where
  /-- `sock N _`: socket with a send pool of `N` buffers -/
  | sock (poolN : Nat)
  /-- `send id size` went through: buffer `bytes` handed to `Send`, then the state -/
  | send (id : Nat) (bytes : Bytes) (st : Option StObs)
  /-- `send id size` but the pool had no buffer: `Send` was not called -/
  | nobuf
  /-- `step <script>`: one `Driver::Step(0)`; `zero` = the harness scripted a 0 return for the next
  `send()`; the intercepted `send()` calls; whether the receive / disconnect handler ran; the exception
  that left `Step`, if any; then the state -/
  | step (zero : Bool) (sys : List Sys) (data disconnect : Bool) (thrown : Option String) (st : Option StObs)
  /-- `drain`: the peer read `n` bytes with FNV-1a hash `h` -/
  | drain (wire : Option (Nat × Nat))
  | peerclose
  /-- `destroy`: the socket object is destroyed, then the state -/
  | destroy (st : Option StObs)
  /-- the harness process died or hung inside this operation -/
  | crash (what : String)
  /-- an operation line the parser could not read -/
  | malformed (msg : String)
  /-- verdict of a clause evaluated outside this module (multi-threaded stream parser `specMt` of the
  driver; a crash reported between operations): `some msg` = violated -/
  | external (failure : Option String)
  deriving Repr

/-! ## the property on observations only -/

structure SElem where
  id : Nat
  rest : Bytes
  deriving Repr

structure SpecSt where
  poolN : Nat := 0
  pend : List SElem := []                 -- Sends whose future must still be pending, in Send order
  status : List (Nat × Char) := []        -- expected future letter per id, creation order
  acc : Bytes := []                       -- accepted by the OS, not yet read by the peer
  connected : Bool := true
  peerClosed : Bool := false
  destroyed : Bool := false
  deriving Repr

def SpecSt.setStatus (sp : SpecSt) (id : Nat) (c : Char) : SpecSt :=
  { sp with status := sp.status.map fun (i, x) => if i = id then (i, c) else (i, x) }

def SpecSt.letters (sp : SpecSt) : String := String.ofList (sp.status.map (·.2))
def SpecSt.resolvedIds (sp : SpecSt) : List Nat := (sp.status.filter (·.2 ≠ 'p')).map (·.1)

def sameSet (a b : List Nat) : Bool := a.all b.contains && b.all a.contains && a.length == b.length

/-- "Each returned future becomes ready exactly once: with a value only after every byte of its buffer
(and of all earlier buffers) was accepted by the OS, with an exception if transmitting it failed, or as a
broken promise if the socket is destroyed first" and "the buffer goes back to its pool only after its
last byte was handed to the OS (or the send failed), and no later than the end of the driver step in
which its future resolves": after every operation the futures are exactly those of the ideal pipeline
and the buffers back in the pool are exactly those whose future is resolved. -/
def SpecSt.checkState (sp : SpecSt) : Option StObs → Except String Unit
  | some o =>
    if o.futs ≠ sp.letters then
      .error s!"futures are {o.futs} but an ideal FIFO pipeline fed with the same OS answers has {sp.letters} (p=pending v=value e=exception b=broken)"
    else if ¬ sameSet o.ret sp.resolvedIds then
      .error s!"buffers back in the pool {o.ret} differ from the buffers whose future is resolved {sp.resolvedIds}"
    else .ok ()
  | none => .error "missing state observation"

/-- one `send()` seen during a step, applied to the ideal pipeline -/
def SpecSt.sys (sp : SpecSt) (zeroScripted : Bool) : Sys → Except String SpecSt
  | .sent _ r =>
    match sp.pend with
    | [] => .error "a send() was issued although no buffer is queued"
    | e :: rest =>
      if r > e.rest.length then .error s!"the OS accepted {r} bytes of a buffer that has only {e.rest.length} left"
      else if r = e.rest.length then
        .ok ({ sp with pend := rest, acc := sp.acc ++ e.rest }.setStatus e.id 'v')
      else if r = 0 ∧ ¬ zeroScripted then .error "send() returned 0"
      else .ok { sp with pend := { e with rest := e.rest.drop r } :: rest, acc := sp.acc ++ e.rest.take r }
  | .fail _ =>
    match sp.pend with
    | [] => .error "a send() was issued although no buffer is queued"
    | e :: rest => .ok ({ sp with pend := rest }.setStatus e.id 'e')

def SpecSt.sysAll (sp : SpecSt) (zeroScripted : Bool) : List Sys → Except String SpecSt
  | [] => .ok sp
  | s :: ss => match sp.sys zeroScripted s with
    | .ok sp' => sp'.sysAll zeroScripted ss
    | .error m => .error m

/-- an exception may leave `Step` only when the harness scripted a 0 return of `send()` for a
non-empty buffer (`SendSome` turns that into a `logic_error`) -/
def stepThrow (zero : Bool) (sys : List Sys) : Option String → Option String
  | some t =>
    let okThrow : Bool := zero && (match sys with | [.sent l 0] => decide (l > 0) | _ => false)
    if ¬ okThrow then some s!"Step threw: {t}" else none
  | none => none

def specStep (sp : SpecSt) : Obs → Except String SpecSt
  | .crash c => .error s!"crash: {c}"
  | .malformed m => .error m
  | .external (some m) => .error m
  | .external none => .ok sp
  | .sock n => .ok { sp with poolN := n }
  | .nobuf => .ok sp
  | .send id bytes st =>
    let sp' := { sp with pend := sp.pend ++ [SElem.mk id bytes], status := sp.status ++ [(id, 'p')] }
    match sp'.checkState st with
    | .error m => .error m
    | .ok _ => .ok sp'
  | .step zero sys data disconnect thrown st =>
    if data then .error "receive handler invoked although the peer never sent"
    else if disconnect ∧ ¬ sp.peerClosed then .error "disconnect handler invoked although the peer did not close"
    else if sys.length > 1 then .error "more than one send() in one driver step"
    else
      match sp.sysAll zero sys with
      | .error m => .error m
      | .ok sp1 =>
        match stepThrow zero sys thrown with
        | some m => .error m
        | none =>
          let sp2 := if disconnect then { sp1 with connected := false } else sp1
          -- "does not stay pending while the driver runs and the peer reads"
          if sys.isEmpty ∧ ¬ disconnect ∧ sp2.connected ∧ ¬ sp2.peerClosed ∧ ¬ sp2.destroyed ∧ sp2.pend ≠ [] ∧ sp2.acc.isEmpty then
            .error "a buffer is queued, the peer has read everything, yet Step made no send attempt (future stays pending)"
          else
            match sp2.checkState st with
            | .error m => .error m
            | .ok _ => .ok sp2
  | .drain (some (n, h)) =>
    -- the peer may lag behind the OS (it read fewer bytes than were accepted so far): what it read must be
    -- exactly the next bytes of the FIFO concatenation; the rest stays expected
    if n > sp.acc.length ∨ h ≠ (fnv (sp.acc.take n)).toNat then
      .error s!"peer read {n} bytes (hash {h}); the FIFO concatenation of what the OS accepted continues with {sp.acc.length} bytes (hash of the first {min n sp.acc.length}: {fnv (sp.acc.take n)})"
    else .ok { sp with acc := sp.acc.drop n }
  | .drain none => .error "missing wire observation"
  | .peerclose => .ok { sp with peerClosed := true }
  | .destroy st =>
    let sp' := { sp with pend := [], destroyed := true,
                         status := sp.status.map fun (i, c) => if c = 'p' then (i, 'b') else (i, c) }
    match sp'.checkState st with
    | .error m => .error m
    | .ok _ => .ok sp'

def specRun (sp : SpecSt) : List Obs → Except String SpecSt
  | [] => .ok sp
  | o :: os => match specStep sp o with
    | .ok sp' => specRun sp' os
    | .error m => .error m

/-- `specRun` with the operation line attached to each observation, for the message of the check
(`some l`: "after 'l': ..."; `none`: message as it is) -/
def specRunL (sp : SpecSt) : List (Option String × Obs) → Except String SpecSt
  | [] => .ok sp
  | (l, o) :: os => match specStep sp o with
    | .ok sp' => specRunL sp' os
    | .error m => .error (match l with | some l => s!"after '{l}': {m}" | none => m)

/-- the labelled run accepts exactly when `specRun` accepts the observations -/
theorem specRunL_ok (sp : SpecSt) (l : List (Option String × Obs)) (sp' : SpecSt) :
    specRunL sp l = .ok sp' ↔ specRun sp (l.map (·.2)) = .ok sp' := by
  induction l generalizing sp with
  | nil => simp [specRunL, specRun]
  | cons x xs ih =>
    obtain ⟨t, o⟩ := x
    simp only [specRunL, specRun, List.map_cons]
    cases specStep sp o with
    | ok s1 => exact ih s1
    | error m => simp

/-! ## the observations the MODEL produces -/

def letter : Fut → Char
  | .none => '?' | .pending => 'p' | .value => 'v' | .exn => 'e' | .broken => 'b'

/-- the state observation of a model state: futures in creation order, returned buffers -/
def stObs (m : St) : StObs :=
  { futs := String.ofList ((m.enqd.map (·.1)).map fun i => letter (m.fut i)), ret := m.returned }

/-- what the environment contributes to one `Driver::Step(0)` -/
structure Poll where
  /-- `poll` reports the peer's close (only possible once the peer has closed) -/
  hup : Bool
  /-- `poll` reports the socket writable although accepted bytes are still unread by the peer
  (it must report it when the peer has read everything: assumption 3 of `props/c02.py`) -/
  out : Bool
  /-- answer of the OS to the `send()` of this step, if one is made -/
  ans : Ans
  /-- the harness scripted a 0 return -/
  zero : Bool
  deriving Repr

/-- API-level history: what one thread can do with one `SocketTcpAsync` and its driver, together with
everything the environment decides (pool exhaustion, poll readiness, `send()` answers incl. short
writes and failures, how much the peer reads, when it closes) -/
inductive Op where
  | sock (poolN : Nat)
  | send (id : Nat) (bytes : Bytes)
  | nobuf
  | step (p : Poll)
  | drain (n : Nat)
  | peerclose
  | destroy
  deriving Repr

/-- model state + environment: how much of the wire the peer has read, whether it closed -/
structure MSt where
  m : St := {}
  drained : Nat := 0
  peerClosed : Bool := false

/-- `Send` = `DoSendEnqueue` then (if the queue was empty) `AsyncWantSend`, on one thread -/
def mSend (m : St) (id : Nat) (bytes : Bytes) : St := step (step m (.enq 0 id bytes)) (.arm 0)

/-- the `POLLOUT` branch of `DoOneSocketTask`: `DriverOnWritable`, then `events &= ~POLLOUT` if it said so -/
def mWritable (m : St) (a : Ans) : St := step (step m (.writable a)) .disarm

/-- the `send()` call the model makes on front element `e` with answer `a`, as the shim would log it -/
def sysOf (e : Elem) : Ans → Sys
  | .accept k => .sent e.rest.length (min k e.rest.length)
  | .fail => .fail e.rest.length

/-- `SendSome` throws `logic_error` when `send()` returns 0 for a non-empty buffer -/
def thrownOf (e : Elem) : Ans → Option String
  | .accept 0 => if e.rest.length > 0 then some "logic unexpected send result" else none
  | _ => none

def modelObs (c : MSt) : Op → MSt × List Obs
  | .sock n => (c, [.sock n])
  | .nobuf => (c, [.nobuf])
  | .send id bytes =>
    -- not performed on a destroyed socket; ids are labels chosen by the caller, distinct by construction
    if c.m.destroyed ∨ c.m.fut id ≠ .none ∨ 0 ∈ c.m.pendingArm then (c, [])
    else
      let m' := mSend c.m id bytes
      ({ c with m := m' }, [.send id bytes (some (stObs m'))])
  | .step p =>
    if c.m.registered ∧ ¬ c.m.destroyed ∧ c.peerClosed ∧ p.hup then
      -- POLLIN first: receive fails, `DriverDisconnect`: `AsyncUnregister`, disconnect handler
      let m' := step c.m .unregister
      ({ c with m := m' }, [.step p.zero [] false true none (some (stObs m'))])
    else if c.m.registered ∧ c.m.armed ∧ ¬ c.m.destroyed ∧ (p.out ∨ (c.m.wire.length = c.drained ∧ ¬ c.peerClosed)) then
      let m' := mWritable c.m p.ans
      match c.m.q with
      | [] => ({ c with m := m' }, [.step p.zero [] false false none (some (stObs m'))])
      | e :: _ => ({ c with m := m' }, [.step p.zero [sysOf e p.ans] false false (thrownOf e p.ans) (some (stObs m'))])
    else (c, [.step p.zero [] false false none (some (stObs c.m))])
  | .drain n =>
    let k := min n (c.m.wire.length - c.drained)
    ({ c with drained := c.drained + k }, [.drain (some (k, (fnv ((c.m.wire.drop c.drained).take k)).toNat))])
  | .peerclose => ({ c with peerClosed := true }, [.peerclose])
  | .destroy =>
    if c.m.destroyed then (c, [])
    else
      let m' := step c.m .destroy
      ({ c with m := m' }, [.destroy (some (stObs m'))])

def modelTrace (c : MSt) : List Op → List Obs
  | [] => []
  | op :: ops => (modelObs c op).2 ++ modelTrace (modelObs c op).1 ops

def modelRun (c : MSt) : List Op → MSt
  | [] => c
  | op :: ops => modelRun (modelObs c op).1 ops

/-! ## the model satisfies the spec -/

/-- the expected letters of the ideal pipeline = the model's futures, in creation order -/
def statusOf (m : St) : List (Nat × Char) := m.enqd.map fun p => (p.1, letter (m.fut p.1))

@[simp] theorem letter_pending : letter .pending = 'p' := rfl
@[simp] theorem letter_value : letter .value = 'v' := rfl
@[simp] theorem letter_exn : letter .exn = 'e' := rfl
@[simp] theorem letter_broken : letter .broken = 'b' := rfl

theorem letter_resolved {f : Fut} (h : f.resolved = true) : letter f ≠ 'p' := by
  cases f <;> simp [Fut.resolved] at h <;> simp [letter]

/-- the buffers whose future is resolved in the ideal pipeline are exactly the returned ones, in order -/
theorem resolvedIds_eq {m : St} (h : QInv m) (sp : SpecSt) (hs : sp.status = statusOf m) :
    sp.resolvedIds = m.returned := by
  have h1 : (m.done.map fun d => (d.id, letter (m.fut d.id))).filter (fun x => x.2 ≠ 'p') = _ :=
    List.filter_eq_self.mpr fun x hx => by
      obtain ⟨d, hd, rfl⟩ := List.mem_map.mp hx
      simpa using letter_resolved (f := m.fut d.id) (by rw [(h.futd d hd).1]; exact (h.futd d hd).2.1)
  have h2 : (m.q.map fun e => (e.id, letter (m.fut e.id))).filter (fun x => x.2 ≠ 'p') = [] :=
    List.filter_eq_nil_iff.mpr fun x hx => by
      obtain ⟨e, he, rfl⟩ := List.mem_map.mp hx
      simp [h.futq e he]
  rw [SpecSt.resolvedIds, hs, statusOf, h.enqd, List.map_append, List.filter_append, List.map_map, List.map_map]
  simp only [Function.comp_def]
  rw [h1, h2, h.ret]
  simp

theorem sameSet_self (l : List Nat) : sameSet l l = true := by
  simp [sameSet]

/-- the state observation of a model state is accepted by an observer whose expected letters are the
model's futures -/
theorem check_ok {m : St} (h : QInv m) (sp : SpecSt) (hs : sp.status = statusOf m) :
    sp.checkState (some (stObs m)) = .ok () := by
  have hl : (stObs m).futs = sp.letters := by
    simp [stObs, SpecSt.letters, hs, statusOf, List.map_map, Function.comp_def]
  have hr : sameSet (stObs m).ret sp.resolvedIds = true := by
    rw [resolvedIds_eq h sp hs]; exact sameSet_self _
  simp [SpecSt.checkState, hl, hr]

theorem statusOf_upd (enqd : List (Nat × Bytes)) (fut : Nat → Fut) (id : Nat) (v : Fut) :
    (enqd.map fun p => (p.1, letter (fut p.1))).map (fun (i, x) => if i = id then (i, letter v) else (i, x))
      = enqd.map fun p => (p.1, letter (upd fut id v p.1)) := by
  rw [List.map_map]
  apply List.map_congr_left
  intro p _
  simp only [Function.comp_apply, upd]
  split <;> rfl

/-- what relates the observer's book-keeping to the model state between two operations -/
structure Rel (c : MSt) (sp : SpecSt) : Prop where
  inv : QInv c.m
  /-- the driver is not inside `DoOneSocketTask` -/
  idle : c.m.drvDisarm = false
  /-- no `Send` is between its two critical sections -/
  noArm : c.m.pendingArm = []
  pend : sp.pend = c.m.q.map fun e => ⟨e.id, e.rest⟩
  status : sp.status = statusOf c.m
  acc : sp.acc = c.m.wire.drop c.drained
  drained : c.drained ≤ c.m.wire.length
  conn : c.m.registered = (sp.connected && !sp.destroyed)
  destr : sp.destroyed = c.m.destroyed
  closed : sp.peerClosed = c.peerClosed

theorem rel_init : Rel {} {} := by
  refine ⟨inv_init, rfl, rfl, rfl, rfl, rfl, ?_, rfl, rfl, rfl⟩
  simp

theorem specRun_append (sp : SpecSt) (a b : List Obs) :
    specRun sp (a ++ b) = match specRun sp a with | .ok sp' => specRun sp' b | .error e => .error e := by
  induction a generalizing sp with
  | nil => rfl
  | cons o os ih =>
    simp only [List.cons_append, specRun]
    cases specStep sp o with
    | ok s' => exact ih s'
    | error e => rfl

theorem specRun_single {sp sp' : SpecSt} {o : Obs} (h : specStep sp o = .ok sp') : specRun sp [o] = .ok sp' := by
  simp [specRun, h]

/-- the OS does not answer 0 to an unscripted `send()` (a clause of the spec about the kernel, not
about the library: "send() returned 0") -/
def Op.sane : Op → Prop
  | .step p => p.ans = .accept 0 → p.zero = true
  | _ => True

instance : DecidablePred Op.sane := fun op => by
  cases op <;> simp only [Op.sane] <;> infer_instance

/-- `Send` on a live socket between two driver steps -/
theorem mSend_eq {m : St} (id : Nat) (b : Bytes) (hd : m.destroyed = false) (hf : m.fut id = .none)
    (hp : m.pendingArm = []) (hdis : m.drvDisarm = false) :
    mSend m id b = { m with q := m.q ++ [⟨id, [], b⟩], fut := upd m.fut id .pending, enqd := m.enqd ++ [(id, b)],
                            armed := if m.q.isEmpty then m.armed || m.registered else m.armed } := by
  unfold mSend
  cases hq : m.q.isEmpty <;> simp [step, hd, hf, hp, hdis, hq]

theorem ok_send {c : MSt} {sp : SpecSt} (hrel : Rel c sp) (id : Nat) (b : Bytes) :
    ∃ sp', specRun sp (modelObs c (.send id b)).2 = .ok sp' ∧ Rel (modelObs c (.send id b)).1 sp' := by
  simp only [modelObs]
  split
  · exact ⟨sp, rfl, hrel⟩
  · rename_i hc
    simp only [not_or, Decidable.not_not] at hc
    obtain ⟨hd, hf, _⟩ := hc
    have hd' : c.m.destroyed = false := by simpa using hd
    have hinv : QInv (mSend c.m id b) := inv_step (inv_step hrel.inv _) _
    rw [mSend_eq id b hd' hf hrel.noArm hrel.idle] at hinv ⊢
    have hfresh := hrel.inv.fresh hf
    let sp' : SpecSt := { sp with pend := sp.pend ++ [SElem.mk id b], status := sp.status ++ [(id, 'p')] }
    have hst : sp'.status = (c.m.enqd ++ [(id, b)]).map fun p => (p.1, letter (upd c.m.fut id .pending p.1)) := by
      simp only [List.map_append, List.map_cons, List.map_nil, upd_same, sp', letter_pending]
      rw [hrel.status, statusOf]
      congr 1
      apply List.map_congr_left
      intro p hp
      have : p.1 ≠ id := by intro he; apply hfresh; rw [← he]; exact List.mem_map_of_mem hp
      rw [upd_other _ _ _ _ this]
    refine ⟨sp', specRun_single ?_, ?_⟩
    · simp only [specStep]
      rw [check_ok hinv sp' hst]
    · exact ⟨hinv, hrel.idle, hrel.noArm, by simp [sp', hrel.pend], hst, hrel.acc, hrel.drained, hrel.conn,
        hrel.destr, hrel.closed⟩

theorem ok_drain {c : MSt} {sp : SpecSt} (hrel : Rel c sp) (n : Nat) :
    ∃ sp', specRun sp (modelObs c (.drain n)).2 = .ok sp' ∧ Rel (modelObs c (.drain n)).1 sp' := by
  simp only [modelObs]
  have hk : min n (c.m.wire.length - c.drained) ≤ sp.acc.length := by
    rw [hrel.acc, List.length_drop]; exact Nat.min_le_right _ _
  refine ⟨{ sp with acc := sp.acc.drop (min n (c.m.wire.length - c.drained)) }, specRun_single ?_, ?_⟩
  · simp only [specStep]
    rw [if_neg]
    intro h
    rcases h with h | h
    · omega
    · apply h; rw [hrel.acc]
  · refine { hrel with acc := ?_, drained := ?_ }
    · simp [hrel.acc, List.drop_drop]
    · have := hrel.drained
      show c.drained + min n (c.m.wire.length - c.drained) ≤ c.m.wire.length
      omega

theorem ok_destroy {c : MSt} {sp : SpecSt} (hrel : Rel c sp) :
    ∃ sp', specRun sp (modelObs c .destroy).2 = .ok sp' ∧ Rel (modelObs c .destroy).1 sp' := by
  simp only [modelObs]
  split
  · exact ⟨sp, rfl, hrel⟩
  · rename_i hd
    have hd' : c.m.destroyed = false := by simpa using hd
    have hinv : QInv (step c.m .destroy) := inv_step hrel.inv _
    rw [destroy_eq hd' hrel.idle] at hinv ⊢
    let sp' : SpecSt := { sp with pend := [], destroyed := true,
                                  status := sp.status.map fun (i, c) => if c = 'p' then (i, 'b') else (i, c) }
    have hst : sp'.status =
        c.m.enqd.map fun p => (p.1, letter (if c.m.fut p.1 = .pending then .broken else c.m.fut p.1)) := by
      simp only [sp']
      rw [hrel.status, statusOf, List.map_map]
      apply List.map_congr_left
      intro p _
      simp only [Function.comp_apply]
      cases c.m.fut p.1 <;> simp [letter]
    refine ⟨sp', specRun_single ?_, ?_⟩
    · simp only [specStep]
      rw [check_ok hinv sp' hst]
    · exact ⟨hinv, hrel.idle, rfl, rfl, hst, hrel.acc, hrel.drained, (Bool.and_false _).symm, rfl, hrel.closed⟩

/-- the `POLLOUT` branch when it is enabled: flags as before, queue / futures / wire as `driverSend` leaves them -/
theorem mWritable_enabled {m : St} (a : Ans) (hd : m.destroyed = false) (hr : m.registered = true)
    (ha : m.armed = true) (hdis : m.drvDisarm = false) :
    (mWritable m a).drvDisarm = false ∧ (mWritable m a).pendingArm = m.pendingArm ∧
    (mWritable m a).registered = m.registered ∧ (mWritable m a).destroyed = m.destroyed ∧
    (mWritable m a).enqd = m.enqd ∧
    match m.q with
    | [] => (mWritable m a).q = [] ∧ (mWritable m a).fut = m.fut ∧ (mWritable m a).wire = m.wire
    | e :: rest => (mWritable m a).q = (driverSend m e rest a).q ∧ (mWritable m a).fut = (driverSend m e rest a).fut ∧
        (mWritable m a).wire = (driverSend m e rest a).wire := by
  unfold mWritable
  obtain ⟨gdis, gq, gw, gf, _, ge, greg, gdes, gp⟩ := step_disarm_fields (step m (.writable a))
  rw [gdis, gq, gw, gf, ge, greg, gdes, gp, writable_enabled a hd hr ha hdis]
  cases m.q with
  | nil => exact ⟨rfl, rfl, rfl, rfl, rfl, rfl, rfl, rfl⟩
  | cons e rest =>
    obtain ⟨fp, freg, fdes, fe⟩ := driverSend_frame m e rest a
    exact ⟨rfl, fp, freg, fdes, fe, rfl, rfl, rfl⟩

theorem thrownOf_pos (e : Elem) {k : Nat} (hk : k ≠ 0) : thrownOf e (.accept k) = none := by
  cases k with
  | zero => exact absurd rfl hk
  | succ k => rfl

theorem thrownOf_full (e : Elem) {k : Nat} (hk : e.rest.length ≤ k) : thrownOf e (.accept k) = none := by
  cases k with
  | zero =>
    have : e.rest.length = 0 := by omega
    simp [thrownOf, this]
  | succ k => rfl

theorem thrownOf_zero (e : Elem) (h : 0 < e.rest.length) : thrownOf e (.accept 0) = some "logic unexpected send result" := by
  simp [thrownOf, h]

/-- one `send()` on the front buffer: the ideal pipeline of the spec makes the move `driverSend` makes
(pop with a value / pop with an exception / erase the accepted prefix / nothing on a scripted zero) -/
theorem sys_driverSend {m : St} {sp : SpecSt} {n : Nat} {e : Elem} {rest : List Elem} (a : Ans) {zero : Bool}
    (hq : m.q = e :: rest) (hpend : sp.pend = m.q.map fun e => ⟨e.id, e.rest⟩) (hst : sp.status = statusOf m)
    (hacc : sp.acc = m.wire.drop n) (hn : n ≤ m.wire.length) (hz : a = .accept 0 → zero = true) :
    ∃ sp1, sp.sys zero (sysOf e a) = .ok sp1 ∧ stepThrow zero [sysOf e a] (thrownOf e a) = none ∧
      sp1.pend = (driverSend m e rest a).q.map (fun e => ⟨e.id, e.rest⟩) ∧
      sp1.status = m.enqd.map (fun p => (p.1, letter ((driverSend m e rest a).fut p.1))) ∧
      sp1.acc = (driverSend m e rest a).wire.drop n ∧ n ≤ (driverSend m e rest a).wire.length ∧
      sp1.connected = sp.connected ∧ sp1.destroyed = sp.destroyed ∧ sp1.peerClosed = sp.peerClosed := by
  have hpop : ∀ (v : Fut), sp.status.map (fun (i, x) => if i = e.id then (i, letter v) else (i, x)) =
      m.enqd.map (fun p => (p.1, letter (upd m.fut e.id v p.1))) := by
    intro v; rw [hst]; exact statusOf_upd _ _ _ v
  rw [hq] at hpend
  cases a with
  | fail =>
    exact ⟨({ sp with pend := rest.map fun (e : Elem) => (⟨e.id, e.rest⟩ : SElem) }).setStatus e.id 'e',
      by simp [SpecSt.sys, hpend, sysOf], rfl, rfl, hpop .exn, hacc, hn, rfl, rfl, rfl⟩
  | accept k =>
    by_cases hk : e.rest.length ≤ k
    · -- the whole remainder was accepted: value, pop
      rw [show driverSend m e rest (.accept k) = _ from if_pos hk]
      refine ⟨({ sp with pend := rest.map fun (e : Elem) => (⟨e.id, e.rest⟩ : SElem),
                          acc := sp.acc ++ e.rest }).setStatus e.id 'v',
        ?_, ?_, rfl, hpop .value, ?_, ?_, rfl, rfl, rfl⟩
      · simp [SpecSt.sys, hpend, sysOf, Nat.min_eq_right hk]
      · rw [thrownOf_full e hk]; rfl
      · show sp.acc ++ e.rest = _
        rw [List.drop_append_of_le_length hn, hacc]
      · show n ≤ (m.wire ++ e.rest).length
        rw [List.length_append]; omega
    · rw [show driverSend m e rest (.accept k) = _ from if_neg hk]
      have hmin : min k e.rest.length = k := Nat.min_eq_left (by omega)
      by_cases hk0 : k = 0
      · -- scripted 0 return for a non-empty buffer: `logic_error` leaves Step, nothing changes
        subst hk0
        have hlen : 0 < e.rest.length := by omega
        have hzero : zero = true := hz rfl
        rw [if_pos rfl]
        refine ⟨{ sp with pend := ⟨e.id, e.rest.drop 0⟩ :: rest.map (fun (e : Elem) => (⟨e.id, e.rest⟩ : SElem)),
                          acc := sp.acc ++ e.rest.take 0 }, ?_, ?_, ?_, hst, ?_, hn, rfl, rfl, rfl⟩
        · simp [SpecSt.sys, hpend, sysOf, hzero, Nat.ne_of_lt hlen]
        · rw [thrownOf_zero e hlen]
          simp [stepThrow, sysOf, hzero, hlen]
        · simp [hq]
        · simp [hacc]
      · -- partial write: the accepted prefix is erased, the buffer stays at the front
        rw [if_neg hk0]
        refine ⟨{ sp with pend := ⟨e.id, e.rest.drop k⟩ :: rest.map (fun (e : Elem) => (⟨e.id, e.rest⟩ : SElem)),
                          acc := sp.acc ++ e.rest.take k }, ?_, ?_, rfl, hst, ?_, ?_, rfl, rfl, rfl⟩
        · have h1 : ¬ (k > e.rest.length) := by omega
          have h2 : ¬ (k = e.rest.length) := by omega
          simp [SpecSt.sys, hpend, sysOf, hmin, h1, h2, hk0]
        · rw [thrownOf_pos e hk0]; rfl
        · show sp.acc ++ e.rest.take k = _
          rw [List.drop_append_of_le_length hn, hacc]
        · show n ≤ (m.wire ++ e.rest.take k).length
          rw [List.length_append]; omega

theorem statusOf_congr {m m' : St} (he : m'.enqd = m.enqd) (hf : m'.fut = m.fut) : statusOf m' = statusOf m := by
  simp [statusOf, he, hf]

/-- a step with exactly one `send()`, no handler -/
theorem specStep_send1 {sp sp1 : SpecSt} {zero : Bool} {y : Sys} {thrown : Option String} {st : Option StObs}
    (h1 : sp.sys zero y = .ok sp1) (ht : stepThrow zero [y] thrown = none) (hc : sp1.checkState st = .ok ()) :
    specStep sp (.step zero [y] false false thrown st) = .ok sp1 := by
  simp [specStep, SpecSt.sysAll, h1, ht, hc]

/-- a step without `send()` and without handler: accepted unless the socket is live, a buffer is queued and the
peer has read everything -/
theorem specStep_idle {sp : SpecSt} {zero : Bool} {st : Option StObs}
    (hlive : ¬ (sp.connected = true ∧ sp.peerClosed = false ∧ sp.destroyed = false ∧ ¬ sp.pend = [] ∧ sp.acc = []))
    (hc : sp.checkState st = .ok ()) : specStep sp (.step zero [] false false none st) = .ok sp := by
  simp [specStep, SpecSt.sysAll, stepThrow]
  rw [if_neg hlive, hc]

theorem rel_of_writable {c : MSt} {sp sp' : SpecSt} {m' : St} (hrel : Rel c sp) (hinv : QInv m')
    (hdis : m'.drvDisarm = false) (hp : m'.pendingArm = c.m.pendingArm) (hreg : m'.registered = c.m.registered)
    (hdes : m'.destroyed = c.m.destroyed) (hpend : sp'.pend = m'.q.map fun e => ⟨e.id, e.rest⟩)
    (hst : sp'.status = statusOf m') (hacc : sp'.acc = m'.wire.drop c.drained) (hdr : c.drained ≤ m'.wire.length)
    (hconn : sp'.connected = sp.connected) (hd : sp'.destroyed = sp.destroyed) (hpc : sp'.peerClosed = sp.peerClosed) :
    Rel { c with m := m' } sp' :=
  ⟨hinv, hdis, by rw [hp]; exact hrel.noArm, hpend, hst, hacc, hdr, by rw [hreg, hconn, hd]; exact hrel.conn,
    by rw [hd, hdes]; exact hrel.destr, by rw [hpc]; exact hrel.closed⟩

theorem ok_step {c : MSt} {sp : SpecSt} (hrel : Rel c sp) (p : Poll) (hs : p.ans = .accept 0 → p.zero = true) :
    ∃ sp', specRun sp (modelObs c (.step p)).2 = .ok sp' ∧ Rel (modelObs c (.step p)).1 sp' := by
  obtain ⟨hup, out, ans, zero⟩ := p
  simp only [modelObs] at hs ⊢
  split
  · -- the peer's close is noticed: unregister, disconnect handler
    rename_i h
    obtain ⟨hreg, hdes, hpc, _⟩ := h
    have hd' : c.m.destroyed = false := by simpa using hdes
    have hinv : QInv (step c.m .unregister) := inv_step hrel.inv _
    rw [unregister_eq hd' hrel.idle] at hinv ⊢
    have hpc' : sp.peerClosed = true := by rw [hrel.closed]; exact hpc
    refine ⟨{ sp with connected := false }, specRun_single ?_,
      ⟨hinv, hrel.idle, hrel.noArm, hrel.pend, hrel.status, hrel.acc, hrel.drained, rfl, hrel.destr, hrel.closed⟩⟩
    simp [specStep, SpecSt.sysAll, stepThrow, hpc']
    rw [check_ok hinv]
    exact hrel.status
  · split
    · -- POLLOUT: `DriverOnWritable`, one `send()` on the front buffer
      rename_i _ h
      obtain ⟨hreg, harm, hdes, _⟩ := h
      have hd' : c.m.destroyed = false := by simpa using hdes
      have hinv : QInv (mWritable c.m ans) := inv_step (inv_step hrel.inv _) _
      obtain ⟨gdis, gp, greg, gdes, ge, gcore⟩ := mWritable_enabled ans hd' hreg harm hrel.idle
      cases hq : c.m.q with
      | nil =>
        simp only [hq] at gcore
        obtain ⟨gq, gf, gw⟩ := gcore
        have hpend : sp.pend = [] := by rw [hrel.pend, hq]; rfl
        have hst : sp.status = statusOf (mWritable c.m ans) := by
          rw [statusOf_congr ge gf]; exact hrel.status
        exact ⟨sp, specRun_single (specStep_idle (fun h => h.2.2.2.1 hpend) (check_ok hinv _ hst)),
          rel_of_writable hrel hinv gdis gp greg gdes (by rw [gq, hpend]; rfl) hst
            (by rw [gw]; exact hrel.acc) (by rw [gw]; exact hrel.drained) rfl rfl rfl⟩
      | cons e rest =>
        simp only [hq] at gcore
        obtain ⟨gq, gf, gw⟩ := gcore
        obtain ⟨sp1, h1, ht, hpend, hst, hacc, hn, hc, hd, hpc⟩ :=
          sys_driverSend ans hq hrel.pend hrel.status hrel.acc hrel.drained hs
        rw [← gq] at hpend
        rw [← gw] at hacc hn
        rw [← gf, ← ge] at hst
        exact ⟨sp1, specRun_single (specStep_send1 h1 ht (check_ok hinv _ hst)),
          rel_of_writable hrel hinv gdis gp greg gdes hpend hst hacc hn hc hd hpc⟩
    · -- nothing to do for this socket
      rename_i hnhup hnw
      refine ⟨sp, specRun_single (specStep_idle ?_ (check_ok hrel.inv sp hrel.status)), hrel⟩
      intro ⟨hc, hpc, hdes', hpend, hacc⟩
      apply hnw
      have hreg : c.m.registered = true := by rw [hrel.conn, hc, hdes']; rfl
      have hq : c.m.q ≠ [] := by
        intro hq; apply hpend; rw [hrel.pend, hq]; rfl
      have harm : c.m.armed = true := by
        rcases hrel.inv.armedInv hreg hq with h | h
        · exact h
        · exact absurd hrel.noArm h
      refine ⟨hreg, harm, by rw [← hrel.destr, hdes']; simp, Or.inr ⟨?_, by rw [← hrel.closed, hpc]; simp⟩⟩
      have h1 : (c.m.wire.drop c.drained).length = 0 := by
        rw [← hrel.acc, hacc]; rfl
      rw [List.length_drop] at h1
      have := hrel.drained
      omega

/-- one operation: the spec accepts the model's observations and the relation is re-established -/
theorem spec_step_ok {c : MSt} {sp : SpecSt} (hrel : Rel c sp) (op : Op) (hs : op.sane) :
    ∃ sp', specRun sp (modelObs c op).2 = .ok sp' ∧ Rel (modelObs c op).1 sp' := by
  cases op with
  | sock n =>
    exact ⟨{ sp with poolN := n }, rfl, { hrel with }⟩
  | nobuf => exact ⟨sp, rfl, hrel⟩
  | send id b => exact ok_send hrel id b
  | step p => exact ok_step hrel p hs
  | drain n => exact ok_drain hrel n
  | peerclose =>
    exact ⟨{ sp with peerClosed := true }, rfl, { hrel with closed := rfl }⟩
  | destroy => exact ok_destroy hrel

/-- **The property predicate that the check evaluates on the implementation is a theorem of the
model**: for every history of `Send`s (any ids and contents, empty buffers included), driver steps with
arbitrary poll readiness and arbitrary answers of the OS to the `send()` (full, every short count,
failure, scripted zero), peer reads of any size, peer close, pool exhaustion and destruction, in any
order and of any length, the model's own observations are accepted by every clause of `Spec.C02`:
futures exactly those of the ideal FIFO pipeline after every operation (value only when this and all
earlier buffers were accepted completely, exception exactly for the buffer whose `send()` failed,
broken exactly for those pending at destruction, never changing afterwards), buffers back in the pool
exactly those with a resolved future, the peer's byte stream the FIFO concatenation of what the OS
accepted, at most one `send()` per step and only with a buffer queued, no handler without cause, no
exception out of `Step` except for the scripted zero, and a `send()` attempt whenever a buffer is
queued on a connected socket whose peer has read everything ("does not stay pending").

The only hypothesis is about the kernel, not the library: an unscripted `send()` does not answer 0
(`Op.sane`; the spec has a clause "send() returned 0" for it). -/
theorem model_satisfies_spec (ops : List Op) (hs : ∀ op ∈ ops, op.sane) :
    ∃ sp, specRun {} (modelTrace {} ops) = .ok sp := by
  suffices H : ∀ (c : MSt) (sp : SpecSt), Rel c sp → ∃ sp', specRun sp (modelTrace c ops) = .ok sp' from
    H {} {} rel_init
  induction ops with
  | nil => intro c sp _; exact ⟨sp, rfl⟩
  | cons op ops ih =>
    intro c sp hrel
    obtain ⟨sp1, h1, hrel1⟩ := spec_step_ok hrel op (hs op (by simp))
    obtain ⟨sp2, h2⟩ := ih (fun o ho => hs o (by simp [ho])) _ sp1 hrel1
    refine ⟨sp2, ?_⟩
    simp only [modelTrace]
    rw [specRun_append, h1]
    exact h2

/-- the same for the labelled run the driver uses -/
theorem model_satisfies_specL (ops : List Op) (hs : ∀ op ∈ ops, op.sane) (label : Obs → Option String) :
    ∃ sp, specRunL {} ((modelTrace {} ops).map fun o => (label o, o)) = .ok sp := by
  obtain ⟨sp, h⟩ := model_satisfies_spec ops hs
  refine ⟨sp, (specRunL_ok _ _ _).mpr ?_⟩
  simpa [List.map_map, Function.comp_def] using h

/-- a concrete history: partial write, scripted zero (exception out of Step), lagging
peer, failed send of an empty buffer, queue runs empty and is refilled, pool exhausted, a step while the
kernel reports "not writable", peer close noticed by a step, Send on the unregistered socket, destroy
with a pending buffer, a step afterwards -/
def specDemo : List Op :=
  [.sock 2, .send 1 [1, 2, 3], .send 2 [], .step ⟨false, false, .accept 2, false⟩,
   .step ⟨false, true, .accept 0, true⟩, .drain 1, .step ⟨false, true, .accept 7, false⟩,
   .step ⟨false, true, .fail, false⟩, .send 3 [9], .nobuf, .step ⟨false, false, .accept 1, false⟩, .drain 5,
   .step ⟨false, false, .accept 1, false⟩, .peerclose, .send 4 [4, 4], .step ⟨true, false, .accept 1, false⟩,
   .step ⟨false, true, .accept 1, false⟩, .destroy, .step ⟨false, true, .accept 1, false⟩]

end SockModel.AsyncQ
