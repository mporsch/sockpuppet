import SockModel.Model.PoolLemmas
import SockModel.Basic.ListLemmas
/-!
# Spec.C10 - the property as an executable predicate over observations, and the proof that the
model satisfies it for every history

`specStep` is what `./check C10` evaluates on the IMPLEMENTATION's transcript (the driver calls these
very functions).  It mentions no model state: only `N`, `reserve` and what was observed
(`ord` = identity of the buffer handed out, `size()`, `capacity()`).  `model_satisfies_spec` shows
that the model can never be flagged by it - so a flag on the implementation is a genuine difference
between implementation and model, and the clauses are consequences of the model's definitions for
all histories of any length.
-/
namespace SockModel.Pool

inductive Obs where
  | getOk (ord size cap : Nat)
  | getThrow
  | rel (ord : Nat)
  | fill (ord n : Nat)
  deriving Repr

structure SpecSt where
  out : List Nat := []       -- buffers outstanding (observation side)
  known : List Nat := []     -- buffers ever seen

/-- `none` = accepted -/
def specGetOk (n r : Nat) (s : SpecSt) (ord size cap : Nat) : Option String :=
  if s.out.contains ord then some s!"buffer {ord} handed out while still outstanding"
  else if size ≠ 0 then some s!"buffer {ord} not empty (size {size})"
  else if n > 0 ∧ s.out.length + 1 > n then some s!"more than N={n} buffers outstanding"
  else if n > 0 ∧ cap < r then some s!"pre-allocated buffer {ord} lacks reserved capacity ({cap} < {r})"
  else if ¬ s.known.contains ord ∧ (s.known.any fun k => ¬ s.out.contains k) then
    some s!"new buffer {ord} created while an idle one exists"
  else if n > 0 ∧ ¬ s.known.contains ord ∧ s.known.length ≥ n then
    some s!"pre-allocated pool allocated buffer {ord} after construction"
  else none

def specGetThrow (n : Nat) (s : SpecSt) : Option String :=
  if n = 0 then some "unlimited pool refused a Get"
  else if s.out.length < n then some s!"Get refused with only {s.out.length} of N={n} outstanding"
  else none

def specStep (n r : Nat) (s : SpecSt) : Obs → Except String SpecSt
  | .getOk ord size cap =>
    match specGetOk n r s ord size cap with
    | some msg => .error msg
    | none => .ok { out := s.out ++ [ord], known := if s.known.contains ord then s.known else s.known ++ [ord] }
  | .getThrow => match specGetThrow n s with | some msg => .error msg | none => .ok s
  | .rel ord => .ok { s with out := s.out.erase ord }
  | .fill _ _ => .ok s

def specRun (n r : Nat) (s : SpecSt) : List Obs → Except String SpecSt
  | [] => .ok s
  | o :: os => match specStep n r s o with | .ok s' => specRun n r s' os | .error e => .error e

/-- the observations the MODEL produces for a history -/
def modelObs (p : Pool) : Op → Pool × List Obs
  | .get => match get p with
    | .ok b p' => (p', [.getOk b (p'.len b) (p'.cap b)])
    | .outOfBuffers => (p, [.getThrow])
  | .rel b => match recycle p b with | some p' => (p', [.rel b]) | none => (p, [])
  | .fill b m => (fill p b m, [.fill b m])

def modelTrace (p : Pool) : List Op → List Obs
  | [] => []
  | op :: ops => (modelObs p op).2 ++ modelTrace (modelObs p op).1 ops

/-- what relates the observer's book-keeping to the model state -/
structure Rel (n : Nat) (p : Pool) (s : SpecSt) : Prop where
  out : s.out = p.busy
  knownBusy : ∀ b ∈ p.busy, b ∈ s.known
  knownLt : ∀ b ∈ s.known, b < p.next
  knownNodup : s.known.Nodup
  /-- the idle stack holds the buffers seen before on top of the never-used ones -/
  shape : ∃ k, (∀ b ∈ p.idle.take k, b ∈ s.known) ∧ (∀ b ∈ p.idle.drop k, b ∉ s.known)
  /-- every buffer ever allocated is idle or busy (the pool frees nothing before its destruction) -/
  complete : ∀ b, b < p.next → b ∈ p.idle ++ p.busy

theorem nodup_lt_length (l : List Nat) (n : Nat) (hnd : l.Nodup) (hlt : ∀ x ∈ l, x < n) : l.length ≤ n := by
  simpa using hnd.length_le_of_subset (l₂ := List.range n) fun x hx => List.mem_range.mpr (hlt x hx)

theorem rel_create (n r : Nat) : Rel n (create n r) {} := by
  refine ⟨rfl, by simp [create], by simp, List.nodup_nil, ⟨0, by simp, by simp⟩, ?_⟩
  intro b hb
  simp [create] at hb ⊢
  exact hb

theorem Rel.of_eq {n : Nat} {p q : Pool} {s : SpecSt} (h : Rel n p s) (hi : q.idle = p.idle) (hb : q.busy = p.busy)
    (hx : q.next = p.next) : Rel n q s := by
  obtain ⟨hout, hkb, hklt, hknd, hshape, hcomp⟩ := h
  exact ⟨by rw [hb]; exact hout, by rw [hb]; exact hkb, by rw [hx]; exact hklt, hknd, by rw [hi]; exact hshape,
    by rw [hx, hi, hb]; exact hcomp⟩

theorem contains_iff {l : List Nat} {x : Nat} : l.contains x = true ↔ x ∈ l := by simp

/-- popping the head moves the boundary of `Rel.shape` down by one (or leaves it at 0) -/
theorem mem_take_drop_cons {a x : Nat} {l : List Nat} (k : Nat) :
    (x ∈ l.take (k - 1) → x ∈ (a :: l).take k) ∧ (x ∈ l.drop (k - 1) → x ∈ (a :: l).drop k) := by
  cases k with
  | zero => exact ⟨fun h => by simp at h, fun h => List.mem_cons_of_mem _ (by simpa using h)⟩
  | succ k => exact ⟨fun h => List.mem_cons_of_mem _ h, fun h => h⟩

theorem specGetOk_none {n r : Nat} {s : SpecSt} {ord cap : Nat}
    (hout : ord ∉ s.out) (hlim : 0 < n → s.out.length < n) (hcap : 0 < n → r ≤ cap)
    (hidle : ord ∉ s.known → ∀ k ∈ s.known, k ∈ s.out)
    (hpre : 0 < n → ord ∉ s.known → s.known.length < n) :
    specGetOk n r s ord 0 cap = none := by
  unfold specGetOk
  rw [if_neg (by simpa using hout), if_neg (by simp), if_neg fun h => by have := hlim h.1; omega,
    if_neg fun h => by have := hcap h.1; omega, if_neg ?_, if_neg ?_]
  · intro ⟨hp, hk, hge⟩
    have := hpre hp (by simpa using hk)
    omega
  · intro ⟨hk, hany⟩
    obtain ⟨x, hx, hxo⟩ := List.any_eq_true.mp hany
    simp only [contains_iff, decide_not, Bool.not_eq_true', decide_eq_false_iff_not] at hk hxo
    exact hxo (hidle hk x hx)

theorem rel_get {n r : Nat} (hn : n < sizeMax) {p p' : Pool} {s : SpecSt} {b : BufId}
    (hinv : PoolInv n r p) (hrel : Rel n p s) (hg : get p = .ok b p') :
    specGetOk n r s b (p'.len b) (p'.cap b) = none ∧
      Rel n p' { out := s.out ++ [b], known := if s.known.contains b then s.known else s.known ++ [b] } := by
  obtain ⟨hout, hkb, hklt, hknd, ⟨k, hk1, hk2⟩, hcomp⟩ := hrel
  have hinv' := inv_get hn hinv hg
  obtain ⟨hfresh, hlim⟩ := hinv.get_ok hn hg
  have hkb' : ∀ x ∈ p.busy ++ [b], x ∈ (if s.known.contains b then s.known else s.known ++ [b]) :=
    fun x hx => mem_addIfNew.mpr ((List.mem_append.mp hx).imp (hkb x) List.mem_singleton.mp)
  rw [get_ok_len hg]
  rcases get_ok_cases hg with ⟨rest, hi, rfl⟩ | ⟨hi, hle, rfl, rfl⟩
  · -- reuse of the top of the idle stack
    have hblt : b < p.next := hinv.below b (List.mem_append_left _ (hi ▸ List.mem_cons_self))
    have hbrest : b ∉ rest := by
      have hnd := hinv.nodup
      rw [hi, List.cons_append] at hnd
      exact fun h => (List.nodup_cons.mp hnd).1 (List.mem_append_left _ h)
    -- if `b` is new to the observer then nothing the observer knows is idle
    have hnew : b ∉ s.known → ∀ x ∈ s.known, x ∈ s.out := by
      intro hbk x hx
      rcases List.mem_append.mp (hcomp x (hklt x hx)) with h | h
      · cases k with
        | zero => exact absurd hx (hk2 x (by simpa using h))
        | succ k => exact absurd (hk1 b (by rw [hi]; exact List.mem_cons_self)) hbk
      · exact hout ▸ h
    have hlimit : 0 < n → s.out.length < n := fun hpos => by
      have := (hinv.conserv hpos).1
      rw [hi, List.length_cons, ← hout] at this
      omega
    -- a buffer of a limited pool that the observer has not seen leaves room among the `n` known ones
    have hprealloc : 0 < n → b ∉ s.known → s.known.length < n := fun hpos hbk => by
      have hnext := (hinv.conserv hpos).2
      have := nodup_lt_length (b :: s.known) n (List.nodup_cons.mpr ⟨hbk, hknd⟩) fun x hx => by
        rcases List.mem_cons.mp hx with rfl | hx
        · omega
        · exact hnext ▸ hklt x hx
      exact Nat.lt_of_succ_le (by simpa using this)
    exact ⟨specGetOk_none (hout ▸ hfresh) hlimit (fun hpos => hinv'.capRes hpos b (hlim hpos).2.1) hnew hprealloc,
      { out := by simp only [hout]
        knownBusy := hkb'
        knownLt := fun x hx => (mem_addIfNew.mp hx).elim (hklt x) (· ▸ hblt)
        knownNodup := nodup_addIfNew hknd
        shape := ⟨k - 1, fun x hx => mem_addIfNew.mpr (.inl (hk1 x (hi ▸ (mem_take_drop_cons k).1 hx))),
          fun x hx hm => (mem_addIfNew.mp hm).elim (hk2 x (hi ▸ (mem_take_drop_cons k).2 hx))
            (fun e => hbrest (e ▸ List.mem_of_mem_drop hx))⟩
        complete := fun x hx => (perm_reuse hi).mem_iff.mpr (hcomp x hx) }⟩
  · -- allocation: nothing is idle, and the pool has no limit
    obtain rfl : n = 0 := Nat.eq_zero_of_not_pos fun hpos => (hinv.idle_nil_full hpos hn hi).2 hle
    have hno : ¬ 0 < 0 := Nat.lt_irrefl 0
    have hnew : ∀ x ∈ s.known, x ∈ s.out := fun x hx => by
      have := hcomp x (hklt x hx)
      rwa [hi, List.nil_append, ← hout] at this
    exact ⟨specGetOk_none (hout ▸ hfresh) (absurd · hno) (absurd · hno) (fun _ => hnew) (absurd · hno),
      { out := by simp only [hout]
        knownBusy := hkb'
        knownLt := fun x hx => (mem_addIfNew.mp hx).elim (fun h => Nat.lt_succ_of_lt (hklt x h)) (· ▸ Nat.lt_succ_self _)
        knownNodup := nodup_addIfNew hknd
        shape := ⟨0, fun _ h => absurd h List.not_mem_nil, fun x hx => absurd (hi ▸ hx) List.not_mem_nil⟩
        complete := fun x hx => (perm_alloc p).mem_iff.mpr ((Nat.lt_succ_iff_lt_or_eq.mp hx).elim
          (fun h => List.mem_cons_of_mem _ (hcomp x h)) (· ▸ List.mem_cons_self)) }⟩

/-- one operation: the spec accepts the model's observations and the relation is re-established.
`hsmall`: an unlimited pool has `maxM1 = 2^64 - 1` and must never refuse, so fewer than that many buffers are out -/
theorem spec_step_ok {n r : Nat} (hn : n < sizeMax) {p : Pool} {s : SpecSt} (hinv : PoolInv n r p) (hrel : Rel n p s)
    (hsmall : p.busy.length < sizeMax - 1) (op : Op) :
    ∃ s', specRun n r s (modelObs p op).2 = .ok s' ∧ Rel n (modelObs p op).1 s' ∧ PoolInv n r (modelObs p op).1 := by
  cases op with
  | fill b m =>
    exact ⟨s, rfl, hrel.of_eq (fill_idle p b m) (fill_busy p b m) (fill_next p b m), inv_fill b m hinv⟩
  | rel b =>
    simp only [modelObs]
    cases hr : recycle p b with
    | none => exact ⟨s, rfl, hrel, hinv⟩
    | some p' =>
      obtain ⟨hout, hkb, hklt, hknd, ⟨k, hk1, hk2⟩, hcomp⟩ := hrel
      have hinv' := inv_recycle hinv hr
      obtain ⟨hmem, rfl⟩ := recycle_some hr
      exact ⟨{ s with out := s.out.erase b }, rfl,
        { out := by simp only [hout]
          knownBusy := fun x hx => hkb x (List.mem_of_mem_erase hx)
          knownLt := hklt
          knownNodup := hknd
          -- the released buffer goes on top of the idle stack, and the observer has seen it
          shape := ⟨k + 1, fun x hx => (List.mem_cons.mp hx).elim (· ▸ hkb b hmem) (hk1 x), fun x hx => hk2 x hx⟩
          complete := fun x hx => (perm_recycle hmem).mem_iff.mpr (hcomp x hx) }, hinv'⟩
  | get =>
    simp only [modelObs]
    cases hg : get p with
    | outOfBuffers =>
      -- refused: only a full limited pool refuses
      obtain ⟨hidle, hfull⟩ := get_out hg
      have hnpos : 0 < n := by
        rcases Nat.eq_zero_or_pos n with rfl | hp
        · have hm := hinv.maxM1
          rw [maxM1_zero] at hm
          omega
        · exact hp
      have hl : s.out.length = n := hrel.out ▸ (hinv.idle_nil_full hnpos hn hidle).1
      refine ⟨s, ?_, hrel, hinv⟩
      simp only [specRun, specStep, specGetThrow]
      rw [if_neg (by omega), if_neg (by omega)]
    | ok b p' =>
      obtain ⟨hspec, hrel'⟩ := rel_get hn hinv hrel hg
      exact ⟨_, by simp only [specRun, specStep, hspec], hrel', inv_get hn hinv hg⟩

theorem specRun_append (n r : Nat) (s : SpecSt) (a b : List Obs) :
    specRun n r s (a ++ b) = match specRun n r s a with | .ok s' => specRun n r s' b | .error e => .error e := by
  induction a generalizing s with
  | nil => rfl
  | cons o os ih =>
    simp only [List.cons_append, specRun]
    cases specStep n r s o with
    | ok s' => exact ih s'
    | error e => rfl

theorem busy_growth (p : Pool) (op : Op) : (modelObs p op).1.busy.length ≤ p.busy.length + 1 := by
  cases op with
  | get =>
    simp only [modelObs]
    cases hg : get p with
    | outOfBuffers => exact Nat.le_succ _
    | ok b p' => simp [get_ok_busy hg]
  | rel b =>
    simp only [modelObs]
    cases hr : recycle p b with
    | none => exact Nat.le_succ _
    | some p' =>
      obtain ⟨_, rfl⟩ := recycle_some hr
      exact Nat.le_succ_of_le List.length_erase_le
  | fill b m => simp [modelObs]

/-- **The property predicate that the check evaluates on the implementation is a theorem of the
model**: for every pool `(N, reserve)` and every history of Get / release (any order) / user-fill
operations of any length (shorter than 2^64), the model's own observations are accepted by every
clause of `Spec.C10` - limit, refusal only when full, freshness, emptiness, reserved capacity, no
new buffer while an idle one exists, no allocation after construction. -/
theorem model_satisfies_spec (n r : Nat) (hn : n < sizeMax) (ops : List Op) (hlen : ops.length < sizeMax - 1) :
    ∃ s, specRun n r {} (modelTrace (create n r) ops) = .ok s := by
  suffices H : ∀ (p : Pool) (s : SpecSt), PoolInv n r p → Rel n p s → p.busy.length + ops.length < sizeMax - 1 →
      ∃ s', specRun n r s (modelTrace p ops) = .ok s' by
    exact H _ _ (inv_create n r) (rel_create n r) (by simpa [create] using hlen)
  induction ops with
  | nil => intro p s _ _ _; exact ⟨s, rfl⟩
  | cons op ops ih =>
    intro p s hinv hrel hsmall
    simp only [List.length_cons] at hsmall
    obtain ⟨s1, h1, hrel1, hinv1⟩ := spec_step_ok hn hinv hrel (by omega) op
    have hg := busy_growth p op
    obtain ⟨s2, h2⟩ := ih (by simp only [List.length_cons] at hlen; omega) _ s1 hinv1 hrel1 (by omega)
    refine ⟨s2, ?_⟩
    simp only [modelTrace]
    rw [specRun_append, h1]
    exact h2

end SockModel.Pool
