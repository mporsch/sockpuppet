import SockModel.Model.UriLemmas
/-!
A *declarative reading* of the three regular expressions of the pinned commit
(src/address_impl.cpp before fix F4, kept verbatim in harness/legacy/legacy_uri.h):

```
reServ        ((^\w+)?://)?([^/]+)/?.*$
rePortBracket ^\[(.*)\]:(\d+$)
rePort        (^[^:]+):(\d+$)
```

read with ECMAScript semantics in the "C" locale: `regex_match` matches the whole input,
quantifiers are greedy, an optional group is tried first (leftmost alternative first),
`.` excludes the line terminators LF and CR, `\w = [A-Za-z0-9_]`, `\d = [0-9]`.

The reading is relational: which decompositions `s = scheme ++ "://" ++ host ++ rest` exist,
and which of them the priority rules select (optional group present if any such match exists;
longest host among the candidates).  For the two port expressions the decomposition is unique.
`RegexDissects s d` is the result of `UriDissect` of the pinned commit on a matching input.

The lemmas below prove that the plain-scan functions of `Model/Uri.lean` compute exactly this
relation; the property theorem `dissect_refines_regex` is in `Props/C11.lean`.
-/
namespace SockModel.Uri.Regex
open SockModel.Decimal SockModel.Uri

/-- `([^/]+)/?.*$` anchored at the start of `r`, capture `h` -/
def HostPath (r h : Bytes) : Prop :=
  h ≠ [] ∧ (0x2f : UInt8) ∉ h ∧
  ∃ sl tail, r = h ++ sl ++ tail ∧ (sl = [] ∨ sl = [0x2f]) ∧ hasLineBreak tail = false

/-- group 1 `((^\w+)?://)` participates with scheme `w` (`w = []`: group 2 did not participate),
followed by `HostPath` -/
def SchemeMatch (s w h : Bytes) : Prop :=
  (∀ c ∈ w, isWord c = true) ∧ ∃ r, s = w ++ 0x3a :: 0x2f :: 0x2f :: r ∧ HostPath r h

/-- `reServ` with the priorities of a backtracking matcher: `(serv, h)` = (group 2, group 3) -/
def ReServ (s serv h : Bytes) : Prop :=
  (SchemeMatch s serv h ∧ ∀ w' h', SchemeMatch s w' h' → h'.length ≤ h.length) ∨
  ((¬ ∃ w' h', SchemeMatch s w' h') ∧ serv = [] ∧ HostPath s h ∧ ∀ h', HostPath s h' → h'.length ≤ h.length)

/-- `rePortBracket` -/
def BracketMatch (u h d : Bytes) : Prop :=
  u = 0x5b :: (h ++ 0x5d :: 0x3a :: d) ∧ hasLineBreak h = false ∧ isDigits d = true

/-- `rePort` -/
def PlainMatch (u h d : Bytes) : Prop :=
  u = h ++ 0x3a :: d ∧ h ≠ [] ∧ (0x3a : UInt8) ∉ h ∧ isDigits d = true

/-- `rePortBracket || rePort` (short-circuit: the bracket form first) -/
def RePort (u h d : Bytes) : Prop :=
  BracketMatch u h d ∨ ((¬ ∃ h' d', BracketMatch u h' d') ∧ PlainMatch u h d)

/-- what the pinned `UriDissect` computes on `s` -/
def RegexDissects (s : Bytes) (d : Dissect) : Prop :=
  ∃ serv u, ReServ s serv u ∧
    ((d.numeric = true ∧ RePort u d.host d.serv) ∨
     (d.numeric = false ∧ (¬ ∃ h p, RePort u h p) ∧ d.host = u ∧ d.serv = serv))

/-! ### HostPath vs. trimPath -/

theorem hasLineBreak_suffix {a b : Bytes} (h : a <:+ b) (hb : hasLineBreak b = false) : hasLineBreak a = false := by
  obtain ⟨t, rfl⟩ := h
  simp only [hasLineBreak, List.any_append, Bool.or_eq_false_iff] at hb
  exact hb.2

theorem hostPath_of_trimPath {r h : Bytes} (e : trimPath r = some h) : HostPath r h := by
  obtain ⟨hh, hne, hlb⟩ := trimPath_some e
  have hsplit := List.takeWhile_append_dropWhile (p := (· != (0x2f : UInt8))) (l := r)
  rw [hh, drop_takeWhile_length] at hlb
  rw [← hh] at hsplit
  refine ⟨hne, hh ▸ not_mem_takeWhile_bne _ _, ?_⟩
  cases hd : r.dropWhile (· != (0x2f : UInt8)) with
  | nil =>
    rw [hd, List.append_nil] at hsplit
    exact ⟨[], [], by simp [hsplit], Or.inl rfl, rfl⟩
  | cons c p =>
    have hc : c = 0x2f := by simpa using dropWhile_head_false (p := fun y => y != (0x2f : UInt8)) hd
    subst hc
    rw [hd] at hsplit hlb
    exact ⟨[0x2f], p, by rw [← hsplit]; simp, Or.inr rfl, by simpa using hlb⟩

theorem hostPath_prefix {r h : Bytes} (hp : HostPath r h) :
    ∃ x, r.takeWhile (· != (0x2f : UInt8)) = h ++ x := by
  obtain ⟨_, hs, sl, tail, hr, _, _⟩ := hp
  rw [hr, List.append_assoc, List.takeWhile_append_of_pos (bne_of_not_mem hs)]
  exact ⟨_, rfl⟩

theorem hostPath_length_le {r h hm : Bytes} (hp : HostPath r h) (e : trimPath r = some hm) : h.length ≤ hm.length := by
  obtain ⟨x, hx⟩ := hostPath_prefix hp
  rw [(trimPath_some e).1, hx]
  simp

theorem trimPath_of_hostPath {r h : Bytes} (hp : HostPath r h) : ∃ hm, trimPath r = some hm := by
  obtain ⟨hne, hs, sl, tail, hr, hsl, hlb⟩ := hp
  have hall := bne_of_not_mem hs
  rcases hsl with rfl | rfl
  · -- no slash consumed: the greedy host may extend into `tail`, the rest is a suffix of `tail`
    rw [List.append_nil] at hr
    have hemp : (r.takeWhile (· != (0x2f : UInt8))).isEmpty = false := by
      rw [hr, List.takeWhile_append_of_pos hall]; cases h <;> simp at hne ⊢
    have hsuf : (r.dropWhile (· != (0x2f : UInt8))).drop 1 <:+ tail := by
      rw [hr, List.dropWhile_append_of_pos hall]
      exact (List.drop_suffix _ _).trans (List.dropWhile_suffix _)
    exact ⟨r.takeWhile (· != (0x2f : UInt8)), by
      simp only [trimPath, drop_takeWhile_length, hemp, hasLineBreak_suffix hsuf hlb, Bool.false_eq_true, if_false]⟩
  · exact ⟨h, by rw [hr, List.append_assoc]; exact trimPath_eval hs hne (.path hlb)⟩

/-- `trimPath` selects the greedy match of `([^/]+)/?.*$` -/
theorem trimPath_iff {r h : Bytes} :
    trimPath r = some h ↔ (HostPath r h ∧ ∀ h', HostPath r h' → h'.length ≤ h.length) := by
  constructor
  · intro e
    exact ⟨hostPath_of_trimPath e, fun h' hp => hostPath_length_le hp e⟩
  · intro ⟨hp, hmax⟩
    obtain ⟨hm, e⟩ := trimPath_of_hostPath hp
    have h1 := hostPath_length_le hp e
    have h2 := hmax hm (hostPath_of_trimPath e)
    obtain ⟨x, hx⟩ := hostPath_prefix hp
    have hmeq := (trimPath_some e).1
    rw [hx] at hmeq
    have hlen : x.length = 0 := by
      have := congrArg List.length hmeq
      simp only [List.length_append] at this
      omega
    have : x = [] := List.eq_nil_of_length_eq_zero hlen
    subst this
    rw [e, hmeq]; simp

theorem trimPath_none_iff {r : Bytes} : trimPath r = none ↔ ¬ ∃ h, HostPath r h := by
  constructor
  · intro e ⟨h, hp⟩
    obtain ⟨hm, e'⟩ := trimPath_of_hostPath hp
    rw [e] at e'; cases e'
  · intro hno
    cases e : trimPath r with
    | none => rfl
    | some h => exact absurd ⟨h, hostPath_of_trimPath e⟩ hno

/-! ### SchemeMatch / ReServ vs. trimServAndPath -/

theorem schemeMatch_shape {s w h : Bytes} (m : SchemeMatch s w h) :
    s.takeWhile isWord = w ∧ (s.drop w.length).take 3 = [0x3a, 0x2f, 0x2f] ∧ HostPath ((s.drop w.length).drop 3) h := by
  obtain ⟨hw, r, hs, hp⟩ := m
  have htw : s.takeWhile isWord = w := by
    rw [hs]; exact takeWhile_stop hw (by decide)
  refine ⟨htw, ?_, ?_⟩
  · rw [hs, List.drop_left]; rfl
  · rw [hs, List.drop_left]; exact hp

theorem schemeMatch_of_shape {s h : Bytes}
    (h3 : (s.drop (s.takeWhile isWord).length).take 3 = [0x3a, 0x2f, 0x2f])
    (hp : HostPath ((s.drop (s.takeWhile isWord).length).drop 3) h) : SchemeMatch s (s.takeWhile isWord) h := by
  refine ⟨fun c hc => (mem_takeWhile hc).1, (s.drop (s.takeWhile isWord).length).drop 3, ?_, hp⟩
  have h2 := List.take_append_drop 3 (s.drop (s.takeWhile isWord).length)
  rw [h3, drop_takeWhile_length] at h2
  conv => lhs; rw [← List.takeWhile_append_dropWhile (p := isWord) (l := s), ← h2]
  rw [drop_takeWhile_length]
  rfl

/-- `trimServAndPath` computes `reServ` with its priorities -/
theorem trimServAndPath_iff {s u serv : Bytes} : trimServAndPath s = some (u, serv) ↔ ReServ s serv u := by
  -- without a scheme match, both sides are the greedy match of the whole text
  have fallback_iff : (¬ ∃ w' h', SchemeMatch s w' h') →
      ((trimPath s).map (·, ([] : Bytes)) = some (u, serv) ↔ ReServ s serv u) := by
    intro hno
    have hre : ReServ s serv u ↔ serv = [] ∧ trimPath s = some u :=
      ⟨fun hre => hre.elim (fun m => absurd ⟨_, _, m.1⟩ hno) fun m => ⟨m.2.1, trimPath_iff.mpr m.2.2⟩,
       fun m => Or.inr ⟨hno, m.1, trimPath_iff.mp m.2⟩⟩
    rw [hre]
    cases trimPath s <;> simp [and_comm, eq_comm]
  unfold trimServAndPath
  by_cases hsch : ((s.drop (s.takeWhile isWord).length).take 3 == [0x3a, 0x2f, 0x2f]) = true
  · have h3 : (s.drop (s.takeWhile isWord).length).take 3 = [0x3a, 0x2f, 0x2f] := by simpa using hsch
    simp only [hsch, if_true]
    cases e : trimPath ((s.drop (s.takeWhile isWord).length).drop 3) with
    | some h =>
      simp only [Option.some.injEq, Prod.mk.injEq]
      have hm : SchemeMatch s (s.takeWhile isWord) h := schemeMatch_of_shape h3 (hostPath_of_trimPath e)
      constructor
      · rintro ⟨rfl, rfl⟩
        refine Or.inl ⟨hm, fun w' h' m' => ?_⟩
        obtain ⟨hw', _, hp'⟩ := schemeMatch_shape m'
        exact hostPath_length_le (hw' ▸ hp') e
      · rintro (⟨m, hmax⟩ | ⟨hno, _⟩)
        · obtain ⟨hw, _, hp⟩ := schemeMatch_shape m
          rw [← hw] at hp
          have := trimPath_iff.mpr ⟨hp, fun h' hp' => hmax _ h' (schemeMatch_of_shape h3 hp')⟩
          rw [e] at this
          cases this
          exact ⟨rfl, hw⟩
        · exact absurd ⟨_, _, hm⟩ hno
    | none =>
      refine fallback_iff fun ⟨w', h', m'⟩ => ?_
      obtain ⟨hw', _, hp'⟩ := schemeMatch_shape m'
      exact trimPath_none_iff.mp e ⟨h', hw' ▸ hp'⟩
  · simp only [hsch, if_false, Bool.false_eq_true]
    refine fallback_iff fun ⟨w', h', m'⟩ => ?_
    obtain ⟨hw', h3', _⟩ := schemeMatch_shape m'
    rw [← hw'] at h3'
    rw [h3'] at hsch
    exact hsch rfl

theorem trimServAndPath_none_iff {s : Bytes} : trimServAndPath s = none ↔ ¬ ∃ serv u, ReServ s serv u := by
  simp only [Option.eq_none_iff_forall_ne_some, Prod.forall, ne_eq, trimServAndPath_iff, not_exists]
  exact ⟨fun h a b => h b a, fun h a b => h b a⟩

/-! ### RePort vs. splitPort -/

/-- `splitPort` computes `rePortBracket || rePort` -/
theorem splitPort_iff {u h d : Bytes} : splitPort u = some (h, d) ↔ RePort u h d :=
  splitPort_eq_some_iff

theorem splitPort_none_iff {u : Bytes} : splitPort u = none ↔ ¬ ∃ h d, RePort u h d := by
  simp only [Option.eq_none_iff_forall_ne_some, Prod.forall, ne_eq, splitPort_iff, not_exists]

end SockModel.Uri.Regex
