/-
Decimal text <-> Nat over bytes (`List UInt8`): what `std::to_string(port)`,
`getnameinfo(NI_NUMERICSERV)`, `strtoul` / `strtoll` do with digit runs.
Core Lean only.
-/
namespace SockModel.Decimal

abbrev Bytes := List UInt8

/-- `'0' <= c && c <= '9'` -/
def isDigit (c : UInt8) : Bool := 0x30 ≤ c && c ≤ 0x39

def digitVal (c : UInt8) : Nat := c.toNat - 48

def digitChar (d : Nat) : UInt8 := UInt8.ofNat (48 + d)

/-- value of a digit run, most significant digit first (the accumulation loop of `strtoul`) -/
def decVal (ds : Bytes) : Nat := ds.foldl (fun acc c => acc * 10 + digitVal c) 0

/-- the same loop, saturating at `cap` (so that digit runs of a million characters cost
linear time in the driver; every comparison the model makes is against a bound ≤ `cap`) -/
def satStep (cap acc : Nat) (c : UInt8) : Nat := min (acc * 10 + digitVal c) cap
def satVal (cap : Nat) (ds : Bytes) : Nat := ds.foldl (satStep cap) 0

/-- non-empty and all digits -/
def isDigits (s : Bytes) : Bool := !s.isEmpty && s.all isDigit

/-- `render` with fuel: `n` has at most `n` digits, so fuel `n` is enough; without fuel only `n = 0` is met -/
def renderFuel : Nat → Nat → Bytes
  | 0, n => [digitChar (n % 10)]
  | f + 1, n => if n < 10 then [digitChar n] else renderFuel f (n / 10) ++ [digitChar (n % 10)]

/-- decimal text of `n` without sign, blanks or leading zeros (`std::to_string`) -/
def render (n : Nat) : Bytes := renderFuel n n

/-- the number a pure digit string denotes; `none` for anything else -/
def parseDec (s : Bytes) : Option Nat := if isDigits s then some (decVal s) else none

/-! ### lemmas -/

theorem decVal_append_single (xs : Bytes) (c : UInt8) : decVal (xs ++ [c]) = decVal xs * 10 + digitVal c := by
  simp [decVal, List.foldl_append]

theorem toNat_digitChar (d : Nat) (h : d < 10) : (digitChar d).toNat = 48 + d := by
  rw [digitChar, UInt8.toNat_ofNat', Nat.mod_eq_of_lt (by omega)]

theorem digitVal_digitChar (d : Nat) (h : d < 10) : digitVal (digitChar d) = d := by
  rw [digitVal, toNat_digitChar d h, Nat.add_sub_cancel_left]

theorem isDigit_digitChar (d : Nat) (h : d < 10) : isDigit (digitChar d) = true := by
  simp only [isDigit, Bool.and_eq_true, decide_eq_true_eq, UInt8.le_iff_toNat_le, toNat_digitChar d h]
  exact ⟨Nat.le_add_right 48 d, Nat.add_le_add_left (Nat.le_of_lt_succ h) 48⟩

theorem decVal_renderFuel : ∀ (f n : Nat), n ≤ f → decVal (renderFuel f n) = n
  | 0, n, h => by
    rw [Nat.le_zero.mp h]
    rfl
  | f + 1, n, h => by
    unfold renderFuel
    by_cases h10 : n < 10
    · rw [if_pos h10]
      exact (decVal_append_single [] _).trans (by rw [digitVal_digitChar n h10]; exact Nat.zero_add n)
    · rw [if_neg h10, decVal_append_single, decVal_renderFuel f (n / 10) (by omega),
        digitVal_digitChar _ (Nat.mod_lt n (by decide)), Nat.div_add_mod']

theorem all_isDigit_renderFuel : ∀ (f n : Nat), (renderFuel f n).all isDigit = true
  | 0, n => by simp [renderFuel, isDigit_digitChar (n % 10) (Nat.mod_lt n (by decide))]
  | f + 1, n => by
    unfold renderFuel
    by_cases h10 : n < 10
    · simp [h10, isDigit_digitChar n h10]
    · simp [h10, all_isDigit_renderFuel f (n / 10), isDigit_digitChar (n % 10) (Nat.mod_lt n (by decide))]

theorem renderFuel_ne_nil : ∀ (f n : Nat), renderFuel f n ≠ []
  | 0, n => by simp [renderFuel]
  | f + 1, n => by
    unfold renderFuel
    by_cases h10 : n < 10 <;> simp [h10]

theorem decVal_render (n : Nat) : decVal (render n) = n := decVal_renderFuel n n (Nat.le_refl n)

theorem isDigits_render (n : Nat) : isDigits (render n) = true := by
  simp only [isDigits, render, Bool.and_eq_true, all_isDigit_renderFuel, and_true]
  have := renderFuel_ne_nil n n
  cases h : renderFuel n n with
  | nil => exact absurd h this
  | cons _ _ => rfl

/-- saturating at every step gives the saturated value: once above `cap` the accumulator stays above -/
theorem satVal_eq (cap : Nat) (ds : Bytes) : satVal cap ds = min (decVal ds) cap := by
  have key : ∀ (ds : Bytes) (a : Nat),
      ds.foldl (satStep cap) (min a cap) = min (ds.foldl (fun acc c => acc * 10 + digitVal c) a) cap := by
    intro ds
    induction ds with
    | nil => intro a; rfl
    | cons c cs ih =>
      intro a
      have : satStep cap (min a cap) c = min (a * 10 + digitVal c) cap := by
        unfold satStep
        rcases Nat.le_total a cap with h | h
        · rw [Nat.min_eq_left h]
        · rw [Nat.min_eq_right h, Nat.min_eq_right (by omega), Nat.min_eq_right (by omega)]
      rw [List.foldl_cons, List.foldl_cons, this, ih]
  have := key ds 0
  rwa [Nat.min_eq_left (Nat.zero_le cap)] at this

end SockModel.Decimal
