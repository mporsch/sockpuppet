/-!
List facts that several models and specifications need: one more element at the end of a list without
duplicates, lookup by a key that occurs once, the newest part of a log.
-/
namespace SockModel

theorem forall_mem_snoc {α} {l : List α} {v : α} {P : α → Prop} (hl : ∀ x ∈ l, P x) (hv : P v) :
    ∀ x ∈ l ++ [v], P x := by
  intro x hx
  rcases List.mem_append.mp hx with hx | hx
  · exact hl x hx
  · rw [List.mem_singleton.mp hx]; exact hv

theorem nodup_snoc {α} {l : List α} {a : α} (h : l.Nodup) (ha : a ∉ l) : (l ++ [a]).Nodup := by
  refine List.nodup_append.mpr ⟨h, by simp, fun x hx y hy e => ?_⟩
  rw [List.mem_singleton.mp hy] at e
  exact ha (e ▸ hx)

theorem nodup_map_snoc {α β} {f : α → β} {l : List α} {v : α} (h : (l.map f).Nodup) (hv : ∀ x ∈ l, f x ≠ f v) :
    ((l ++ [v]).map f).Nodup := by
  rw [List.map_append]
  refine nodup_snoc h fun hm => ?_
  obtain ⟨x, hx, he⟩ := List.mem_map.mp hm
  exact hv x hx he

/-- `if l.contains b then l else l ++ [b]`: `b` joins the list unless it is there -/
theorem mem_addIfNew {α} [BEq α] [LawfulBEq α] {l : List α} {b x : α} :
    x ∈ (if l.contains b then l else l ++ [b]) ↔ x ∈ l ∨ x = b := by
  split
  · rename_i h
    exact ⟨.inl, fun h' => h'.elim id fun e => e ▸ List.contains_iff_mem.mp h⟩
  · simp

theorem nodup_addIfNew {α} [BEq α] [LawfulBEq α] {l : List α} {b : α} (h : l.Nodup) :
    (if l.contains b then l else l ++ [b]).Nodup := by
  split
  · exact h
  · rename_i hc
    exact nodup_snoc h fun hm => hc (List.contains_iff_mem.mpr hm)

/-- in a list whose keys occur once, `find?` by the key of a member returns that member -/
theorem find_of_mem_nodup {α β} [DecidableEq β] {key : α → β} {l : List α} {x : α} (h : (l.map key).Nodup)
    (hx : x ∈ l) : l.find? (fun y => key y = key x) = some x := by
  induction l with
  | nil => cases hx
  | cons y ys ih =>
    simp only [List.map_cons, List.nodup_cons] at h
    rcases List.mem_cons.mp hx with rfl | hx'
    · simp
    · have : ¬ key y = key x := fun he => h.1 (he ▸ List.mem_map_of_mem hx')
      rw [List.find?_cons_of_neg (by simpa using this)]
      exact ih h.2 hx'

theorem nodup_map_inj {α β} [DecidableEq β] {f : α → β} {l : List α} (h : (l.map f).Nodup) {x y : α} (hx : x ∈ l)
    (hy : y ∈ l) (he : f x = f y) : x = y := by
  have h1 := find_of_mem_nodup h hx
  rw [he, find_of_mem_nodup h hy] at h1
  exact (Option.some.inj h1).symm

/-- the entries a log gained are its front part (logs grow at the front) -/
theorem take_new {α : Type} (new old : List α) : (new ++ old).take ((new ++ old).length - old.length) = new := by
  rw [List.length_append, Nat.add_sub_cancel, List.take_left' rfl]

end SockModel
