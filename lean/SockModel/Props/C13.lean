import SockModel.Spec.C13
import SockModel.Generated.Funcs
import SockModel.Basic.TieTactic
/-!
# C13  Address ==, <, hash are lawful and provenance-independent; endpoints agree

The property theorems (their helpers, and the proofs of the order / injectivity / map-insertion theorems, are in
`Model/AddrLemmas.lean`, `namespace Lem`, because `Spec/C13.lean` uses them), and at the end the tie of the two
comparison operators to the C++ source with the arithmetic form of `lt` / `eq` it goes through.  Every theorem
quantifies over *all* images (byte strings of any length and content), not over
a sample of addresses.  What is *not* a theorem: that two OS interfaces produce
the canonical image `encode fields` for the same endpoint - that is the
provenance hypothesis, checked on every run by the driver (`Drive/C13.lean`,
"canonical image").
-/
namespace SockModel.Addr

/-- "< is a strict total order": irreflexive -/
theorem lt_irrefl (a : Image) : lt a a = false := Lem.lt_irrefl a

/-- "< is a strict total order": transitive (mixed lengths included) -/
theorem lt_trans (a b c : Image) (hab : lt a b = true) (hbc : lt b c = true) : lt a c = true :=
  Lem.lt_trans a b c hab hbc

/-- "< is a strict total order": asymmetric -/
theorem lt_asymm (a b : Image) (h : lt a b = true) : lt b a = false := Lem.lt_asymm a b h

/-- "< is a strict total order": any two images are comparable or identical -/
theorem lt_total (a b : Image) : lt a b = true ∨ a = b ∨ lt b a = true := Lem.lt_total a b

/-- "== is an equivalence": `==` is identity of images -/
theorem eq_iff_same_image (a b : Image) : eq a b = true ↔ a = b := eq_iff a b

/-- "< ... consistent with ==": `a == b` exactly when neither `a < b` nor `b < a`
(the equivalence `std::map` derives from `<` is `==`) -/
theorem eq_iff_not_lt_not_gt (a b : Image) : eq a b = true ↔ (lt a b = false ∧ lt b a = false) :=
  Lem.eq_iff_not_lt_not_gt a b

theorem eq_refl (a : Image) : eq a a = true := (eq_iff a a).mpr rfl

theorem eq_symm (a b : Image) (h : eq a b = true) : eq b a = true :=
  (eq_iff b a).mpr ((eq_iff a b).mp h).symm

theorem eq_trans (a b c : Image) (h1 : eq a b = true) (h2 : eq b c = true) : eq a c = true :=
  (eq_iff a c).mpr (((eq_iff a b).mp h1).trans ((eq_iff b c).mp h2))

/-- `!=` is the negation of `==` -/
theorem ne_iff_not_eq (a b : Image) : ne a b = true ↔ eq a b = false := by
  simp [ne]

/-- `<` respects `==` on both sides (so `==`-equal keys are interchangeable in an ordered container) -/
theorem lt_congr (a a' b b' : Image) (ha : eq a a' = true) (hb : eq b b' = true) : lt a b = lt a' b' := by
  rw [(eq_iff a a').mp ha, (eq_iff b b').mp hb]

/-- "std::hash agrees with ==" - for every hash function of the image bytes -/
theorem hash_respects_eq {β : Type} (H : List UInt8 → β) (a b : Image) (h : eq a b = true) :
    hash H a = hash H b := by
  rw [(eq_iff a b).mp h]

/-- the same for views into a larger storage -/
theorem view_hash_respects_eq {β : Type} (H : List UInt8 → β) (v w : View) (h : View.eq v w = true) :
    View.hash H v = View.hash H w :=
  hash_respects_eq H v.image w.image h

/-- bytes beyond `len` (what the kernel left in a `sockaddr_storage`) do not influence `==`, hence not the hash -/
theorem view_garbage_irrelevant (img g1 g2 : List UInt8) :
    View.eq ⟨img ++ g1, img.length⟩ ⟨img ++ g2, img.length⟩ = true := by
  simp [View.eq, View.image, eq_refl]

/-- "== holds exactly when family, host, port agree" on canonical IPv4 images -/
theorem encode4_injective (ip1 ip2 : List UInt8) (p1 p2 : Nat)
    (h1 : ip1.length = 4) (h2 : ip2.length = 4) (hp1 : p1 < 65536) (hp2 : p2 < 65536) :
    eq (encode4 ip1 p1) (encode4 ip2 p2) = true ↔ (ip1 = ip2 ∧ p1 = p2) :=
  Lem.encode4_injective ip1 ip2 p1 p2 h1 h2 hp1 hp2

/-- "== holds exactly when family, host, port (and IPv6 scope) agree" on canonical IPv6 images -/
theorem encode6_injective (ip1 ip2 : List UInt8) (p1 p2 f1 f2 s1 s2 : Nat)
    (h1 : ip1.length = 16) (h2 : ip2.length = 16) (hp1 : p1 < 65536) (hp2 : p2 < 65536)
    (hf1 : f1 < 4294967296) (hf2 : f2 < 4294967296) (hs1 : s1 < 4294967296) (hs2 : s2 < 4294967296) :
    eq (encode6 ip1 p1 f1 s1) (encode6 ip2 p2 f2 s2) = true ↔ (ip1 = ip2 ∧ p1 = p2 ∧ f1 = f2 ∧ s1 = s2) :=
  Lem.encode6_injective ip1 ip2 p1 p2 f1 f2 s1 s2 h1 h2 hp1 hp2 hf1 hf2 hs1 hs2

/-- "== holds exactly when family, host, port (and IPv6 scope) agree": for well-formed field
tuples of either family, the images are `==` iff the tuples are identical - hence a difference in
a single bit of host or port separates, and an IPv4 address never equals an IPv6 one -/
theorem encode_injective (f g : Fields) (hf : f.wf) (hg : g.wf) :
    eq (encode f) (encode g) = true ↔ f = g := Lem.encode_injective f g hf hg

/-- "including addresses differing in a single bit of host or port": any difference in the field
tuple makes `==` false and orders the two images one way or the other -/
theorem differing_fields_separate (f g : Fields) (hf : f.wf) (hg : g.wf) (hne : f ≠ g) :
    eq (encode f) (encode g) = false ∧ (lt (encode f) (encode g) = true ∨ lt (encode g) (encode f) = true) := by
  have hne' : encode f ≠ encode g := fun e => hne ((encode_injective f g hf hg).mp ((eq_iff _ _).mpr e))
  refine ⟨Bool.eq_false_iff.mpr fun h => hne' ((eq_iff _ _).mp h), ?_⟩
  rcases lt_total (encode f) (encode g) with h | h | h
  · exact Or.inl h
  · exact absurd h hne'
  · exact Or.inr h

/-- "mixed family": every IPv4 image is below every IPv6 image (ordering by length first), so the
order is total across families -/
theorem v4_lt_v6 (ip4 ip6 : List UInt8) (p4 p6 f s : Nat) (h4 : ip4.length = 4) (h6 : ip6.length = 16) :
    lt (encode4 ip4 p4) (encode6 ip6 p6 f s) = true ∧ lt (encode6 ip6 p6 f s) (encode4 ip4 p4) = false := by
  have l4 := length_encode4 ip4 p4 h4
  have l6 := length_encode6 ip6 p6 f s h6
  simp [lt, l4, l6]

/-! ### "Addresses work as keys of ordered and unordered containers" -/

def Sorted {V : Type} (m : List (Image × V)) : Prop := m.Pairwise (fun x y => lt x.1 y.1 = true)

/-- insertion keeps the tree order (keys strictly increasing, hence unique up to `==`) -/
theorem mapInsert_sorted {V : Type} (k : Image) (v : V) (m : List (Image × V)) (hs : Sorted m) :
    Sorted (mapInsert k v m) ∧ ∀ x ∈ mapInsert k v m, x.1 = k ∨ x ∈ m := by
  induction m with
  | nil => simp [mapInsert, Sorted]
  | cons hd rest ih =>
    obtain ⟨k0, v0⟩ := hd
    have ⟨hhd, hs'⟩ := List.pairwise_cons.mp hs
    rw [mapInsert]
    rcases lt_total k k0 with h | rfl | h
    · rw [if_pos h]
      refine ⟨List.pairwise_cons.mpr ⟨fun y hy => ?_, hs⟩, fun x hx => ?_⟩
      · rcases List.mem_cons.mp hy with rfl | hy
        · exact h
        · exact lt_trans _ _ _ h (hhd y hy)
      · exact (List.mem_cons.mp hx).imp_left (congrArg Prod.fst)
    · rw [lt_irrefl, if_neg Bool.false_ne_true, if_neg Bool.false_ne_true]
      refine ⟨List.pairwise_cons.mpr ⟨hhd, hs'⟩, fun x hx => ?_⟩
      exact (List.mem_cons.mp hx).imp (congrArg Prod.fst) (List.mem_cons_of_mem _)
    · rw [lt_asymm _ _ h, if_neg Bool.false_ne_true, if_pos h]
      have ⟨ihs, ihm⟩ := ih hs'
      refine ⟨List.pairwise_cons.mpr ⟨fun y hy => ?_, ihs⟩, fun x hx => ?_⟩
      · rcases ihm y hy with e | hy
        · rw [e]; exact h
        · exact hhd y hy
      · rcases List.mem_cons.mp hx with rfl | hx
        · exact Or.inr List.mem_cons_self
        · exact (ihm x hx).imp_right (List.mem_cons_of_mem _)

/-- a lookup after an insertion: the inserted key (any image `==` to it) finds the new value,
every other key finds what it found before -/
theorem mapFind_insert {V : Type} (k k' : Image) (v : V) (m : List (Image × V)) :
    mapFind k' (mapInsert k v m) = if k' = k then some v else mapFind k' m := Lem.mapFind_insert k k' v m

/-- refinement: the ordered container keyed through `<` behaves like a map keyed by the field
tuple - looking up `encode g` after inserting under `encode f` finds the new value iff `g = f` -/
theorem map_key_ok {V : Type} (f g : Fields) (hf : f.wf) (hg : g.wf) (v : V) (m : List (Image × V)) :
    mapFind (encode g) (mapInsert (encode f) v m) = if g = f then some v else mapFind (encode g) m := by
  rw [mapFind_insert]
  by_cases h : g = f
  · subst h; simp
  · have : encode g ≠ encode f := by
      intro e
      exact h ((encode_injective g f hg hf).mp ((eq_iff _ _).mpr e))
    simp [h, this]

/-- the same for the unordered container (one bucket; keys with equal hash): keyed through `==` -/
theorem bucket_key_ok {V : Type} (f g : Fields) (hf : f.wf) (hg : g.wf) (v : V) (m : List (Image × V)) :
    bucketFind (encode g) ((encode f, v) :: m) = if g = f then some v else bucketFind (encode g) m := by
  by_cases h : g = f
  · subst h; simp [bucketFind, eq_refl]
  · have : eq (encode g) (encode f) = false := (differing_fields_separate g f hg hf h).1
    simp [bucketFind, h, this]

/-! ### the run-time oracle is a theorem of the model (`Spec/C13.lean`) -/

/-- The predicate `./check C13` evaluates on the implementation's transcript (`specRun`; its clauses are listed at
the head of `Spec/C13.lean`) accepts every transcript block the MODEL produces - for every hash function `H` of the image bytes
and every history of any length in the domain `histOk` (field tuples well-formed with flowinfo 0, the kernel
assigns a non-zero 16-bit port, both ends of a datagram / connection are sockets of the same family - the
last excludes exactly the dual-stack situation of known finding F12, for which the predicate rejects the
model's own trace: `example` in `Spec/C13.lean`).  So a `spec` verdict on the implementation is a difference
between implementation and model, and the oracle is never stricter than the model. -/
theorem spec_holds_on_model (H : List UInt8 → UInt64) (history : List Op) (h : histOk {} history = true) :
    ∃ s, specRun {} (modelTrace H {} history) = .ok s :=
  model_satisfies_spec H history h

example : histOk {} demoHistory = true := by decide +kernel

/-! ### non-vacuity -/

example : (⟨false, [127, 0, 0, 1], 80, 0, 0⟩ : Fields).wf := by simp [Fields.wf]
example : encode ⟨false, [127, 0, 0, 1], 80, 0, 0⟩ = [2, 0, 0, 80, 127, 0, 0, 1, 0, 0, 0, 0, 0, 0, 0, 0] := by decide
example : lt (encode4 [127, 0, 0, 1] 80) (encode4 [127, 0, 0, 1] 81) = true := by decide
example : lt (encode4 [255, 0, 0, 1] 80) (encode4 [127, 0, 0, 1] 80) = false := by decide
example : (encode6 (List.replicate 15 0 ++ [1]) 8080 0 4).length = 28 := by decide

end SockModel.Addr

/-! ## Source-derived tie (DESIGN.md §0.7)

`SockModel.Gen.*` (Generated/Funcs.lean) is regenerated on every run by tools/cxx2lean.py from the clang AST of
the CURRENT /repo/src: SockAddrView::operator< and operator== (address_impl.cpp), memcmp abstracted by its sign.
Each theorem below states that the generated function and the hand-written model function agree for ALL
arguments; a change of the C++ function changes the generated definition and the theorem stops checking. -/
namespace SockModel.Props.C13
open SockModel SockModel.Addr

/-- what `std::memcmp(a, b, n)` may return for two `n`-byte buffers: any `int` with the sign of the
unsigned lexicographic comparison -/
def MemcmpResult (a b : Image) (cmp : Int) : Prop :=
  (cmp < 0 ↔ ltBytes a b = true) ∧ (cmp = 0 ↔ eqBytes a b = true)

/-- the model's `lt`, as arithmetic on the two lengths and the `memcmp` result -/
theorem model_lt_arith (a b : Image) (cmp : Int) (h : MemcmpResult a b cmp) :
    Addr.lt a b = decide ((a.length : Int) < b.length ∨ ((a.length : Int) = b.length ∧ cmp < 0)) := by
  rw [Bool.eq_iff_iff, decide_eq_true_iff, h.1, Int.ofNat_lt, Int.ofNat_inj]
  unfold Addr.lt
  by_cases h1 : a.length < b.length
  · simp only [h1, if_true, true_or]
  · by_cases h2 : b.length < a.length
    · have : a.length ≠ b.length := Nat.ne_of_gt h2
      simp only [h1, h2, if_true, if_false, Bool.false_eq_true, false_or, this, false_and]
    · rw [if_neg h1, if_neg h2]
      have e : a.length = b.length := Nat.le_antisymm (Nat.le_of_not_lt h2) (Nat.le_of_not_lt h1)
      simp only [e, Nat.lt_irrefl, false_or, true_and]

/-- the model's `eq`, as arithmetic on the two lengths and the `memcmp` result -/
theorem model_eq_arith (a b : Image) (cmp : Int) (h : MemcmpResult a b cmp) :
    Addr.eq a b = decide ((a.length : Int) = b.length ∧ cmp = 0) := by
  rw [Bool.eq_iff_iff, decide_eq_true_iff, h.2, Int.ofNat_inj, Addr.eq, Bool.and_eq_true, beq_iff_eq]

/-- `SockAddrView::operator<` as compiled from the current source = the model's `lt`, for every `memcmp`
result that has the sign of the byte comparison -/
theorem tie_lt (a b : Image) (cmp : Int) (h : MemcmpResult a b cmp) :
    Gen.SockAddrView_lt a.length b.length cmp = Addr.lt a b := by
  rw [model_lt_arith a b cmp h]
  simp only [Gen.SockAddrView_lt]
  tie_bool_arith

/-- `SockAddrView::operator==` likewise -/
theorem tie_eq (a b : Image) (cmp : Int) (h : MemcmpResult a b cmp) :
    Gen.SockAddrView_eq a.length b.length cmp = Addr.eq a b := by
  rw [model_eq_arith a b cmp h]
  simp only [Gen.SockAddrView_eq]
  tie_bool_arith

/-- the hypothesis `MemcmpResult` of the two ties can be met, for any two images -/
theorem memcmpResult_exists (a b : Image) : ∃ cmp, MemcmpResult a b cmp := by
  unfold MemcmpResult
  cases hl : ltBytes a b with
  | true =>
    have := ltBytes_not_eqBytes a b hl
    exact ⟨-1, by simp, by simp [this]⟩
  | false =>
    cases he : eqBytes a b with
    | true => exact ⟨0, by simp, by simp⟩
    | false => exact ⟨1, by simp, by simp⟩
end SockModel.Props.C13
