import SockModel.Spec.C06
import SockModel.Model.GenTodoWorld
import SockModel.Generated.Loops
import SockModel.Basic.TieTactic
/-!
# C06  ToDo scheduling: never early, in due order, exactly once, cancellable, shiftable

The property theorems, then the ties to the generated code with the search-position lemmas and loop lemmas they
need.  `run clamp fuel {} ops` is the state after *any* history
`ops` of construct(when | delay | unscheduled) / Shift / Cancel / drop-handle /
clock-advance / Step(timeout) operations, where every task body is itself any
list of such management calls (including on the task's own ToDo) and clock
advances.  `fuel` bounds the iterations of one `StepTodos` loop (the code loops
forever if tasks keep rescheduling due tasks under an unlimited timeout); every
statement holds for every `fuel`.  Calls from other threads are serialised by
`stepMtx` (C04), so a concurrent history is one of these histories.
-/
namespace SockModel.ToDos
open SockModel.Deadline

/-- the deque stays sorted by due time and holds at most one entry per ToDo -/
theorem todos_sorted_unique (clamp : Bool) (fuel : Nat) (ops : List Op) :
    Sorted (run clamp fuel {} ops).todos ∧ (ids (run clamp fuel {} ops).todos).Nodup :=
  ⟨(inv_run clamp fuel inv_init ops).sorted, (inv_run clamp fuel inv_init ops).nodup⟩

/-- "never before its due time": every invocation happened at a clock reading `now ≥ when` -/
theorem never_early (clamp : Bool) (fuel : Nat) (ops : List Op) (id : Nat) (w now : Int) (rest : List Entry) (seq : Nat)
    (h : Event.ran id w now rest seq ∈ (run clamp fuel {} ops).log) : w ≤ now :=
  ((inv_run clamp fuel inv_init ops).logOk _ h).1

/-- "tasks run in order of due time": the task invoked was due no later than every other pending one -/
theorem due_order (clamp : Bool) (fuel : Nat) (ops : List Op) (id : Nat) (w now : Int) (rest : List Entry) (seq : Nat)
    (h : Event.ran id w now rest seq ∈ (run clamp fuel {} ops).log) : ∀ e ∈ rest, w ≤ e.when :=
  ((inv_run clamp fuel inv_init ops).logOk _ h).2.1

/-- "equal due times in scheduling order": `seq` numbers the schedulings (construction with a due time,
Shift) in the order in which they took effect; the task invoked was scheduled before every other pending
task with the same due time.  Together with `due_order`: each invocation picks the minimum of the
pending set by (due time, scheduling order) - the reference scheduler the check evaluates on the
implementation's trace. -/
theorem ties_by_scheduling_order (clamp : Bool) (fuel : Nat) (ops : List Op) (id : Nat) (w now : Int)
    (rest : List Entry) (seq : Nat) (h : Event.ran id w now rest seq ∈ (run clamp fuel {} ops).log) :
    ∀ e ∈ rest, e.when = w → seq < e.seq :=
  ((inv_run clamp fuel inv_init ops).logOk _ h).2.2.2

/-- "equal due times in scheduling order": a newly scheduled entry goes behind all
pending entries with the same due time (and the front of the list is what runs next) -/
theorem ties_in_scheduling_order (clamp : Bool) (fuel : Nat) (ops : List Op) (e : Entry) :
    let l := (run clamp fuel {} ops).todos
    (insert l e).filter (fun x => x.when = e.when) = l.filter (fun x => x.when = e.when) ++ [e] :=
  insert_stable _ e (inv_run clamp fuel inv_init ops).sorted

/-- "exactly once per scheduling" (at most once): the invocation removed the ToDo's only entry,
so without a new Shift it cannot be invoked again -/
theorem run_pops_only_entry (clamp : Bool) (fuel : Nat) (ops : List Op) (id : Nat) (w now : Int) (rest : List Entry)
    (seq : Nat) (h : Event.ran id w now rest seq ∈ (run clamp fuel {} ops).log) : id ∉ ids rest :=
  ((inv_run clamp fuel inv_init ops).logOk _ h).2.2.1

/-- "Cancel before the start prevents the run": after Cancel the ToDo has no entry -/
theorem cancel_prevents (clamp : Bool) (fuel : Nat) (ops : List Op) (id : Nat) :
    let s := run clamp fuel {} ops
    id ∈ s.live → id ∉ ids (applyOp s (.cancel id)).todos := by
  intro s hl
  have h := inv_run clamp fuel inv_init ops
  simp only [applyOp, if_pos hl]
  exact not_mem_ids_remove id h.nodup

/-- Cancel of an idle or already executed ToDo changes nothing -/
theorem finished_cancel_noop (s : St) (id : Nat) (h : id ∉ ids s.todos) :
    (applyOp s (.cancel id)).todos = s.todos := by
  simp only [applyOp]
  split
  · exact remove_of_not_mem h
  · rfl

/-- "Shift replaces a pending run by a single run at the new time, or schedules an idle or
already executed ToDo (again)": afterwards the ToDo has exactly one entry, at the new time -/
theorem shift_replaces (clamp : Bool) (fuel : Nat) (ops : List Op) (id : Nat) (w : Int) :
    let s := run clamp fuel {} ops
    id ∈ s.live →
      (applyOp s (.shift id w)).todos.filter (fun e => e.id = id) = [⟨id, w, s.nextSeq⟩] := by
  intro s hl
  have h := inv_run clamp fuel inv_init ops
  simp only [applyOp, if_pos hl, move]
  have hno : id ∉ ids (remove s.todos id) := not_mem_ids_remove id h.nodup
  obtain ⟨pre, post, h1, h2, _, _⟩ := insert_split (remove s.todos id) ⟨id, w, s.nextSeq⟩ (remove_sorted id h.sorted)
  rw [h1]
  rw [h2] at hno
  simp only [ids, List.map_append, List.mem_append, not_or, List.mem_map, not_exists, not_and] at hno
  have hpre : pre.filter (fun e => e.id = id) = [] := by
    apply List.filter_eq_nil_iff.mpr
    intro e he; simpa using hno.1 e he
  have hpost : post.filter (fun e => e.id = id) = [] := by
    apply List.filter_eq_nil_iff.mpr
    intro e he; simpa using hno.2 e he
  rw [List.filter_append, hpre, List.filter_cons_of_pos (by simp), hpost]
  rfl

/-- "a ToDo object need not be kept alive for its task to run": destroying the handle leaves
the pending entry in place -/
theorem handle_free (s : St) (id : Nat) : (applyOp s (.drop id)).todos = s.todos := rfl

/-- "promptly after it (at the next step; a due time in the past means as soon as possible)":
a `Step` - with any timeout - that starts at or after the due time of the earliest pending ToDo
invokes that task. -/
theorem prompt (clamp : Bool) (fuel : Nat) (t : Int) (s : St) (front : Entry) (rest : List Entry)
    (ht : s.todos = front :: rest) (hdue : front.when ≤ s.now) :
    Event.ran front.id front.when s.now rest front.seq ∈ (step clamp (fuel + 1) t s).log := by
  have hmake := deadline_make_now t s.now
  have hst := stepTodos_runs_front fuel (Deadline.make t s.now) s front rest ht (by rw [hmake]; exact hdue)
  rw [hmake] at hst
  unfold step
  rw [ht]
  simp only [List.isEmpty_cons, Bool.false_eq_true, if_false]
  obtain ⟨ms, _, _, e⟩ := pollSockets_frame clamp (stepTodos (fuel + 1) (Deadline.make t s.now) s).1
    (stepTodos (fuel + 1) (Deadline.make t s.now) s).2
  rw [e]
  exact List.mem_cons_of_mem _ hst

/-- **the whole property, as the check evaluates it on the implementation, holds on the model**: the
reference scheduler of `Spec/C06.lean` - a bag of (task, due time, scheduling order) maintained from
the operations alone, which rejects an invocation of a task that is not scheduled (twice, after
Cancel, after the ToDo object is gone), an invocation before the due time, and an invocation that
overtakes a task due earlier or equally due but scheduled earlier - accepts every invocation the
model makes, in every history of any length with arbitrary task bodies (re-scheduling, cancelling,
creating and dropping ToDos from inside tasks) and arbitrary clocks.  `./check C06` runs the very
same functions (`RefSched.SpSt.ran`, `.user`) on the transcript of the real library. -/
theorem spec_holds_on_model (clamp : Bool) (fuel : Nat) (ops : List Op) :
    ∃ sp, RefSched.replay clamp fuel {} {} ops = .ok sp :=
  RefSched.model_accepted clamp fuel ops

/-! ### non-vacuity -/

example :
    (run true 10 {} [.new 1 1000 [], .new 2 1000 [.shift 2 5000], .clock 1000, .step 0, .step 0]).todos
      = [⟨2, 5000, 2⟩] := by decide

example : (RefSched.replay true 10 {} {}
    [.new 1 1000 [], .new 2 1000 [.shift 2 5000], .clock 1000, .step 0, .step 0]).toOption.map (·.pend)
      = some [⟨2, 5000, 2⟩] := by decide

/-- the reference scheduler is not trivially accepting: a tie invoked in the wrong order is rejected -/
example : (((({} : RefSched.SpSt).user (.new 1 1000 [])).user (.new 2 1000 [])).ran 2 1000).toOption.isNone := by decide

end SockModel.ToDos

/-! ## Source-derived tie (DESIGN.md §0.7)

`SockModel.Gen.*` (Generated/Funcs.lean) is regenerated on every run by tools/cxx2lean.py from the clang AST of
the CURRENT /repo/src: the insert position of ToDos::Insert (todo_impl.cpp) and the due test of StepTodos (driver_impl.cpp).
Each theorem below states that the generated function and the hand-written model function agree for ALL
arguments; a change of the C++ function changes the generated definition and the theorem stops checking. -/
namespace SockModel.Props.C06
open SockModel SockModel.Deadline SockModel.ToDos

/-- the list of `when` values the generated search runs over -/
def whens (l : List Entry) : List Int := l.map (·.when)

/-- forward search (`std::find_if`) with a predicate that is `when < x`: the model's `insert`, on any list -/
theorem insert_findIf (p : Int → Bool) (l : List Entry) (e : Entry) (hp : ∀ x, p x = decide (e.when < x)) :
    ToDos.insert l e = l.take (Gen.findIfIdx p (whens l)) ++ e :: l.drop (Gen.findIfIdx p (whens l)) := by
  induction l with
  | nil => rfl
  | cons x xs ih =>
    simp only [whens, List.map_cons, Gen.findIfIdx, ToDos.insert, hp] at ih ⊢
    by_cases h : e.when < x.when
    · simp [h]
    · simp only [h, decide_false, if_false, Bool.false_eq_true, List.take_succ_cons, List.drop_succ_cons, List.cons_append]
      rw [ih]

/-- `k` is a position at which `e` may go: nothing in front of it is later than `e`, everything from it on is -/
def IsPos (l : List Entry) (w : Int) (k : Nat) : Prop :=
  k ≤ l.length ∧ (∀ i, i < k → ¬ w < (whens l).getD i 0) ∧ (∀ i, k ≤ i → i < l.length → w < (whens l).getD i 0)

theorem insert_isPos (l : List Entry) (e : Entry) : ∀ k, IsPos l e.when k → ToDos.insert l e = l.take k ++ e :: l.drop k := by
  induction l with
  | nil =>
    intro k ⟨h1, _, _⟩
    rw [Nat.le_zero.mp h1]; rfl
  | cons x xs ih =>
    intro k ⟨h1, h2, h3⟩
    cases k with
    | zero =>
      have hx : e.when < x.when := h3 0 (Nat.le_refl _) (Nat.succ_pos _)
      rw [ToDos.insert, if_pos hx]; rfl
    | succ k =>
      have hx : ¬ e.when < x.when := h2 0 (Nat.succ_pos _)
      have hk : IsPos xs e.when k :=
        ⟨Nat.le_of_succ_le_succ h1, fun i hi => h2 (i + 1) (Nat.succ_lt_succ hi),
          fun i hi hl => h3 (i + 1) (Nat.succ_le_succ hi) (Nat.succ_lt_succ hl)⟩
      rw [ToDos.insert, if_neg hx, ih k hk]; rfl

theorem sorted_getD {l : List Entry} (hs : Sorted l) (i j : Nat) (hij : i ≤ j) (hj : j < l.length) :
    (whens l).getD i 0 ≤ (whens l).getD j 0 := by
  have hi : i < l.length := Nat.lt_of_le_of_lt hij hj
  have hget : ∀ k (hk : k < l.length), (whens l).getD k 0 = l[k].when := fun k hk => by
    simp [whens, List.getD_eq_getElem?_getD, hk]
  rw [hget i hi, hget j hj]
  rcases Nat.lt_or_eq_of_le hij with h | rfl
  · exact List.pairwise_iff_getElem.mp hs i j hi hj h
  · exact Int.le_refl _

/-- backward search from position `n`, on a sorted list whose elements from `n` on are all later than `e` -/
theorem backScan_isPos (p : Int → Bool) (l : List Entry) (w : Int) (hp : ∀ x, p x = decide (w < x)) (hs : Sorted l) :
    ∀ n, n ≤ l.length → (∀ i, n ≤ i → i < l.length → w < (whens l).getD i 0) →
      IsPos l w (Gen.backScanIdx p (whens l) n) := by
  intro n
  induction n with
  | zero =>
    intro _ h
    exact ⟨Nat.zero_le _, fun i hi => absurd hi (Nat.not_lt_zero _), fun i _ hl => h i (Nat.zero_le _) hl⟩
  | succ n ih =>
    intro hn h
    simp only [Gen.backScanIdx, hp]
    by_cases hc : w < (whens l).getD n 0
    · simp only [hc, decide_true, if_true]
      refine ih (by omega) (fun i hi hl => ?_)
      by_cases hin : i = n
      · subst hin; exact hc
      · exact h i (by omega) hl
    · simp only [hc, decide_false, if_false, Bool.false_eq_true]
      refine ⟨hn, fun i hi => ?_, h⟩
      have := sorted_getD hs i n (by omega) (by omega)
      omega

/-- `ToDos::Insert`: the new element goes where the CURRENT source's search (`Gen.Todos_Insert_pos`: forward `find_if`, or a
backward scan from `end()`) stops.  The list is sorted whenever `Insert` runs (`todos_sorted_unique`); the forward search does not
need that, the backward one does.  The proof does not depend on how the source spells the comparison. -/
theorem tie_insert_whenBefore (l : List Entry) (e : Entry) (hs : Sorted l) :
    ToDos.insert l e =
      l.take (Gen.Todos_Insert_pos (whens l) e.when) ++ e :: l.drop (Gen.Todos_Insert_pos (whens l) e.when) := by
  unfold Gen.Todos_Insert_pos
  first
    | exact insert_findIf _ l e (fun x => by tie_bool_arith)
    | (refine insert_isPos l e _ ?_
       have hl : (whens l).length = l.length := by simp [whens]
       rw [hl]
       exact backScan_isPos _ l e.when (fun x => by tie_bool_arith) hs l.length (Nat.le_refl _)
         (fun i hi hl => absurd hl (by omega)))

theorem gen_minDuration (l r : Int) : Gen.MinDuration l r = minDuration l r := by
  simp only [Gen.MinDuration, minDuration, toMs, nsPerMs]
  tie_arith

theorem tie_stepTodos_due (fuel : Nat) (d : Deadline) (s : St) (front : Entry) (rest : List Entry)
    (h : s.todos = front :: rest) :
    stepTodos (fuel + 1) d s =
      if Gen.StepTodos_notDue front.when d.now then
        (Gen.MinDuration (front.when - d.now) d.remaining, s)
      else
        let s1 := { s with todos := rest, log := .ran front.id front.when d.now rest front.seq :: s.log }
        let s2 := (s.body front.id).foldl applyOp s1
        let d' := d.tick s2.now
        if s2.todos.isEmpty then (d'.remaining, s2)
        else if d'.timeLeft then stepTodos fuel d' s2
        else (0, s2) := by
  simp only [stepTodos, h, Gen.StepTodos_notDue, gen_minDuration]
  by_cases hd : front.when - d.now > 0 <;> simp
end SockModel.Props.C06

/-! ## Source-derived tie, stage 3 (DESIGN.md §0.7.2): `Driver::DriverImpl::StepTodos<Deadline>` as a loop

`SockModel.Gen.StepTodos_Unlimited / _Zero / _Limited` (Generated/Loops.lean) are regenerated on every run from the
three instantiations of `StepTodos` in the clang AST of src/driver_impl.cpp, over the abstract deque / task interface
`Gen.TodoWorld` (`front()->when`, `pop_front` after the move, `task->what()`, `empty()`, the clock).  They are run on
the model's own state (`GenWorld.todoWorld`: the list of `ToDos.St`, task bodies applied by `applyOp`) and tied to
`ToDos.stepTodos` for EVERY list, every task bodies, every clock value and every fuel (`stepTodosO`: the model with
the fuel made visible; `stepTodosO_sound` gives `stepTodos` back). -/
namespace SockModel.Props.C06
open SockModel SockModel.Deadline SockModel.ToDos SockModel.GenWorld

theorem gen_remaining_l (now dl : Int) : Gen.DeadlineLimited_Remaining now dl = (Deadline.limited now dl).remaining := by
  simp only [Gen.DeadlineLimited_Remaining, Deadline.remaining, toMs, nsPerMs]
  tie_arith

theorem gen_timeLeft_l (now dl : Int) : Gen.DeadlineLimited_TimeLeft now dl = (Deadline.limited now dl).timeLeft := by
  simp only [Gen.DeadlineLimited_TimeLeft, Deadline.timeLeft]
  tie_bool_arith

theorem body_upd (s : St) (t : List Entry) (l : List Event) (id : Nat) :
    St.body { s with todos := t, log := l } id = s.body id := rfl

/-- what the generated `StepTodos` must return for what the model returns -/
def TodoRel (g : Gen.Res Int × TSt) (m : Option (Int × St)) : Prop :=
  match m with
  | none => g.1 = .halted
  | some (r, s') => g.1 = .ok r ∧ g.2.st = s'

/-- one iteration of `StepTodos` on the model's state: unfolds the generated loop where it is applied to a
successor and the model, runs the deque / task operations, splits every `if` of either side (simplifying again after
each split) and closes every path (the recursive one by the induction hypothesis) -/
macro "tie_todos_simp" loopdef:ident hs:ident : tactic => `(tactic| (
  simp only [$loopdef:ident, stepTodosO, $hs:ident, Gen.M.bind, Gen.M.pure, Gen.Clocked_Tick, t_clockNow_eq, t_frontWhen_eq,
    t_popFront_eq, t_runTask_eq, t_todosEmpty_eq, gen_minDuration, gen_remaining_l, gen_timeLeft_l,
    Gen.Unlimited_Remaining, Gen.Unlimited_TimeLeft, Gen.ZeroLimited_Remaining, Gen.ZeroLimited_TimeLeft,
    Deadline.now, Deadline.tick, body_upd]))

macro "tie_todos_step" loopdef:ident ih:ident hs:ident : tactic => `(tactic| (
  tie_todos_simp $loopdef $hs
  repeat' (split <;> (try tie_todos_simp $loopdef $hs))
  all_goals (try simp only [*, if_true, if_false, not_true_eq_false, not_false_eq_true, Bool.false_eq_true])
  all_goals first
    | (simp [TodoRel, Deadline.remaining, Deadline.timeLeft, Gen.M.pure]; done)
    | (simp_all [TodoRel, Deadline.remaining, Deadline.timeLeft, Gen.M.pure]; done)
    | (exfalso; simp_all; done)
    | (refine $ih:ident _ _ ?_; simp_all; done)))

theorem stepTodos_limited_loop (fuel : Nat) (d0 dl : Int) : ∀ (n : Nat) (s : St) (c : Option Entry), s.todos ≠ [] →
    TodoRel (Gen.StepTodos_Limited_loop1 todoWorld fuel d0 dl n s.now ⟨s, c⟩) (stepTodosO n (.limited s.now dl) s) := by
  intro n
  induction n with
  | zero => intro s c _; simp [Gen.StepTodos_Limited_loop1, stepTodosO, TodoRel, Gen.M.halt]
  | succ n ih =>
    intro s c hne
    cases hs : s.todos with
    | nil => exact absurd hs hne
    | cons front rest =>
      tie_todos_step Gen.StepTodos_Limited_loop1 ih hs

theorem stepTodos_unlimited_loop (fuel : Nat) (d0 : Int) : ∀ (n : Nat) (s : St) (c : Option Entry), s.todos ≠ [] →
    TodoRel (Gen.StepTodos_Unlimited_loop1 todoWorld fuel d0 n s.now ⟨s, c⟩) (stepTodosO n (.unlimited s.now) s) := by
  intro n
  induction n with
  | zero => intro s c _; simp [Gen.StepTodos_Unlimited_loop1, stepTodosO, TodoRel, Gen.M.halt]
  | succ n ih =>
    intro s c hne
    cases hs : s.todos with
    | nil => exact absurd hs hne
    | cons front rest =>
      tie_todos_step Gen.StepTodos_Unlimited_loop1 ih hs

theorem stepTodos_zero_loop (fuel : Nat) (d0 : Int) : ∀ (n : Nat) (s : St) (c : Option Entry), s.todos ≠ [] →
    TodoRel (Gen.StepTodos_Zero_loop1 todoWorld fuel d0 n s.now ⟨s, c⟩) (stepTodosO n (.zero s.now) s) := by
  intro n
  induction n with
  | zero => intro s c _; simp [Gen.StepTodos_Zero_loop1, stepTodosO, TodoRel, Gen.M.halt]
  | succ n ih =>
    intro s c hne
    cases hs : s.todos with
    | nil => exact absurd hs hne
    | cons front rest =>
      tie_todos_step Gen.StepTodos_Zero_loop1 ih hs

/-- **tie of `Driver::DriverImpl::StepTodos<Deadline>`**, one theorem per instantiation: run on the model's state (any
list of ToDos, any task bodies, any clock) with the deadline object constructed at the current clock reading, the
function generated from the C++ source halts exactly when the model's fuel runs out and otherwise returns the model's
remaining time and leaves the model's state (list, clock, ghost log of the invocations in order) -/
theorem tie_StepTodos_Limited (fuel : Nat) (dl : Int) (s : St) (c : Option Entry) (hne : s.todos ≠ []) :
    TodoRel (Gen.StepTodos_Limited todoWorld fuel s.now dl ⟨s, c⟩) (stepTodosO fuel (.limited s.now dl) s) :=
  stepTodos_limited_loop fuel s.now dl fuel s c hne

theorem tie_StepTodos_Unlimited (fuel : Nat) (s : St) (c : Option Entry) (hne : s.todos ≠ []) :
    TodoRel (Gen.StepTodos_Unlimited todoWorld fuel s.now ⟨s, c⟩) (stepTodosO fuel (.unlimited s.now) s) :=
  stepTodos_unlimited_loop fuel s.now fuel s c hne

theorem tie_StepTodos_Zero (fuel : Nat) (s : St) (c : Option Entry) (hne : s.todos ≠ []) :
    TodoRel (Gen.StepTodos_Zero todoWorld fuel s.now ⟨s, c⟩) (stepTodosO fuel (.zero s.now) s) :=
  stepTodos_zero_loop fuel s.now fuel s c hne

/-- ... and therefore `ToDos.stepTodos` itself whenever the fuel suffices (`stepTodosO_sound`) -/
theorem tie_StepTodos_model (fuel : Nat) (timeoutMs : Int) (s : St) (r : Int × St)
    (h : stepTodosO fuel (Deadline.make timeoutMs s.now) s = some r) :
    stepTodos fuel (Deadline.make timeoutMs s.now) s = r :=
  stepTodosO_sound fuel _ s r h
end SockModel.Props.C06
