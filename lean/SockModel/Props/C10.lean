import SockModel.Spec.C10
import SockModel.Generated.Funcs
import SockModel.Basic.TieTactic
/-!
# C10  BufferPool accounting and recycling, including the sockets' receive pools

The property theorems (pool histories, then the receive pools with the notion `Warm`), then the ties; what `get`,
`recycle`, `fill`, `rx` do and the invariant are in `Model/PoolLemmas.lean`.
Every statement quantifies over *all* histories `ops` (any length, any release
order).  Concurrency: `Get` and `Recycle` are each atomic under `m_mtx`, so an
interleaving of any number of threads *is* a history.
`n < sizeMax` is the fact that `maxCount` is a `size_t`.
-/
namespace SockModel.Pool

/-- "A pool created with limit N > 0 never has more than N buffers outstanding
(the N+1st Get throws and changes nothing)". -/
theorem pool_limit (n r : Nat) (hpos : 0 < n) (hn : n < sizeMax) (ops : List Op) :
    let p := run (create n r) ops
    p.busy.length ≤ n ∧
    (p.busy.length = n → get p = .outOfBuffers ∧ step p .get = p) := by
  intro p
  have h : PoolInv n r p := inv_run_create n r hn ops
  have hc := (h.conserv hpos).1
  refine ⟨by omega, fun hfull => ?_⟩
  have hidle : p.idle = [] := List.eq_nil_of_length_eq_zero (by omega)
  have hget : get p = .outOfBuffers := get_full hidle (h.idle_nil_full hpos hn hidle).2
  exact ⟨hget, by simp only [step, hget]⟩

/-- "a pool with N = 0 never refuses" (as long as fewer than 2^64 buffers are
outstanding, i.e. always on a real machine). -/
theorem pool_unlimited (r : Nat) (ops : List Op) :
    let p := run (create 0 r) ops
    p.busy.length < sizeMax → ∃ b p', get p = .ok b p' := by
  intro p hlen
  have h : PoolInv 0 r p := inv_run_create 0 r (by simp [sizeMax]) ops
  have hm := h.maxM1
  rw [maxM1_zero] at hm
  cases hi : p.idle with
  | nil => exact ⟨_, _, get_alloc hi (by omega)⟩
  | cons b rest => exact ⟨_, _, get_idle hi⟩

/-- "every Get yields a buffer that is empty, distinct from all other
outstanding buffers and, for pre-allocated pools, already has the reserved
capacity". -/
theorem pool_get_fresh (n r : Nat) (hn : n < sizeMax) (ops : List Op) (b : BufId) (p' : Pool) :
    let p := run (create n r) ops
    get p = .ok b p' →
      b ∉ p.busy ∧ p'.busy = p.busy ++ [b] ∧ p'.busy.Nodup ∧ p'.len b = 0 ∧
      (0 < n → r ≤ p'.cap b) := by
  intro p hg
  have h : PoolInv n r p := inv_run_create n r hn ops
  have h' : PoolInv n r p' := inv_get hn h hg
  exact ⟨(h.get_ok hn hg).1, get_ok_busy hg, (List.nodup_append.mp h'.nodup).2.1, get_ok_len hg,
    fun hpos => h'.capRes hpos b ((h.get_ok hn hg).2 hpos).2.1⟩

/-- "a pool never creates a new buffer while it has an idle one"; pre-allocated
pools never allocate after construction. -/
theorem pool_conservation (n r : Nat) (hn : n < sizeMax) (ops : List Op) :
    let p := run (create n r) ops
    (0 < n → p.idle.length + p.busy.length = n ∧ p.next = n) ∧
    (∀ b p', get p = .ok b p' → p.idle ≠ [] → p'.next = p.next ∧ p.idle.head? = some b) := by
  intro p
  refine ⟨(inv_run_create n r hn ops).conserv, fun b p' hg hne => ?_⟩
  rcases get_ok_cases hg with ⟨rest, hi, rfl⟩ | ⟨hi, _⟩
  · exact ⟨rfl, by rw [hi]; rfl⟩
  · exact absurd hi hne

/-- "Releasing a buffer - on any thread, in any order - makes that same buffer
available again with its storage intact". -/
theorem pool_release_reuse (n r : Nat) (ops : List Op) (b : BufId) (p' : Pool) :
    let p := run (create n r) ops
    recycle p b = some p' →
      ∃ p'', get p' = .ok b p'' ∧ p''.cap b = p.cap b ∧ p''.next = p.next := by
  intro p hr
  obtain ⟨_, rfl⟩ := recycle_some hr
  exact ⟨_, get_idle rfl, rfl, rfl⟩

/-- one operation never shrinks the storage of an existing buffer and never forgets a buffer id -/
theorem step_capacity_monotone (p : Pool) (op : Op) (b : BufId) (hb : b < p.next) :
    p.cap b ≤ (step p op).cap b ∧ p.next ≤ (step p op).next := by
  cases op with
  | get =>
    simp only [step]
    cases hg : get p with
    | outOfBuffers => exact ⟨Nat.le_refl _, Nat.le_refl _⟩
    | ok b' p' =>
      rcases get_ok_cases hg with ⟨_, _, rfl⟩ | ⟨_, _, rfl, rfl⟩
      · exact ⟨Nat.le_refl _, Nat.le_refl _⟩
      · exact ⟨by simp only [upd_other _ _ _ _ (Nat.ne_of_lt hb)]; exact Nat.le_refl _, Nat.le_succ _⟩
  | rel b' =>
    simp only [step]
    cases hr : recycle p b' with
    | none => exact ⟨Nat.le_refl _, Nat.le_refl _⟩
    | some p' => obtain ⟨_, rfl⟩ := recycle_some hr; exact ⟨Nat.le_refl _, Nat.le_refl _⟩
  | fill b' m => exact ⟨(fill_cap p b' m b).1, Nat.le_of_eq (fill_next p b' m).symm⟩

/-- "with its storage intact", over whole histories: whatever Get / release / write
operations follow, in any order and on any thread, the capacity of a buffer the pool
owns never shrinks (so a recycled buffer still has everything it ever reserved or grew to). -/
theorem pool_capacity_monotone (p : Pool) (ops : List Op) (b : BufId) (hb : b < p.next) :
    p.cap b ≤ (run p ops).cap b ∧ p.next ≤ (run p ops).next := by
  induction ops generalizing p with
  | nil => exact ⟨Nat.le_refl _, Nat.le_refl _⟩
  | cons op ops ih =>
    have h1 := step_capacity_monotone p op b hb
    have h2 := ih (step p op) (by omega)
    simp only [run, List.foldl_cons] at h2 ⊢
    omega

/-- `pool_capacity_monotone` along a history from `create`: what a buffer had grown to after `ops1` it still has
after any continuation `ops2`, so a later Get of it finds at least that capacity -/
theorem pool_get_keeps_growth (n r : Nat) (ops1 ops2 : List Op) (b : BufId)
    (hb : b < (run (create n r) ops1).next) :
    (run (create n r) ops1).cap b ≤ (run (create n r) (ops1 ++ ops2)).cap b := by
  have := pool_capacity_monotone (run (create n r) ops1) ops2 b hb
  simpa [run, List.foldl_append] using this.1

example : (run (create 1 8) [.get, .fill 0 100, .rel 0, .get]).cap 0 = 100 := by decide

/-- releasing is possible exactly for outstanding buffers, in any order -/
theorem pool_release_any_order (p : Pool) (b : BufId) :
    (recycle p b).isSome ↔ b ∈ p.busy := by
  unfold recycle; split <;> simp_all

/-! ### receive pools of buffered / async sockets -/

/-- "Buffered and asynchronous sockets return their receive buffer on every path
(timeout, error, peer close), so a socket configured with N receive buffers can
always receive while the user holds fewer than N": after *any* history of
receives (every outcome) and drops, the pool's outstanding buffers are exactly
the ones the user holds, and the next receive obtains a buffer. -/
theorem rx_pool_always_available (n size : Nat) (hpos : 0 < n) (hn : n < sizeMax)
    (ops : List RxOp) (o : RxOutcome) :
    let s := rxRun size { pool := create n size, held := [] } ops
    s.pool.busy = s.held ∧
    (s.held.length < n → rx s.pool size o ≠ .outOfBuffers) := by
  intro s
  obtain ⟨hinv, hheld⟩ := rx_inv hn (s0 := ⟨create n size, []⟩) ⟨inv_create n size, rfl⟩ ops
  refine ⟨hheld, fun hlt => ?_⟩
  cases hi : s.pool.idle with
  | nil => rw [← hheld, (hinv.idle_nil_full hpos hn hi).1] at hlt; exact absurd hlt (Nat.lt_irrefl _)
  | cons b rest =>
    obtain ⟨q, _, hrx⟩ := rx_of_get_ok size o (get_idle hi)
    rw [hrx]
    cases o <;> exact fun h => RxRes.noConfusion h

/-- every buffer the receive pool knows already has room for a full receive -/
def Warm (size : Nat) (p : Pool) : Prop := ∀ b, b < p.next → size ≤ p.cap b

theorem warm_fill {size : Nat} {p : Pool} (b m : Nat) (h : Warm size p) : Warm size (fill p b m) :=
  fun x hx => Nat.le_trans (h x (by simpa using hx)) (fill_cap p b m x).1

theorem warm_recycle {size : Nat} {p q : Pool} {b : Nat} (h : Warm size p) (hr : recycle p b = some q) :
    Warm size q := by
  obtain ⟨_, rfl⟩ := recycle_some hr
  exact h

/-- `GetBuffer()` = `Get` + `resize(rxBufSize)`: the pool is warm again afterwards, whether the
buffer was idle or newly created -/
theorem warm_get_fill {size : Nat} {p p1 : Pool} {b : Nat} (h : Warm size p) (hg : get p = .ok b p1) :
    Warm size (fill p1 b size) := by
  have hb : b ∈ p1.busy := by simp [get_ok_busy hg]
  rcases get_ok_cases hg with ⟨_, _, rfl⟩ | ⟨_, _, rfl, rfl⟩
  · exact warm_fill _ _ h
  · intro x hx
    by_cases hxb : x = p.next
    · subst hxb; exact (fill_cap _ _ _ p.next).2 hb
    · have hx' : x < p.next := by simp only [fill_next] at hx; omega
      refine Nat.le_trans (h x hx') (Nat.le_trans ?_ (fill_cap _ _ _ _).1)
      simp only [upd_other _ _ _ _ hxb]; exact Nat.le_refl _

/-- "malloc counts around Get on a warm pool": on a socket with `rxBufCount = n` (any `n`, also the
unlimited `0`) and `rxBufSize = size`, after *any* history of receives (every outcome) and drops,
every buffer the pool knows has capacity for a full receive - so the `resize(rxBufSize)` of a receive
that reuses a buffer never reallocates, and only a receive that creates a new buffer allocates. -/
theorem rx_pool_stays_warm (n size : Nat) (ops : List RxOp) :
    Warm size (rxRun size { pool := create n size, held := [] } ops).pool := by
  have hinit : Warm size (create n size) := by
    intro b hb
    have : b < n := hb
    simp [create, this]
  suffices H : ∀ (s : RxState), Warm size s.pool → Warm size (rxRun size s ops).pool from H _ hinit
  induction ops with
  | nil => exact fun _ h => h
  | cons op ops ih =>
    intro s h
    apply ih
    rcases rxStep_cases size s op with e | ⟨b, p1, m, hg, e⟩ | ⟨b, p1, q, hg, hq, e⟩ | ⟨b, q, hq, e⟩ <;> rw [e]
    · exact h
    · exact warm_fill b m (warm_get_fill h hg)
    · exact warm_recycle (warm_get_fill h hg) hq
    · exact warm_recycle h hq

/-- a reused receive buffer needs no growth: the buffer a receive obtains from a non-empty idle stack
already has capacity `≥ rxBufSize` -/
theorem rx_reuse_no_growth (n size : Nat) (hn : n < sizeMax) (ops : List RxOp) (b : BufId) (p1 : Pool) :
    let s := rxRun size { pool := create n size, held := [] } ops
    get s.pool = .ok b p1 → s.pool.idle ≠ [] → size ≤ s.pool.cap b ∧ p1.cap b = s.pool.cap b := by
  intro s hg hne
  rcases get_ok_cases hg with ⟨rest, hi, rfl⟩ | ⟨hi, _⟩
  · have hinv : PoolInv n size s.pool := (rx_inv hn (s0 := ⟨create n size, []⟩) ⟨inv_create n size, rfl⟩ ops).1
    have hlt : b < s.pool.next := hinv.below b (List.mem_append_left _ (hi ▸ List.mem_cons_self))
    exact ⟨rx_pool_stays_warm n size ops b hlt, rfl⟩
  · exact absurd hi hne

example : (rxRun 8 { pool := create 0 8, held := [] } [.rx (.value 3), .drop 0, .rx .nothing]).pool.cap 0 = 8 := by
  decide

/-- the predicate `./check C10` evaluates on the implementation's observations (`Spec/C10.lean`:
`specGetOk`, `specGetThrow`) accepts every trace of the model, for every `(N, reserve)` and every history -/
theorem spec_holds_on_model (n r : Nat) (hn : n < sizeMax) (ops : List Op) (hlen : ops.length < sizeMax - 1) :
    ∃ s, specRun n r {} (modelTrace (create n r) ops) = .ok s :=
  model_satisfies_spec n r hn ops hlen

/-! ### non-vacuity: concrete non-trivial states meet the hypotheses -/

example : (run (create 2 64) [.get, .get, .rel 1, .get]).busy = [0, 1] := by decide
example : get (run (create 2 64) [.get, .get]) = .outOfBuffers → True := fun _ => trivial
example : (rxRun 8 { pool := create 1 8, held := [] } [.rx .nothing, .rx .exn, .rx (.value 3)]).held = [0] := by
  decide

end SockModel.Pool

/-! ## Source-derived tie (DESIGN.md §0.7)

`SockModel.Gen.*` (Generated/Funcs.lean) is regenerated on every run by tools/cxx2lean.py from the clang AST of
the CURRENT /repo/src: BufferPool::BufferPool (m_maxCount) and the decision structure of BufferPool::Get.
Each theorem below states that the generated function and the hand-written model function agree for ALL
arguments; a change of the C++ function changes the generated definition and the theorem stops checking. -/
namespace SockModel.Props.C10
open SockModel SockModel.Pool

theorem tie_create_maxM1 (n reserve : Nat) :
    Gen.BufferPool_m_maxCount n = ((create n reserve).maxM1 : Int) := by
  simp only [Gen.BufferPool_m_maxCount, create, sizeMax]
  omega

/-- the decision structure of the model's `get` -/
def modelGetChoice (maxM1 : Nat) (idleEmpty : Bool) (busySize : Nat) : Gen.GetChoice :=
  if idleEmpty then (if busySize ≤ maxM1 then .allocateNew else .throwOutOfBuffers) else .reuseIdleTop true

/-- ... and that it is: each choice determines the result of the model's `get` completely -/
theorem model_get_choice (p : Pool) :
    match modelGetChoice p.maxM1 p.idle.isEmpty p.busy.length with
    | .allocateNew =>
      Pool.get p = .ok p.next { p with busy := p.busy ++ [p.next], next := p.next + 1,
                                       len := upd p.len p.next 0, cap := upd p.cap p.next 0 }
    | .throwOutOfBuffers => Pool.get p = .outOfBuffers
    | .reuseIdleTop clear =>
      ∃ b rest, p.idle = b :: rest ∧
        Pool.get p = .ok b { p with idle := rest, busy := p.busy ++ [b],
                                    len := if clear then upd p.len b 0 else p.len } := by
  unfold modelGetChoice
  cases hi : p.idle with
  | nil =>
    by_cases hb : p.busy.length ≤ p.maxM1
    · simpa [hb, hi] using get_alloc hi hb
    · simpa [hb, hi] using get_full hi hb
  | cons b rest => exact ⟨b, rest, rfl, get_idle hi⟩

/-- `BufferPool::Get` as compiled from the current source takes the same path as the model's `get` for every
`m_maxCount`, `m_idle.empty()` and `m_busy.size()` -/
theorem tie_get (maxM1 : Nat) (idleEmpty : Bool) (busySize : Nat) :
    Gen.BufferPool_Get maxM1 idleEmpty busySize = modelGetChoice maxM1 idleEmpty busySize := by
  cases idleEmpty <;> simp only [Gen.BufferPool_Get, modelGetChoice] <;> tie_choice
end SockModel.Props.C10
