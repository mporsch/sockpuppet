import SockModel.Spec.C09
import SockModel.Model.GenQueueWorld
import SockModel.Generated.Loops
/-!
# C09  UDP datagrams: boundaries, payload, source and destination preserved

The property theorems (model: `Model/Udp.lean`, invariants: `Model/UdpLemmas.lean`; the executable
property predicate, the composed model `sysStep` and `model_satisfies_spec`: `Spec/C09.lean`), then the
source-derived tie of `DriverSendTo`.
Sockets are named by the ordinal of their bound address.  The network assumption
(loopback, receive queue not overrun: a successful `sendto` appends the datagram
with the sender's bound address to the destination's FIFO) is the definition of
`NetOp.deliver`; everything else is derived for *all* histories of sends and
receives by any number of senders and receivers, all datagram sizes (0 included)
and all receive-buffer sizes.
-/
namespace SockModel.Udp
open SockModel.AsyncQ (Bytes Fut upd upd_same upd_other)

/-- "SendTo returns the full size, or 0 only when a limited timeout expired, never a partial
count": for every size, timeout, wait outcome and `sendto` answer the call returns `len`, or `0`
because a limited (`≥ 0`) wait timed out (then no datagram left), or throws; a datagram left
with a returned count only if the count is `len`. -/
theorem sendTo_all_or_nothing (len : Nat) (timeoutMs : Int) (w : WaitAns) (a : SendAns) :
    (∀ n, (sendTo len timeoutMs w a).1 = .ret n →
        (n = len ∧ (sendTo len timeoutMs w a).2 = true ∧ a = .accept len) ∨
        (n = 0 ∧ 0 ≤ timeoutMs ∧ w = .timedOut ∧ (sendTo len timeoutMs w a).2 = false)) ∧
    ((sendTo len timeoutMs w a).1 = .logicError → ∃ k, a = .accept k ∧ k ≠ len) ∧
    ((sendTo len timeoutMs w a).1 = .systemError → a = .fail ∧ (sendTo len timeoutMs w a).2 = false) ∧
    (timeoutMs < 0 → a = .accept len → sendTo len timeoutMs w a = (.ret len, true)) := by
  unfold sendTo
  by_cases hc : 0 ≤ timeoutMs ∧ w = .timedOut
  · rw [if_pos hc]
    exact ⟨fun n hn => .inr ⟨(SendRes.ret.inj hn).symm, hc.1, hc.2, rfl⟩, nofun, nofun,
      fun ht => absurd hc.1 (by omega)⟩
  · rw [if_neg hc]
    cases a with
    | fail => exact ⟨nofun, nofun, fun _ => ⟨rfl, rfl⟩, nofun⟩
    | accept k =>
      by_cases hk : k = len
      · subst hk; simp [sendNow]
      · simp [sendNow, hk]

/-- "Every datagram a UDP socket reports was sent by some SendTo with exactly that payload (its
prefix when the caller's buffer is smaller) ... and comes with the sender's bound address":
one receive with `size` bytes of room (the caller's size, or `rxBufSize` for the buffered and
asynchronous levels, whose buffer is resized to the received count) reports the datagram's
payload truncated to `size` - the whole payload when it fits - and its source; on a non-empty
FIFO it removes exactly the oldest datagram and adds exactly that one report. -/
theorem recvFrom_prefix_source (n : Net) (r size : Nat) (d : Dgram) (rest : List Dgram) (hc : n.chan r = d :: rest) :
    let n' := netStep n (.recv r size)
    n'.chan r = rest ∧
    n'.reports r = n.reports r ++ [⟨d.payload.take size, d.src⟩] ∧
    (d.payload.take size) <+: d.payload ∧
    (d.payload.length ≤ size → d.payload.take size = d.payload) ∧
    (∀ x, x ≠ r → n'.chan x = n.chan x ∧ n'.reports x = n.reports x) := by
  simp only [netStep, hc]
  exact ⟨updL_same _ _ _, by simp [receiveFrom], List.take_prefix _ _, fun h => List.take_of_length_le h,
    fun x hx => ⟨updL_other _ _ _ _ hx, updL_other _ _ _ _ hx⟩⟩

/-- "is reported at most once ... on a loss-free path every sent datagram, empty ones included,
arrives exactly once and in order": after any history `ops` of successful sends (any senders, any
payloads) and receives (any receivers, any sizes), for every receiving socket `r` the datagrams
addressed to it, in the order their `sendto`s took effect, are exactly the ones already taken by
receives (in that order, each once) followed by the ones still queued; and the reports are,
one for one and in order, the taken datagrams truncated to the room of the receive that took
them, each with its sender's address. -/
theorem udp_lossless_in_order (ops : List NetOp) (r : Nat) :
    let n := netRun {} ops
    deliveredTo r ops = (n.removed r).map (·.1) ++ n.chan r ∧
    n.reports r = (n.removed r).map (fun x => (⟨x.1.payload.take x.2, x.1.src⟩ : Report)) := by
  intro n
  have h : NetInv n := netInv_run netInv_init ops
  have ha := arrived_run {} ops r
  refine ⟨?_, ?_⟩
  · have := h.arrived r
    rw [ha] at this
    simpa using this
  · exact h.reports r

/-- "later datagrams are not held up by a failed one": when the `sendto` of the front element
fails, exactly that element's future gets the exception, its buffer is returned, it is popped,
nothing was handed to the OS; the queue stays armed and the very next writable event sends the
next element, whose future gets its value - the failed one keeps its exception. -/
theorem asyncSendTo_isolated_failure (acts : List TAct) (e : TElem) (rest : List TElem) :
    let s := tqRun {} acts
    s.q = e :: rest →
    let s1 := tqStep s (.writable .fail)
    s1.fut e.id = .exn ∧ s1.q = rest ∧ s1.sent = s.sent ∧ e.id ∈ s1.returned ∧
    (∀ e2 rest2, rest = e2 :: rest2 →
      let s2 := tqStep s1 (.writable .ok)
      s1.armed = true ∧ s2.sent = s.sent ++ [e2] ∧ s2.fut e2.id = .value ∧ s2.fut e.id = .exn ∧ s2.q = rest2) := by
  intro s hq s1
  have h : TInv s := tInv_run tInv_init acts
  have hdes : s.destroyed = false := by
    cases hd : s.destroyed with
    | false => rfl
    | true => have := h.destr hd; rw [hq] at this; cases this
  have harm : s.armed = true := (h.armedInv hdes).mpr (by rw [hq]; simp)
  have hs1 : s1 = { s with q := rest, fut := upd s.fut e.id .exn, returned := s.returned ++ [e.id],
                           done := s.done ++ [(e, .exn)], armed := !rest.isEmpty } :=
    tq_writable hdes harm hq .fail
  rw [hs1]
  refine ⟨upd_same _ _ _, rfl, rfl, by simp, ?_⟩
  intro e2 rest2 hr s2
  have hne : e.id ≠ e2.id := by
    have hn := h.nodup
    rw [h.ids, hq, hr] at hn
    have := (List.nodup_append.mp hn).2.1
    simp only [List.map_cons, List.nodup_cons, List.mem_cons, not_or] at this
    exact this.1.1
  subst hr
  simp [s2, tqStep, hdes, upd_other _ _ _ _ hne]

/-- "the future of an asynchronous SendTo resolves once the datagram was handed to the OS or
carries the error": in every reachable state the datagrams handed to the OS are exactly the
enqueued ones whose future holds a value - in `SendTo` order, each exactly once, with their
payload and destination; a future with an exception or a broken one never reached the OS. -/
theorem asyncSendTo_future_truth (acts : List TAct) :
    let s := tqRun {} acts
    s.sent = s.enqd.filter (fun e => s.fut e.id = .value) ∧ (s.enqd.map (·.id)).Nodup ∧
    (∀ id, id ∈ s.returned ↔ (s.fut id).resolved = true) := by
  intro s
  have h : TInv s := tInv_run tInv_init acts
  refine ⟨?_, h.nodup, h.returned_iff⟩
  rw [h.enqd, List.filter_append, h.sent]
  have hq : s.q.filter (fun e => s.fut e.id = .value) = [] := by
    apply List.filter_eq_nil_iff.mpr
    intro e he; simp [h.futq e he]
  rw [hq, List.append_nil, List.filter_map]
  congr 1
  apply List.filter_congr
  intro d hd
  simp [(h.futd d hd).1]

/-- the predicate `./check C09` evaluates on the implementation's observations (`Spec/C09.lean`:
`specStep` with `specSendTo`, `specReport`, `specEv`, `specRecv`, `specState`) accepts every trace of
the composed model (`sysStep`: `sendTo` + datagram network + per-socket `SendToQ` + the driver's
dispatch order), for every history of operations of any length with arbitrary arguments and OS
answers; operations the harness does not perform are no-ops of the model.  No hypothesis. -/
theorem spec_holds_on_model (history : List Op) : ∃ s, specRun {} (modelTrace {} history) = .ok s :=
  model_satisfies_spec history

/-! ### non-vacuity -/

example : sendTo 5 100 .timedOut (.accept 5) = (.ret 0, false) := by decide
example : sendTo 5 (-1) .timedOut (.accept 5) = (.ret 5, true) := by decide
example : sendTo 5 0 .ready (.accept 3) = (.logicError, true) := by decide
example : sendTo 0 0 .ready (.accept 0) = (.ret 0, true) := by decide

/-- two senders, one receiver, an empty datagram, a truncating receive -/
example :
    (netRun {} [.deliver 1 0 [7, 8, 9], .deliver 2 0 [], .recv 0 2, .deliver 1 0 [5], .recv 0 10, .recv 0 10]).reports 0
      = [⟨[7, 8], 1⟩, ⟨[], 2⟩, ⟨[5], 1⟩] := by decide

example :
    let s := tqRun {} [.enq 1 [1] 0, .enq 2 [2] 0, .enq 3 [] 5, .writable .ok, .writable .fail, .writable .ok]
    s.sent = [⟨1, [1], 0⟩, ⟨3, [], 5⟩] ∧ s.fut 2 = .exn ∧ s.armed = false := by decide

end SockModel.Udp

/-! ## Source-derived tie, stage 4 (DESIGN.md §0.7.3): `SocketAsyncImpl::DriverSendTo`

The UDP twin of the tie in Props/C02.lean: `Gen.DriverSendTo` (Generated/Loops.lean, from the clang AST of
src/socket_async_impl.cpp) run on the model's own `SendToQ` state (`tqWorld`, Model/GenQueueWorld.lean) and tied to
`tqStep _ (.writable _)` for every queue, every future state and every answer of the OS. -/
namespace SockModel.Props.C09
open SockModel SockModel.Udp SockModel.GenWorld
open SockModel.AsyncQ (Bytes Fut upd upd_same upd_other)

/-- the model's queue after a writable event, from what the generated `DriverSendTo` returns and leaves behind: the
return value ("queue emptied") is what makes `DoOneSocketTask` disarm `POLLOUT`; an exception leaves it armed -/
def afterTqWritable (r : Gen.Res Bool × TQSt) : TQ :=
  match r.1 with
  | .ok b => { r.2.s with armed := !b }
  | _ => r.2.s

theorem isA_sys_rt_udp : Gen.ExnClass.isA .system_error .runtime_error = true := rfl

/-- **tie of `SocketAsyncImpl::DriverSendTo`**: one writable event of an armed, live UDP socket.  As in
`Props.C02.tie_DriverSend`: every generated `if` is decided by `omega`, whatever its polarity and arithmetic form. -/
theorem tie_DriverSendTo (fuel : Nat) (s : TQ) (a : TAns) (hd : s.destroyed = false) (ha : s.armed = true) :
    afterTqWritable (Gen.DriverSendTo tqWorld fuel ⟨s, some a⟩) = tqStep s (.writable a) := by
  obtain ⟨q, armed, destroyed, fut, sent, returned, enqd, done⟩ := s
  simp only at hd ha
  subst hd ha
  cases q <;> cases a <;>
    simp (disch := omega) only [Gen.DriverSendTo, Gen.M.bind, Gen.M.pure, Gen.M.throw, Gen.M.tryCatch, isA_sys_rt_udp,
      t_qSize, t_qEmpty, t_qPop, t_bufferSize, t_promiseSetValue, t_promiseSetException, t_sockSendTo, List.length_cons,
      List.length_nil, List.isEmpty_cons, List.isEmpty_nil, if_pos, if_neg, if_true, if_false, ite_true, ite_false,
      Bool.true_eq_false, Bool.false_eq_true, Int.toNat_natCast, upd_same] <;>
    simp [afterTqWritable, tqStep, dec_len]

/-- the UDP enqueue side is the same template as the TCP one (tied to the model in Props/C02 `tie_AsyncSend`): for
EVERY world, `SendTo` does what `Send` does - lock, read `q.empty()`, `emplace`, unlock, arm iff the queue was empty -/
theorem tie_AsyncSendTo {ω : Type} (W : Gen.QueueWorld ω) (fuel : Nat) : Gen.AsyncSendTo W fuel = Gen.AsyncSend W fuel := by
  funext w
  simp only [Gen.AsyncSendTo, Gen.AsyncSend]
end SockModel.Props.C09
