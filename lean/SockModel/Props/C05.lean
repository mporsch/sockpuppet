import SockModel.Spec.C04
/-!
# C05  The driver always yields and always wakes: no deadlock, no lost wake-up

Same transition system as C04.  `Tr s false s'` are the transitions threads take on their own;
`Tr s true s'` are starts of new calls and events of the environment (socket readiness, poll
timeout).  The theorems below assume NO help from the environment: unlimited timeout, no traffic.
-/
namespace SockModel.Locks

/-- "no lost wake-up": whenever a user thread has sent its wake-up datagram and waits for
`stepMtx` while the driver is blocked in `poll`, the pipe is readable - the poll returns whatever
its timeout; the same holds if the driver has not even reached the poll yet. -/
theorem no_lost_wakeup {s : St} (h : Reach s) (t : Tid) (hu : s.u t = .waitStep) :
    (∀ r, s.d = .atPoll r → 0 < s.pipe) ∧ (∀ r, s.d = .inStep r → 0 < s.pipe) ∧
    (∀ r, s.d = .wantStep r → 0 < s.pipe) := by
  have hw := (inv_reach h).wake t hu
  refine ⟨?_, ?_, ?_⟩ <;> intro r hd <;> rw [hd] at hw <;> simpa [DPc.leaving] using hw

/-- "returns after the driver has completed at most a small bounded number of further steps":
while a user thread holds `pauseMtx` (from before its wake-up datagram until it owns `stepMtx`) the
driver cannot pass `~StepGuard`, i.e. it cannot begin another step after the one in progress. -/
theorem bounded_handover {s s' : St} {b : Bool} (h : Reach s) (t : Tid)
    (hu : (s.u t).ownsPause = true) (tr : Tr s b s') : ∀ r, s'.d ≠ .holdPause r := by
  obtain ⟨hown, hnh⟩ := (inv_reach h).pause_user hu
  intro r hd'
  -- only `dLockPause` enters `holdPause`, and `pauseMtx` is taken
  cases tr with
  | dLockPause _ hp => rw [hown] at hp; cases hp
  | dUnlockPause => rename_i r' _; cases r' <;> cases hd'
  | dRunEnter | dRunExit | dRunGo | dStepEnter | dLockStep | dToPoll | dPollPipe | dPollOther | dUnlockStep =>
    cases hd'
  | dStop | uTryOk | uTryFail | uLockPause | uBump | uLockStep | uRelPause | uUnlock | uStopSet | uStopBump =>
    exact hnh r hd'

/-- "No interleaving of any number of such calls deadlocks": in every reachable state in which some
management call or Stop is under way, some thread can take a step on its own - without any socket
event, timeout or new call.  (The only states without such a step have every user thread idle:
the legitimate "driver sleeps in poll, nothing to do" state.) -/
theorem no_deadlock {s : St} (h : Reach s) (t : Tid) (hbusy : s.u t ≠ .idle) : ∃ s', Tr s false s' := by
  have inv := inv_reach h
  cases hu : s.u t with
  | idle => exact absurd hu hbusy
  | bump => exact ⟨_, Tr.uBump hu⟩
  | waitStep => exact waitStep_progress inv t hu
  | relPause => exact ⟨_, Tr.uRelPause hu⟩
  | crit => exact ⟨_, Tr.uUnlock hu⟩
  | stopBump => exact ⟨_, Tr.uStopBump hu⟩
  | wantPause =>
    cases hp : s.pause with
    | none => exact ⟨_, Tr.uLockPause hu hp⟩
    | drv =>
      obtain ⟨r, hd⟩ := DPc.ownsPause_cases (inv.pauseD.mpr hp)
      exact ⟨_, Tr.dUnlockPause hd⟩
    | usr t' =>
      rcases UPc.ownsPause_cases ((inv.pauseU t').mpr hp) with hut | hut | hut
      · exact ⟨_, Tr.uBump hut⟩
      · exact waitStep_progress inv t' hut
      · exact ⟨_, Tr.uRelPause hut⟩

/-- the driver itself is never stuck inside a step except in `poll` with an empty pipe, or waiting
for a mutex that a user thread holds (which `no_deadlock` shows will be released) -/
theorem driver_progress {s : St} (h : Reach s) :
    (∀ r, s.d = .inStep r → ∃ s', Tr s false s') ∧ (∀ r, s.d = .woke r → ∃ s', Tr s false s') ∧
    (∀ r, s.d = .holdPause r → ∃ s', Tr s false s') ∧
    (∀ r, s.d = .atPoll r → 0 < s.pipe → ∃ s', Tr s false s') :=
  ⟨fun _ hd => ⟨_, Tr.dToPoll hd⟩, fun _ hd => ⟨_, Tr.dUnlockStep hd⟩, fun _ hd => ⟨_, Tr.dUnlockPause hd⟩,
   fun _ hd hp => ⟨_, Tr.dPollPipe hd hp⟩⟩


/-! ### counting the driver's steps while a caller waits -/

/-- the transition is "the driver begins a step" (StepGuard acquired stepMtx) -/
def begins (s s' : St) : Prop := ∃ r, s.d = .wantStep r ∧ s'.d = .inStep r

-- `inferInstance` does not see through the `∃ r`: decide by the two pcs
instance (s s' : St) : Decidable (begins s s') := by
  unfold begins
  cases hd : s.d <;> cases hd' : s'.d <;> first
    | (apply isFalse; rintro ⟨r, h1, h2⟩; simp_all; done)
    | (rename_i r r'
       by_cases hr : r = r'
       · subst hr; exact isTrue ⟨r, rfl, rfl⟩
       · apply isFalse; rintro ⟨r0, h1, h2⟩; cases h1; cases h2; exact hr rfl)

def countBegins : St → List St → Nat
  | _, [] => 0
  | s, s' :: rest => (if begins s s' then 1 else 0) + countBegins s' rest

/-- `Spec.canBeginN` is a potential: beginning a step uses it up, and nothing restores it while `t` holds
`pauseMtx` (`Spec.canBeginN_mono`); so no step at all begins once the driver is past its `StepGuard` -/
theorem handover_count_le {s : St} (h : Reach s) (t : Tid) (path : List St) (hp : Path s path)
    (hold : (s.u t).ownsPause = true) (holds : ∀ x ∈ path, (x.u t).ownsPause = true) :
    countBegins s path ≤ Spec.canBeginN s.d := by
  induction hp with
  | nil s => exact Nat.zero_le _
  | @cons s0 s1 b rest tr _ ih =>
    have hmono := Spec.canBeginN_mono (inv_reach h) hold tr
    have := ih (Reach.step h tr) (holds s1 List.mem_cons_self) (fun x hx => holds x (List.mem_cons_of_mem _ hx))
    simp only [countBegins]
    split
    · rename_i hb
      obtain ⟨r, h0, h1⟩ := hb
      rw [h1] at this; rw [h0]
      exact Nat.add_le_add (Nat.le_refl 1) this
    · omega

/-- "returns after the driver has completed at most a small bounded number of further steps": along
EVERY execution fragment during which a user thread holds `pauseMtx` (i.e. from just before its
wake-up datagram until it owns `stepMtx`), the driver begins AT MOST ONE step - whatever the other
threads do and however the fragment is scheduled. -/
theorem handover_at_most_one_step {s : St} (h : Reach s) (t : Tid) (path : List St) (hp : Path s path)
    (hold : (s.u t).ownsPause = true) (holds : ∀ x ∈ path, (x.u t).ownsPause = true) :
    countBegins s path ≤ 1 :=
  Nat.le_trans (handover_count_le h t path hp hold holds) (Spec.canBeginN_le _)

end SockModel.Locks

/-! ### the run-time oracle is a theorem of the model (`Spec/C04.lean`) -/
namespace SockModel.Locks.C05
open SockModel.Locks.Spec

/-- the predicate `./check C05` evaluates on the implementation's scheduler trace (`Spec/C04.lean`: `specStep`
in mode C05 = monitor `stepB`: "the driver began n steps while T waits for stepMtx after its wake-up
datagram" for n > 1 - the run-time form of `handover_at_most_one_step`; outcomes `deadlock`, `stuck`, `crash`
are failures) accepts every trace of the model, for every history of any length (any number of user threads,
any programs, Stops from any thread).  The model never produces the outcome `deadlock`: that is
`no_deadlock` / `driver_progress` above, not this theorem.  No hypothesis. -/
theorem spec_holds_on_model (history : List MOp) :
    ∃ s, specRun ⟨false, true, false⟩ {} (modelTrace {} history) = .ok s :=
  model_satisfies_spec _ history

/-- non-vacuity: the hand-shake with the driver in `poll` is a model trace; a driver that begins two steps
while the caller waits after its datagram is rejected -/
example : modelTrace {} [.tr .dStepEnter, .tr .dLockStep, .tr .dToPoll, .tr (.uTryFail 3), .tr (.uLockPause 3),
      .tr (.uBump 3), .tr .dPollPipe, .tr .dUnlockStep, .tr .dLockPause, .tr (.uLockStep 3)] =
    [.ev 0 .other, .ev 0 .lockStep, .ev 0 .other, .ev 4 .other, .ev 4 .other, .ev 4 .bump, .ev 0 .other,
     .ev 0 .unlockStep, .ev 4 .lockStep] := by decide
example : accepts ⟨false, true, false⟩
    [.ev 0 .lockStep, .ev 4 .bump, .ev 0 .unlockStep, .ev 0 .lockStep, .ev 0 .unlockStep, .ev 4 .lockStep] = true := by
  decide
example : accepts ⟨false, true, false⟩
    [.ev 0 .lockStep, .ev 4 .bump, .ev 0 .unlockStep, .ev 0 .lockStep, .ev 0 .unlockStep, .ev 0 .lockStep] = false := by
  decide
/-- the datagram of a `Stop()` is not a caller waiting for `stepMtx` -/
example : accepts ⟨false, true, false⟩
    [.ev 4 (.beginStop true), .ev 4 .bump, .ev 4 .endStop, .ev 0 .lockStep, .ev 0 .unlockStep, .ev 0 .lockStep] = true := by
  decide

end SockModel.Locks.C05
