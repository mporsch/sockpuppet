import SockModel.Legacy.UriRegex
import SockModel.Spec.Uri
/-!
# C11  Address construction is total: a value or an exception for every string

Helpers live in `Model/UriLemmas.lean`.  The model (`Model/Uri.lean`) follows the repaired code: `UriDissect` by
plain scans, every function a composition of total list primitives without fuel and without `partial`, so
termination for every input is Lean's acceptance of the definitions.  The theorems add the classification of
the outcome and the bounds of every slice.  That the C++ uses loops rather than recursion (stack use independent
of the length) is not a statement about the model; it is evidenced by the small-stack length ladders of the check
(testing, labelled as such).
-/
namespace SockModel.Uri
open SockModel.Decimal

/-- "Constructing an Address from any URI string ... either yields a usable Address or throws an
exception derived from std::exception": for EVERY byte string the dissection ends in a value or
in one of three named exception classes (`logic_error` = unexpected format, `out_of_range` from
`std::stoll`, `runtime_error` = port out of range).  `invalid_argument` from `std::stoll` ("no
conversion") is impossible: the guard is only reached with at least one digit (`checkRange_ne_invalid`). -/
theorem dissect_total_classified (s : Bytes) :
    (∃ d, dissect s = .ok d) ∨ dissect s = .error .logicError ∨
    dissect s = .error .outOfRange ∨ dissect s = .error .runtimeError := by
  rw [dissect_eq_guarded]
  cases dissectRaw s with
  | none => exact Or.inr (Or.inl rfl)
  | some d =>
    rcases guarded_cases d.serv d with h | h | h
    · exact Or.inl ⟨d, h⟩
    · exact Or.inr (Or.inr (Or.inl h))
    · exact Or.inr (Or.inr (Or.inr h))

/-- the same for the whole of `ParseUri` up to the `getaddrinfo` call; `invalid_argument` exactly
for the empty string -/
theorem parseUri_total_classified (s : Bytes) :
    (∃ c, parseUri s = .ok c) ∨ (s = [] ∧ parseUri s = .error .invalidArgument) ∨
    (s ≠ [] ∧ (parseUri s = .error .logicError ∨ parseUri s = .error .outOfRange ∨
      parseUri s = .error .runtimeError)) := by
  unfold parseUri
  cases s with
  | nil => exact Or.inr (Or.inl ⟨rfl, rfl⟩)
  | cons x xs =>
    simp only [List.isEmpty_cons, Bool.false_eq_true, if_false]
    rcases dissect_total_classified (x :: xs) with ⟨d, h⟩ | h | h | h
    · exact Or.inl ⟨d.toGai, by rw [h]; rfl⟩
    · exact Or.inr (Or.inr ⟨by simp, Or.inl (by rw [h]; rfl)⟩)
    · exact Or.inr (Or.inr ⟨by simp, Or.inr (Or.inl (by rw [h]; rfl))⟩)
    · exact Or.inr (Or.inr ⟨by simp, Or.inr (Or.inr (by rw [h]; rfl))⟩)

/-- "or from any host/service string pair": `ParseHostServ` reaches `getaddrinfo` or throws
`invalid_argument` (an empty argument), `out_of_range` or `runtime_error` -/
theorem parseHostServ_total_classified (host serv : Bytes) :
    (∃ c, parseHostServ host serv = .ok c) ∨
    ((host = [] ∨ serv = []) ∧ parseHostServ host serv = .error .invalidArgument) ∨
    (host ≠ [] ∧ serv ≠ [] ∧ (parseHostServ host serv = .error .outOfRange ∨
      parseHostServ host serv = .error .runtimeError)) := by
  cases host with
  | nil => exact Or.inr (Or.inl ⟨Or.inl rfl, rfl⟩)
  | cons h hs =>
    cases serv with
    | nil => exact Or.inr (Or.inl ⟨Or.inr rfl, rfl⟩)
    | cons c cs =>
      rw [parseHostServ_eq_guarded (by simp) (by simp)]
      rcases guarded_cases (c :: cs) (⟨cstr (h :: hs), cstr (c :: cs), false⟩ : GaiCall) with e | e | e
      · exact Or.inl ⟨_, e⟩
      · exact Or.inr (Or.inr ⟨by simp, by simp, Or.inl e⟩)
      · exact Or.inr (Or.inr ⟨by simp, by simp, Or.inr e⟩)

/-- "it never ... reads outside its input": every slice the dissection takes is a contiguous
part of the input (`<:+:` unfolds to `∃ pre post, pre ++ slice ++ post = s`), and a numeric port
sits right behind a colon that follows the part the host was cut from -/
theorem slices_in_bounds (s : Bytes) (d : Dissect) (h : dissect s = .ok d) :
    (∃ pre post, pre ++ d.host ++ post = s) ∧ (∃ pre post, pre ++ d.serv ++ post = s) ∧
    (d.numeric = true → ∃ pre mid post, s = pre ++ mid ++ 0x3a :: d.serv ++ post ∧ d.host <:+: mid) := by
  obtain ⟨hhost, hserv, -, hnum, -⟩ := dissectRaw_some (dissect_ok_raw h)
  exact ⟨hhost, hserv, fun hn => (hnum hn).2⟩

/-- shape of the result: the host never contains a '/', a numeric port is a non-empty digit
string, a scheme consists of word characters -/
theorem dissect_shape (s : Bytes) (d : Dissect) (h : dissect s = .ok d) :
    (0x2f : UInt8) ∉ d.host ∧ (d.numeric = true → isDigits d.serv = true) ∧
    (d.numeric = false → ∀ c ∈ d.serv, isWord c = true) := by
  obtain ⟨-, -, hslash, hnum, hword⟩ := dissectRaw_some (dissect_ok_raw h)
  exact ⟨hslash, fun hn => (hnum hn).1, hword⟩

/-- what is handed to `getaddrinfo` are valid C strings cut out of the input: no NUL inside, and
each is a contiguous part of the input -/
theorem gai_args_in_bounds (s : Bytes) (c : GaiCall) (h : parseUri s = .ok c) :
    c.node <:+: s ∧ c.serv <:+: s ∧ (0 : UInt8) ∉ c.node ∧ (0 : UInt8) ∉ c.serv := by
  obtain ⟨d, hd, rfl⟩ := parseUri_ok h
  have hb := slices_in_bounds s d hd
  exact ⟨(List.takeWhile_prefix _).isInfix.trans hb.1, (List.takeWhile_prefix _).isInfix.trans hb.2.1,
    not_mem_takeWhile_bne 0 _, not_mem_takeWhile_bne 0 _⟩

/-- the length ladders of finding F4 for EVERY length: any non-empty text without ':' and '/'
(`'a'^n`, digit runs, `'['^n`, arbitrary bytes incl. NUL and non-ASCII) is taken as a host name
with an empty service - an `ok` outcome of the dissection whatever the length -/
theorem plain_host_any_length (h : Bytes) (hne : h ≠ []) (hc : (0x3a : UInt8) ∉ h) (hs : (0x2f : UInt8) ∉ h) :
    parseUri h = .ok ⟨cstr h, [], false⟩ := by
  rw [parseUri_of_dissect (Lem.hostpath_spelling h [] hne hc hs rfl).2]
  rfl

/-- a text that starts with '/' (in particular `'/'^n` for every n ≥ 1) has no host part:
`logic_error`, for every continuation -/
theorem leading_slash_rejected (rest : Bytes) : parseUri (0x2f :: rest) = .error .logicError := by
  have ht : trimServAndPath (0x2f :: rest) = none := by
    have := trimServAndPath_no_scheme (h := []) (c := 0x2f) (rest := rest) (by decide) (by simp)
      fun e => absurd e (by decide)
    rw [List.nil_append] at this
    rw [this]
    simp [trimPath]
  rw [parseUri, dissect, dissectRaw_eq_none_iff.mpr ht]
  rfl

/-- the repair F4 changes no outcome: for EVERY input the plain-scan dissection returns exactly
what the declarative reading of the three original regular expressions (`Legacy/UriRegex.lean`:
`reServ`, `rePortBracket`, `rePort` with ECMAScript priorities) selects -/
theorem dissect_refines_regex (s : Bytes) (d : Dissect) : dissectRaw s = some d ↔ Regex.RegexDissects s d := by
  unfold dissectRaw Regex.RegexDissects
  constructor
  · intro e
    split at e
    · cases e
    · rename_i u serv ht
      refine ⟨serv, u, Regex.trimServAndPath_iff.mp ht, ?_⟩
      split at e <;> cases e
      · exact Or.inl ⟨rfl, Regex.splitPort_iff.mp ‹_›⟩
      · exact Or.inr ⟨rfl, Regex.splitPort_none_iff.mp ‹_›, rfl, rfl⟩
  · rintro ⟨serv, u, hre, hport⟩
    rw [Regex.trimServAndPath_iff.mpr hre]
    obtain ⟨dh, ds, dn⟩ := d
    rcases hport with ⟨rfl, hrp⟩ | ⟨rfl, hno, rfl, rfl⟩
    · simp [Regex.splitPort_iff.mpr hrp]
    · simp [Regex.splitPort_none_iff.mpr hno]

/-- ... and it rejects (`logic_error`) exactly the inputs on which `reServ` does not match -/
theorem dissect_rejects_iff_regex_nonmatch (s : Bytes) :
    dissect s = .error .logicError ↔ ¬ ∃ serv u, Regex.ReServ s serv u := by
  rw [← Regex.trimServAndPath_none_iff, dissect_logicError_iff, dissectRaw_eq_none_iff]

namespace C11
/-- the predicate `./check C11` evaluates on the implementation's observations (`Spec/Uri.lean`: `specStep`
in mode `.totality` - "a value or an exception derived from std::exception; no crash, signal, hang, foreign
exception, throwing accessor") accepts every trace of the model: `parseUri` / `parseHostServ` followed by an
ARBITRARY name service (`getaddrinfo` may answer anything, `getnameinfo` may print anything), for every
history of `uri` / `pair` constructions and literal / service-name groups of any length over arbitrary byte
strings.  No hypothesis.  So a `spec` verdict of `./check C11` is a difference between implementation and
model, and the oracle is never stricter than the model. -/
theorem spec_holds_on_model {α : Type} [DecidableEq α] (ns : NameService α) (history : List (Op α)) :
    ∃ s, C11.specRun {} (modelTrace ns history) = .ok s :=
  C11.model_satisfies_spec ns history
end C11

/-! ### non-vacuity / examples (each class of outcome is inhabited) -/

example : parseUri (ofChars "http://[::1]:8080/a/b?c".toList) =
    .ok ⟨ofChars "::1".toList, ofChars "8080".toList, true⟩ := by decide +kernel
example : Regex.RegexDissects (ofChars "http://[::1]:8080/a/b?c".toList) ⟨ofChars "::1".toList, ofChars "8080".toList, true⟩ :=
  (dissect_refines_regex _ _).mp (by decide +kernel)
example : ¬ ∃ serv u, Regex.ReServ (ofChars "host/pa\nth".toList) serv u :=
  (dissect_rejects_iff_regex_nonmatch _).mp (by decide)
example : parseUri [] = .error .invalidArgument := by decide
example : parseUri (ofChars "host/pa\nth".toList) = .error .logicError := by decide
example : parseUri (ofChars "h:99999".toList) = .error .runtimeError := by decide
example : parseUri (ofChars "h:99999999999999999999".toList) = .error .outOfRange := by decide +kernel
example : parseUri (ofChars "99999://h".toList) = .error .runtimeError := by decide
example : parseHostServ [0x68] (ofChars " -9223372036854775809".toList) = .error .outOfRange := by decide +kernel
example : parseHostServ [0x68] (ofChars "-9223372036854775808".toList) = .error .runtimeError := by decide +kernel
example : parseUri ([0x61, 0x00, 0x62, 0x3a, 0x38, 0x30]) = .ok ⟨[0x61], [0x38, 0x30], true⟩ := by decide
example : parseHostServ [0x68] [0x38, 0x30, 0x00, 0x78] = .ok ⟨[0x68], [0x38, 0x30], false⟩ := by decide

end SockModel.Uri
