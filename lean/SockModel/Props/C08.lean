import SockModel.Spec.C04
/-!
# C08  Stop always ends Run

Same transition system.  `Stop()` from another thread is `uStopSet ; uStopBump`; `Stop()` from a
task, a handler or a signal handler on the driver thread is `dStop`, which is enabled at EVERY
point of the driver thread's program (a signal handler can interrupt it anywhere, and `Stop` takes
no mutex, so it cannot self-deadlock).
-/
namespace SockModel.Locks

/-- "makes the Run() in progress ... return after at most the step in progress": once a Stop has
completed (flag set and datagram sent), a `Run` that is inside a step before its poll returned
finds the pipe readable - the poll cannot block, whatever its timeout. -/
theorem stop_wakes_run {s : St} (h : Reach s) (hs : s.stop = true) (hdone : ∀ t, s.u t ≠ .stopBump) :
    (s.d = .atPoll true → 0 < s.pipe) ∧ (s.d = .inStep true → 0 < s.pipe) ∧ (s.d = .wantStep true → 0 < s.pipe) := by
  have hst := (inv_reach h).stopW hs hdone
  refine ⟨?_, ?_, ?_⟩ <;> intro hd <;> apply hst <;> rw [hd] <;> rfl

/-- ... and `Run` does not begin another step: with the flag set, the loop test can only leave. -/
theorem run_exits_on_stop {s s' : St} {b : Bool} (hd : s.d = .r0) (hs : s.stop = true) (tr : Tr s b s') :
    ∀ r, s'.d ≠ .wantStep r := by
  intro r hd'
  rcases tr.from_r0 hd with h | ⟨_, h, _⟩ | ⟨h, _⟩
  · rw [h] at hd'; cases hd'
  · rw [h] at hd'; cases hd'
  · rw [hs] at h; cases h

/-- "Run() does not return without a Stop()", and the request is consumed: a `Run` leaves its loop
only by reading the flag as set, and leaves it cleared - "a stopped driver can be run again". -/
theorem run_needs_stop {s s' : St} {b : Bool} (hd : s.d = .r0) (tr : Tr s b s') (hd' : s'.d = .idle) :
    s.stop = true ∧ s'.stop = false := by
  rcases tr.from_r0 hd with h | ⟨h1, _, h2⟩ | ⟨_, h⟩
  · rw [h] at hd'; cases hd'
  · exact ⟨h1, h2⟩
  · rw [h] at hd'; cases hd'

/-- the flag is raised only by `Stop` -/
theorem only_stop_sets_flag {s s' : St} {b : Bool} (tr : Tr s b s') (h0 : s.stop = false) (h1 : s'.stop = true) :
    (s'.pipe = s.pipe + 1 ∧ s'.d = s.d) ∨ (∃ t, s.u t = .idle ∧ s'.u t = .stopBump) := by
  rcases tr.stop_cases with h | ⟨_, h⟩ | ⟨_, _, _, h⟩
  · rw [h, h0] at h1; cases h1
  · exact h
  · rw [h] at h1; cases h1

/-- "if none is in progress the next one": a Stop that arrives while no `Run` is in progress -
in particular after the thread meant to execute `Run` was started but before it entered `Run` -
is not lost: the flag stays set until a `Run` consumes it. -/
theorem stop_persists {s s' : St} {b : Bool} (tr : Tr s b s') (hs : s.stop = true) :
    s'.stop = true ∨ (s.d = .r0 ∧ s'.d = .idle) := by
  rcases tr.stop_cases with h | ⟨h, _⟩ | ⟨h1, h2, _⟩
  · exact .inl (h.trans hs)
  · exact .inl h
  · exact .inr ⟨h1, h2⟩

/-- the next `Run` after such a Stop returns without stepping at all -/
theorem stop_before_run_returns :
    ∃ s, Reach s ∧ s.d = .r0 ∧ s.stop = true ∧ s.stops = 1 ∧
      (∃ s', Tr s false s' ∧ s'.d = .idle ∧ s'.stop = false ∧ s'.runs = 1) := by
  have r1 := Reach.step Reach.init (Tr.uStopSet (t := 3) rfl)
  have r2 := Reach.step r1 (Tr.uStopBump (t := 3) (by simp))
  have r3 := Reach.step r2 (Tr.dRunEnter rfl)
  exact ⟨_, r3, rfl, rfl, rfl, _, Tr.dRunExit rfl rfl, rfl, rfl, rfl⟩

/-- "every Stop() call ... makes the Run() in progress, or if none is in progress the next one,
return": in every reachable state, if some Stop has completed or is between its flag store and its
datagram, then the flag is still up (so the current or next loop test of `Run` leaves) or a `Run`
has returned. -/
theorem stop_not_lost {s : St} (h : Reach s) (hstop : 0 < s.stops ∨ ∃ t, s.u t = .stopBump) :
    s.stop = true ∨ 0 < s.runs :=
  kept_reach h hstop

/-! ### at most the step in progress -/

def beginsRun (s s' : St) : Prop := s.d = .wantStep true ∧ s'.d = .inStep true

instance (s s' : St) : Decidable (beginsRun s s') := by unfold beginsRun; exact inferInstance

def countRunBegins : St → List St → Nat
  | _, [] => 0
  | s, s' :: rest => (if beginsRun s s' then 1 else 0) + countRunBegins s' rest

/-- `Spec.runCanBeginN` is a potential: beginning a step uses it up, and nothing restores it while the flag
is up (`Spec.runCanBeginN_mono`) -/
theorem stop_count_le {s : St} (path : List St) (hp : Path s path)
    (hs : s.stop = true) (hall : ∀ x ∈ path, x.stop = true) : countRunBegins s path ≤ Spec.runCanBeginN s.d := by
  induction hp with
  | nil s => exact Nat.zero_le _
  | @cons s0 s1 b rest tr _ ih =>
    have hmono := Spec.runCanBeginN_mono hs tr
    have := ih (hall s1 List.mem_cons_self) (fun x hx => hall x (List.mem_cons_of_mem _ hx))
    simp only [countRunBegins]
    split
    · rename_i hb
      rw [hb.2] at this; rw [hb.1]
      exact Nat.add_le_add (Nat.le_refl 1) this
    · omega

/-- "makes the Run() in progress ... return after at most the step in progress, however the call
interleaves with the driver loop": along EVERY execution fragment during which the stop flag is up
(i.e. from the flag store of a Stop until some `Run` consumes it), `Run` begins AT MOST ONE step; and
by `stop_wakes_run` that step's poll cannot block once the Stop has sent its datagram. -/
theorem stop_at_most_one_step {s : St} (path : List St) (hp : Path s path)
    (hs : s.stop = true) (hall : ∀ x ∈ path, x.stop = true) : countRunBegins s path ≤ 1 :=
  Nat.le_trans (stop_count_le path hp hs hall) (Spec.runCanBeginN_le _)

/-! ### the shipped `Run` (finding F1): the flag is cleared on entry -/

/-- reachability for the pre-fix driver: as `Reach`, plus `Run` entry clearing the flag -/
inductive LReach : St → Prop where
  | init : LReach init
  | step {s s' b} : LReach s → Tr s b s' → LReach s'
  | runEnterLegacy {s} : LReach s → s.d = .idle → LReach { s with stop := false, d := .r0 }

/-- with the shipped `Run`, a Stop that completes before `Run` is entered is lost: the driver ends up
blocked in an unlimited poll with an empty pipe, the flag down, every user thread idle, although one
Stop completed and no `Run` returned - `stop_not_lost` and `stop_wakes_run` fail for it. -/
theorem legacy_stop_lost :
    ∃ s, LReach s ∧ s.d = .atPoll true ∧ s.pipe = 0 ∧ s.stop = false ∧ s.stops = 1 ∧ s.runs = 0 ∧
      ∀ t, s.u t = .idle := by
  have r1 := LReach.step LReach.init (Tr.uStopSet (t := 0) rfl)
  have r2 := LReach.step r1 (Tr.uStopBump (t := 0) (by simp))
  have r3 := LReach.runEnterLegacy r2 rfl
  have r4 := LReach.step r3 (Tr.dRunGo rfl rfl)
  have r5 := LReach.step r4 (Tr.dLockStep (r := true) rfl rfl)
  have r6 := LReach.step r5 (Tr.dToPoll (r := true) rfl)
  have r7 := LReach.step r6 (Tr.dPollPipe (r := true) rfl (by simp [init]))
  have r8 := LReach.step r7 (Tr.dUnlockStep (r := true) rfl)
  have r9 := LReach.step r8 (Tr.dLockPause (r := true) rfl rfl)
  have r10 := LReach.step r9 (Tr.dUnlockPause (r := true) rfl)
  have r11 := LReach.step r10 (Tr.dRunGo rfl rfl)
  have r12 := LReach.step r11 (Tr.dLockStep (r := true) rfl rfl)
  have r13 := LReach.step r12 (Tr.dToPoll (r := true) rfl)
  refine ⟨_, r13, rfl, by simp [init], rfl, by simp [init], by simp [init], ?_⟩
  intro t
  by_cases ht : t = 0 <;> simp [St.setU, init, ht]

end SockModel.Locks

/-! ### the run-time oracle is a theorem of the model (`Spec/C04.lean`) -/
namespace SockModel.Locks.C08
open SockModel.Locks.Spec

/-- the predicate `./check C08` evaluates on the implementation's scheduler trace (`Spec/C04.lean`: `specStep`
in mode C08 = monitor `stepC`: "Run began n further steps after a Stop() had returned" for n > 1 - the
run-time form of `stop_at_most_one_step`; "Run() returned although no Stop() was ever called" -
`run_needs_stop`; "Run() did not return after Stop()" at the end of an execution; outcomes `deadlock`
(a Run that never returns), `stuck`, `crash` are failures) accepts every trace of the model, for every history
of any length: any number of Stops from any thread, from tasks / handlers / signal handlers (`dStop` at any
point of the driver thread), successive Runs, manual Steps in between.  No hypothesis. -/
theorem spec_holds_on_model (history : List MOp) :
    ∃ s, specRun ⟨false, false, true⟩ {} (modelTrace {} history) = .ok s :=
  model_satisfies_spec _ history

/-- non-vacuity: Stop before Run (the next Run returns without stepping), then a second Run stopped from a task -/
example : modelTrace {} [.tr (.uStopSet 1), .tr (.uStopBump 1), .tr .dRunEnter, .tr .dRunGo, .tr .dRunExit,
      .tr .dRunEnter, .tr .dRunGo, .tr .dLockStep, .tr .dStop, .tr .dToPoll, .tr .dPollPipe, .tr .dUnlockStep,
      .tr .dLockPause, .tr .dUnlockPause, .tr .dRunGo, .tr .dRunExit, .done] =
    [.ev 2 (.beginStop true), .ev 2 .bump, .ev 2 .endStop, .ev 0 .runEnter, .ev 0 .runExit, .ev 0 .runEnter,
     .ev 0 .lockStep, .ev 0 (.beginStop false), .ev 0 .bump, .ev 0 .endStop, .ev 0 .other, .ev 0 .other,
     .ev 0 .unlockStep, .ev 0 .other, .ev 0 .other, .ev 0 .runExit, .done] := by decide
/-- rejected: a Run that returns without a Stop; a Run that begins two steps after a Stop had returned -/
example : accepts ⟨false, false, true⟩ [.ev 0 .runEnter, .ev 0 .lockStep, .ev 0 .unlockStep, .ev 0 .runExit] = false := by
  decide
example : accepts ⟨false, false, true⟩
    [.ev 0 .runEnter, .ev 2 (.beginStop true), .ev 2 .bump, .ev 2 .endStop, .ev 0 .lockStep, .ev 0 .unlockStep,
     .ev 0 .lockStep] = false := by decide
example : accepts ⟨false, false, true⟩
    [.ev 0 .runEnter, .ev 2 (.beginStop true), .ev 2 .bump, .ev 2 .endStop, .ev 0 .lockStep, .ev 0 .unlockStep,
     .ev 0 .runExit] = true := by decide

end SockModel.Locks.C08
