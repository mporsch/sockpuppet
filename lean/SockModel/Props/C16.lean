import SockModel.Model.GenWorld
import SockModel.Generated.Loops
import SockModel.Basic.TieTactic
import SockModel.Spec.C16
/-!
# C16  Signals interrupting a wait are invisible

`PollAns.eintr d` is a `poll` that returns `-1/EINTR` after `d` virtual milliseconds
because a signal handler ran.  `Wait` re-issues the poll (unlimited and zero timeouts unchanged, limited ones
with the time remaining until the original deadline); the shipped code threw instead (finding F2, `legacyWait`).  Every blocking operation of the library goes through `wait`
(`WaitReadable`/`WaitWritable`/`Wait(pfds)`), so these theorems cover them all.
-/
namespace SockModel.SendLoop
open SockModel.Deadline

/-- "does not make the call fail": whatever the number and timing of signal deliveries, a wait
ends in an exception only if some `poll` genuinely failed (an answer `fail e` in the script). -/
theorem eintr_never_throws (T : Int) (os : Os) (hs : ∀ a ∈ os.polls, ∀ e, a ≠ .fail e) :
    ∀ e, (wait T os).1 ≠ .exn (.system e) :=
  (wait_waited T os).no_fail hs

/-- the answer that decides an unlimited wait: the first one that is not a signal -/
def firstAns : List PollAns → Res Bool
  | [] => .exn .exhausted
  | .eintr _ :: rest => firstAns rest
  | .ready _ :: _ => .ok true
  | .timedOut :: _ => .ok false
  | .fail e :: _ => .exn (.system e)

def isEintr : PollAns → Bool
  | .eintr _ => true
  | _ => false

theorem firstAns_strip (ps : List PollAns) : firstAns (ps.filter (fun a => !isEintr a)) = firstAns ps := by
  induction ps with
  | nil => rfl
  | cons a rest ih =>
    cases a with
    | eintr d => simp only [List.filter, isEintr, Bool.not_true]; exact ih
    | ready d => simp [List.filter, isEintr, firstAns]
    | timedOut => simp [List.filter, isEintr, firstAns]
    | fail e => simp [List.filter, isEintr, firstAns]

theorem waitFixed_neg_firstAns (t : Int) (ht : t < 0) (fuel : Nat) (os : Os) (hf : os.polls.length < fuel) :
    (waitFixed t fuel os).1 = firstAns os.polls := by
  induction fuel generalizing os with
  | zero => omega
  | succ fuel ih =>
    unfold waitFixed pollOnce
    cases hp : os.polls with
    | nil => rfl
    | cons a rest =>
      cases a with
      | ready d =>
        have hn : ¬ (t ≥ 0 ∧ (d : Int) > t) := by omega
        simp only [hn, ↓reduceIte]; rfl
      | timedOut => rfl
      | fail e => rfl
      | eintr d =>
        have hn : ¬ (t ≥ 0 ∧ (d : Int) > t) := by omega
        simp only [hn, ↓reduceIte]
        rw [ih _ (by simp only; rw [hp] at hf; simp at hf; omega)]
        rfl

/-- "returns what it would have returned without the signal" (unlimited timeout): the result of
the wait equals the result on the script from which every signal delivery was deleted - for any
number and timing of deliveries. -/
theorem eintr_invisible_unlimited (T : Int) (hT : T < 0) (hlo : -intMax ≤ T) (os : Os) :
    (wait T os).1 = (wait T { os with polls := os.polls.filter (fun a => !isEintr a) }).1 := by
  have hm : toMsec T = T := by
    unfold toMsec; rw [if_neg (by unfold intMax; omega), if_neg (by omega)]
  unfold wait
  rw [if_pos (by omega), if_pos (by omega), hm]
  rw [waitFixed_neg_firstAns T hT _ os (by omega)]
  rw [waitFixed_neg_firstAns T hT _ _ (by simp only; omega)]
  simp only
  rw [firstAns_strip]

/-- "it keeps waiting within its timeout semantics" (limited timeout): with any number of signal
deliveries the wait still never blocks longer than T in total, every re-issued poll is within the
remaining budget, and "timeout" is reported exactly at `start + T`. -/
theorem eintr_keeps_budget (T : Int) (hT : 0 < T) (hhi : T ≤ intMax) (os os' : Os) (r : Res Bool)
    (h : wait T os = (r, os')) :
    os'.now ≤ os.now + T * nsPerMs ∧ (r = .ok false → os'.now = os.now + T * nsPerMs) ∧
    (∀ p ∈ pollArgs os', p ∈ pollArgs os ∨ (0 ≤ p ∧ p ≤ T)) := by
  obtain ⟨_, _, _, _, _, hargs, _, hpos, _⟩ := wait_spec h (by unfold intMax; omega) hhi
  refine ⟨(hpos hT).1, (hpos hT).2, ?_⟩
  intro p hp
  rcases hargs p hp with h | h
  · exact Or.inl h
  · right; unfold ArgOk at h; rw [if_neg (by omega), if_neg (by omega)] at h; exact h

/-- a signal delivered `d` ms into a limited wait followed by readiness `x` ms later (`d + x ≤ T`)
gives the same result and the same final clock as readiness after `d + x` ms without the signal -/
theorem eintr_then_ready_limited (T : Int) (hT : 0 < T) (hhi : T ≤ intMax) (os : Os) (d x : Nat)
    (rest : List PollAns) (hd : (d : Int) + x ≤ T) :
    (wait T { os with polls := .eintr d :: .ready x :: rest }).1 = .ok true ∧
    (wait T { os with polls := .ready (d + x) :: rest }).1 = .ok true ∧
    (wait T { os with polls := .eintr d :: .ready x :: rest }).2.now
      = (wait T { os with polls := .ready (d + x) :: rest }).2.now ∧
    (wait T { os with polls := .eintr d :: .ready x :: rest }).2.polls
      = (wait T { os with polls := .ready (d + x) :: rest }).2.polls := by
  have hT0 : 0 ≤ T := Int.le_of_lt hT
  have hk : os.now + T * nsPerMs - os.now = T * nsPerMs := by rw [Int.add_comm, Int.add_sub_cancel]
  have hk2 : os.now + T * nsPerMs - (os.now + (d : Int) * nsPerMs) = (T - d) * nsPerMs := by
    rw [Int.sub_mul]; omega
  unfold wait
  simp only [if_neg (Int.not_le.mpr hT), List.length_cons]
  rw [Spec.C16.waitLimited_eintr (os := { os with polls := .eintr d :: .ready x :: rest }) rfl hk hT0 hhi (by omega),
    Spec.C16.waitLimited_ready (k := T - d) rfl hk2 (by omega) (by omega) (by omega),
    Spec.C16.waitLimited_ready (os := { os with polls := .ready (d + x) :: rest }) rfl hk hT0 hhi (by push_cast; omega)]
  refine ⟨rfl, rfl, ?_, rfl⟩
  simp only
  push_cast
  rw [Int.add_mul]; omega

/-! ### the shipped behaviour (finding F2): every negative poll result became an exception -/

def legacyWait (t : Int) (os : Os) : Res Bool × Os :=
  match pollOnce t os with
  | none => (.exn .exhausted, os)
  | some (.ready _, os') => (.ok true, os')
  | some (.timedOut, os') => (.ok false, os')
  | some (.eintr _, os') => (.exn (.system 4), os')   -- EINTR surfaced as std::system_error
  | some (.fail e, os') => (.exn (.system e), os')

/-- the pre-fix wait violates `eintr_never_throws`: one signal, no failing poll, yet an exception -/
theorem legacy_eintr_throws :
    ∃ (os : Os), (∀ a ∈ os.polls, ∀ e, a ≠ .fail e) ∧ (legacyWait (-1) os).1 = .exn (.system 4) :=
  ⟨{ polls := [.eintr 0, .ready 0] }, by intro a ha e; simp at ha; rcases ha with rfl | rfl <;> simp, by decide⟩

example : (wait 50 { polls := [.eintr 10, .eintr 10, .ready 5] }).1 = .ok true := by decide
example : (wait 50 { polls := [.eintr 10, .eintr 10, .ready 5] }).2.now = 25 * nsPerMs := by decide
example : pollArgs (wait 50 { polls := [.eintr 10, .eintr 10, .timedOut] }).2 = [50, 40, 30] := by decide

end SockModel.SendLoop

/-! ## The run-time oracle is a theorem of the model (`Spec/C16.lean`) -/
namespace SockModel.Spec.C16
/-- the predicate `./check C16` evaluates on the implementation's blocking socket operations (`Spec/C16.lean`:
`specStep` = `Spec.C07.specStepM c16` - an operation that met a signal keeps its timeout semantics
(`specTimeouts`, the clauses of C07) and "a signal made X fail" (an exception although no system call failed))
accepts every trace of the model, for every history of any length and every number and timing of signal
deliveries (`PollAns.eintr d` anywhere in the scripts).  `histOk` is the domain of `Spec/C07.lean`. -/
theorem spec_holds_on_model (history : List C01.Op) (h : C07.histOk history = true) :
    ∃ s, specRun () (C01.modelTrace {} history) = .ok s :=
  model_satisfies_spec history h

/-- the clauses `./check C16` evaluates on a `Driver::Step` under injected signals (`Spec/C16.lean`: `specStepE` -
the step does not fail, its polls keep the timeout semantics, and with `T > 0` and no event it returns no
earlier than `T` after it was entered) accept the observations of the model (`wait T` on the scripted poll
answers) for every timeout `T < 2^31` ms and every script without a genuine poll failure: any number and
timing of signal deliveries, readiness after any delay or never. -/
theorem spec_holds_on_model_step (T : Int) (polls : List SendLoop.PollAns) (hT : T ≤ Deadline.intMax)
    (hk : T < 0 → ∀ a ∈ polls, a ≠ SendLoop.PollAns.timedOut) (hnf : ∀ a ∈ polls, ∀ e, a ≠ SendLoop.PollAns.fail e)
    (o : StepObs) (h : modelStepObs T polls = some o) : specStepE o = none :=
  step_model_satisfies_spec T polls hT hk hnf o h
end SockModel.Spec.C16

/-! ## Source-derived tie, stage 2 (DESIGN.md §0.7): the EINTR retry loops

`SockModel.Gen.DoPollUninterrupted`, `Gen.WaitPfds`, `Gen.WaitReadable`, `Gen.WaitWritable` (Generated/Loops.lean) are
regenerated on every run from the clang AST of src/wait.cpp: loops, calls and throws in an explicit effect style
over an abstract `Gen.World`.  The theorems below run them in the model's own world (`GenWorld.osWorld`: the answer
queues of `SendLoop.Os`) and state that, for EVERY script, clock value and `errno` state and every fuel above the
number of scripted `poll` answers, they produce the result and the final OS (calls made with their arguments,
clock, rest of the script) of the hand-written `SendLoop.wait`.  The loop proofs are by induction on the iteration
budget with all other loop arguments generalised away and the loop definitions unfolded by `simp` only where they
are applied to a successor, so that a rotated / restructured retry loop is re-proved by the same script (the `try` is for
renderings that convert the timeout before the loop; `true 4` is the `errno` state after `EINTR`, `GenWorld.osWorld.doPoll`). -/
namespace SockModel.Props.C16
open SockModel SockModel.SendLoop SockModel.Deadline SockModel.GenWorld

theorem gen_toMsec (c : Int) : Gen.ToMsec c = toMsec c := by
  simp only [Gen.ToMsec, toMsec, intMax, Int.bmod_eq_emod]
  tie_arith

theorem gen_remaining (now dl : Int) : Gen.DeadlineLimited_Remaining now dl = (Deadline.limited now dl).remaining := by
  simp only [Gen.DeadlineLimited_Remaining, Deadline.remaining, toMs, nsPerMs]
  tie_arith

theorem pollOnce_polls {t : Int} {os os' : Os} {a : PollAns} (h : pollOnce t os = some (a, os')) :
    os.polls.length = os'.polls.length + 1 :=
  (pollOnce_calls h).2.2.2.symm

/-- what `DoPollUninterrupted` returns, in terms of the model's verdict on the same script -/
def PollRel (g : Gen.Res Int × WSt) (m : Res Bool × Os) : Prop :=
  g.2.os = m.2 ∧
  match m.1 with
  | .ok true => g.1 = .ok 1
  | .ok false => g.1 = .ok 0
  | .exn (.system e) => g.1 = .ok (-1) ∧ g.2.intr = false ∧ g.2.errno = e
  | .exn .exhausted => g.1 = .halted
  | .exn _ => False

/-- one poll of the script, seen from the generated code and from the model: closes the non-recursive
cases of a retry loop and rewrites the recursive one to the induction hypothesis -/
macro "tie_poll_cases" hp:ident ih:ident os:ident : tactic => `(tactic| (
  first
  | (simp [PollRel, Gen.M.pure, Gen.M.bind, Gen.M.halt, $hp:ident]; done)
  | (have hl := pollOnce_polls $hp:ident
     have ih' := $ih:ident $os:ident true 4 (by omega)
     simp [Gen.M.pure, Gen.M.bind, hl, Gen.Clocked_Tick, $hp:ident, doPoll_eq, gen_toMsec, gen_remaining] at ih' ⊢
     exact ih')))

/-- `DoPollUninterrupted` run against a script answers what the model's `wait` answers (both branches; the
loops by induction on the iteration budget, all their other arguments generalised away; the loop definitions
are only ever unfolded by `simp` where they are applied to a successor, so a rotated loop is treated alike) -/
theorem doPollUninterrupted_rel (data : Bytes) (fuel : Nat) (t : Int) (os : Os) (i : Bool) (e : Nat)
    (hf : os.polls.length < fuel) :
    PollRel (Gen.DoPollUninterrupted (osWorld data) fuel t ⟨os, i, e⟩) (wait t os) := by
  have hn : os.polls.length < Gen.loopFuel fuel := hf
  clear hf
  unfold Gen.DoPollUninterrupted wait
  split
  · try simp only [gen_toMsec]
    generalize Gen.loopFuel fuel = n at hn ⊢
    induction n generalizing os i e with
    | zero => omega
    | succ n ih =>
      rw [waitFixed]
      simp only [Gen.M.bind, doPoll_eq, gen_toMsec, Gen.DoPollUninterrupted_loop1]
      cases hp : pollOnce (toMsec t) os with
      | none => simp [PollRel]
      | some p =>
        obtain ⟨a, os'⟩ := p
        cases a <;> tie_poll_cases hp ih os'
  · simp only [Gen.M.bind, Gen.Clocked_ctor_now, clockNow_eq, Gen.M.pure, Gen.DeadlineLimited_deadline, nsPerMs]
    generalize os.now + t * 1000000 = dl
    generalize Gen.loopFuel fuel = n at hn ⊢
    induction n generalizing os i e with
    | zero => omega
    | succ n ih =>
      rw [waitLimited]
      simp only [Gen.M.bind, doPoll_eq, gen_toMsec, gen_remaining, Gen.DoPollUninterrupted_loop2]
      cases hp : pollOnce (toMsec (Deadline.limited os.now dl).remaining) os with
      | none => simp [PollRel]
      | some p =>
        obtain ⟨a, os'⟩ := p
        cases a <;> tie_poll_cases hp ih os'

/-- a function that polls through `DoPollUninterrupted` and turns its result into "ready / timeout / throw"
(`WaitReadable`, `WaitWritable`, the driver's `Wait(pfds, timeout)`; the file-local helpers they are written with -
`Wait(fd, events, timeout)`, `CheckPollResult(..)` - are inlined by the translator): unfold it, replace the result of
`DoPollUninterrupted` by what `doPollUninterrupted_rel` says about it, and decide every generated `if` on the
three possible results 1, 0, -1 -/
macro "tie_wait_fn" fn:ident data:ident fuel:ident t:ident os:ident i:ident e:ident hf:ident : tactic => `(tactic| (
  have h := doPollUninterrupted_rel $data $fuel $t $os $i $e $hf
  simp only [$fn:ident, Gen.M.bind]
  generalize Gen.DoPollUninterrupted (osWorld $data) $fuel $t ⟨$os, $i, $e⟩ = g at h ⊢
  generalize wait $t $os = m at h ⊢
  obtain ⟨gr, gw⟩ := g
  obtain ⟨mr, mo⟩ := m
  obtain ⟨h1, h2⟩ := h
  simp only at h1 h2
  subst h1
  cases mr with
  | ok b => cases b <;> simp only at h2 <;> subst h2 <;> simp [Gen.M.pure, Gen.M.bind, resOf]
  | exn x =>
    cases x <;> simp only at h2
    · obtain ⟨h3, hi, h4⟩ := h2
      subst h3
      subst h4
      simp [Gen.M.pure, Gen.M.bind, Gen.M.throw, resOf, exnOf]
    · subst h2; simp [resOf]))

/-- **tie of `WaitReadable`** (and through it `DoPollUninterrupted`, `ToMsec`, `DeadlineLimited`, `Clocked`) -/
theorem tie_WaitReadable (data : Bytes) (fuel : Nat) (t : Int) (os : Os) (i : Bool) (e : Nat) (hf : os.polls.length < fuel) :
    (resOf id (Gen.WaitReadable (osWorld data) fuel t ⟨os, i, e⟩).1, (Gen.WaitReadable (osWorld data) fuel t ⟨os, i, e⟩).2.os)
      = wait t os := by
  tie_wait_fn Gen.WaitReadable data fuel t os i e hf

theorem tie_WaitWritable (data : Bytes) (fuel : Nat) (t : Int) (os : Os) (i : Bool) (e : Nat) (hf : os.polls.length < fuel) :
    (resOf id (Gen.WaitWritable (osWorld data) fuel t ⟨os, i, e⟩).1, (Gen.WaitWritable (osWorld data) fuel t ⟨os, i, e⟩).2.os)
      = wait t os := by
  tie_wait_fn Gen.WaitWritable data fuel t os i e hf

/-- **tie of `Wait(std::vector<pollfd> &, timeout)`**, the driver's wait: the same statement -/
theorem tie_WaitPfds (data : Bytes) (fuel : Nat) (t : Int) (os : Os) (i : Bool) (e : Nat) (hf : os.polls.length < fuel) :
    (resOf id (Gen.WaitPfds (osWorld data) fuel t ⟨os, i, e⟩).1, (Gen.WaitPfds (osWorld data) fuel t ⟨os, i, e⟩).2.os)
      = wait t os := by
  tie_wait_fn Gen.WaitPfds data fuel t os i e hf

/-- the ties in the form the callers' proofs use: the final world is the model's final OS (with some `errno`
state), the outcome is the model's outcome -/
theorem waitReadable_run (data : Bytes) (fuel : Nat) (t : Int) (os : Os) (i : Bool) (e : Nat) (hf : os.polls.length < fuel) :
    ∃ g i' e', Gen.WaitReadable (osWorld data) fuel t ⟨os, i, e⟩ = (g, ⟨(wait t os).2, i', e'⟩) ∧ resOf id g = (wait t os).1 := by
  rw [← tie_WaitReadable data fuel t os i e hf]
  exact ⟨_, _, _, rfl, rfl⟩

theorem waitWritable_run (data : Bytes) (fuel : Nat) (t : Int) (os : Os) (i : Bool) (e : Nat) (hf : os.polls.length < fuel) :
    ∃ g i' e', Gen.WaitWritable (osWorld data) fuel t ⟨os, i, e⟩ = (g, ⟨(wait t os).2, i', e'⟩) ∧ resOf id g = (wait t os).1 := by
  rw [← tie_WaitWritable data fuel t os i e hf]
  exact ⟨_, _, _, rfl, rfl⟩
end SockModel.Props.C16
