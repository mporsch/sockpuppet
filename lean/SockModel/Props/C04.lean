import SockModel.Spec.C04
import SockModel.Model.DispatchQuiesce
import SockModel.Model.ToDosQuiesce
/-!
# C04  Managing sockets/ToDos against a running driver is safe (exclusion, quiescence)

`Reach s`: `s` is reachable by ANY interleaving of the driver thread (Run / Step, with Stop and
management calls re-entering from tasks, handlers or signal handlers) with ANY number of user
threads each issuing any sequence of management calls (attach, detach, request-send, ToDo
insert/remove/move: all `PauseGuard`) and `Stop`s.  Tasks and handlers run only while the driver
thread is in `inStep`/`woke`; a user thread mutates `sockets`/`pfds`/`todos` only in `crit`.

What these theorems do NOT cover: the C++ memory model below lock granularity (TSan/ASan runs
in the check look for that) - see DESIGN.md.
-/
namespace SockModel.Locks

/-- "Handlers and tasks never run concurrently with each other" nor with a management mutation:
at most one thread is inside a step-protected region (that it is the owner of `stepMtx`: `region_owner`). -/
theorem excl_step_region {s : St} (h : Reach s) :
    (s.d.ownsStep = true → ∀ t, (s.u t).ownsStep = false) ∧
    (∀ t t', t ≠ t' → ¬ ((s.u t).ownsStep = true ∧ (s.u t').ownsStep = true)) := by
  have hs := (inv_reach h).heldStep
  refine ⟨hs.drv_excl, fun t t' hne ⟨h1, h2⟩ => ?_⟩
  have := (hs.usr_excl h2).2 t hne
  rw [h1] at this; cases this

/-- every task / handler runs on the thread that owns `stepMtx` (the driver thread inside Step), and
every management mutation by a user thread happens while that thread owns it -/
theorem region_owner {s : St} (h : Reach s) :
    (s.d.ownsStep = true ↔ s.step = .drv) ∧ (∀ t, (s.u t).ownsStep = true ↔ s.step = .usr t) :=
  ⟨(inv_reach h).stepD, (inv_reach h).stepU⟩

/-- quiescence, lock level: "once a socket's destructor or a ToDo's Cancel has returned on a
non-driver thread, no handler of that socket / that task is running": while a user thread is in
the critical section in which it unregisters the socket / removes the ToDo, the driver thread is
outside every step-protected region - no handler or task is in progress.  (That none *starts*
later is the data-level fact: handlers are dispatched only for registered sockets, tasks only for
listed ToDos - `SockModel.ToDos.cancel_prevents` and the Dispatch model.) -/
theorem quiescence {s : St} (h : Reach s) (t : Tid) (hc : s.u t = .crit) : s.d.ownsStep = false :=
  (inv_reach h).crit_excl hc

/-- `pauseMtx` is owned by exactly the thread whose pc says so: the driver thread in `holdPause`, a user
thread from `bump` (before its wake-up datagram) until it has `stepMtx` (`relPause`) -/
theorem pause_owner {s : St} (h : Reach s) :
    (s.d.ownsPause = true ↔ s.pause = .drv) ∧ (∀ t, (s.u t).ownsPause = true ↔ s.pause = .usr t) :=
  ⟨(inv_reach h).pauseD, (inv_reach h).pauseU⟩

/-- non-vacuity: a reachable state with the driver blocked in `poll` inside `Run` and a user thread
that failed its try-lock, took `pauseMtx`, sent the datagram and waits for `stepMtx` -/
theorem example_reachable : ∃ s, Reach s ∧ s.d = .atPoll true ∧ s.u 7 = .waitStep ∧ s.pipe = 1 := by
  have r1 := Reach.step Reach.init (Tr.dRunEnter rfl)
  have r2 := Reach.step r1 (Tr.dRunGo rfl rfl)
  have r3 := Reach.step r2 (Tr.dLockStep (r := true) rfl rfl)
  have r4 := Reach.step r3 (Tr.dToPoll (r := true) rfl)
  have r5 := Reach.step r4 (Tr.uTryFail (t := 7) rfl (by simp))
  have r6 := Reach.step r5 (Tr.uLockPause (t := 7) (by simp) rfl)
  have r7 := Reach.step r6 (Tr.uBump (t := 7) (by simp))
  exact ⟨_, r7, rfl, by simp, rfl⟩

/-! ### the run-time oracle is a theorem of the model (`Spec/C04.lean`) -/
open Spec in
/-- the predicate `./check C04` evaluates on the implementation's scheduler trace (`Spec/C04.lean`:
`specStep` in mode C04 = monitor `stepA`: nobody acquires `stepMtx` while another thread holds it, handlers
and tasks run on the thread executing Step/Run while it holds `stepMtx`, never two at a time, nothing of a
socket / ToDo starts or is still running once its destructor / `Cancel` has returned on another thread;
outcomes `deadlock`, `stuck`, `crash` are failures) accepts every trace of the model: for every history of
any length - any interleaving of transitions of the lock LTS by the driver thread and any number of user
threads with any programs, management calls (attach, close, cancel, shift, create) returning from their
critical sections, recursive acquisitions, handlers of registered sockets and tasks of listed ToDos invoked
inside a step, management calls from inside them.  No hypothesis. -/
theorem spec_holds_on_model (history : List MOp) :
    ∃ s, specRun ⟨true, false, false⟩ {} (modelTrace {} history) = .ok s :=
  model_satisfies_spec _ history

section Examples
open Spec

/-- non-vacuity: the driver runs, task `a` is in progress; user 0 fails its try-lock, takes `pauseMtx`,
bumps, gets `stepMtx` after the task returned, cancels ToDo `b` and returns; socket `s` is attached and
closed by user 1; a Stop from user 2 ends the Run - 50 observations, accepted in every mode -/
def sampleHistory : List MOp :=
  [.tr (.uTryOk 0), .ret 0 "a" .todo, .tr (.uTryOk 0), .ret 0 "b" .todo, .tr (.uTryOk 1), .ret 1 "s" .attach,
   .tr .dRunEnter, .tr .dRunGo, .tr .dLockStep, .enter .task "a", .tr (.uTryFail 0), .tr (.uLockPause 0),
   .tr (.uBump 0), .retry 0, .dret "a" .shift, .reunlock 0, .exit, .tr .dToPoll, .tr .dPollPipe, .tr .dUnlockStep,
   .tr (.uLockStep 0), .tr (.uRelPause 0), .ret 0 "b" .cancel, .tr .dLockPause, .tr .dUnlockPause, .tr .dRunGo,
   .tr .dLockStep, .enter .task "b", .enter .task "a", .exit, .tr (.uTryFail 1), .tr (.uStopSet 2),
   .tr (.uStopBump 2), .tr .dToPoll, .tr .dPollPipe, .enter .handler "s", .exit, .tr .dUnlockStep, .tr .dLockPause,
   .tr .dUnlockPause, .tr .dRunExit, .tr (.uLockPause 1), .tr (.uBump 1), .tr (.uLockStep 1), .tr (.uRelPause 1),
   .ret 1 "s" .close, .enter .handler "s", .done]

example : (modelTrace {} sampleHistory).length = 50 := by decide +kernel
example : accepts ⟨true, true, true⟩ (modelTrace {} sampleHistory) = true := by decide +kernel
/-- the cancelled task `b` was not invoked (`enter .task "b"` is not an operation of the model then) -/
example : (modelTrace {} sampleHistory).contains (.ev 0 (.enter .task "b")) = false := by decide +kernel

/-- the predicate is not vacuous: it rejects a second owner of `stepMtx`, a task started after its `Cancel`
returned on another thread, a `Cancel` returning while the task runs, a handler on a user thread -/
example : accepts ⟨true, false, false⟩ [.ev 0 .lockStep, .ev 1 .tryStepOk] = false := by decide
example : accepts ⟨true, false, false⟩
    [.ev 1 .tryStepOk, .ev 1 .unlockStep, .ev 1 (.endAct "u1" .cancel), .ev 0 .lockStep, .ev 0 (.enter .task "u1")] = false := by
  decide
example : accepts ⟨true, false, false⟩
    [.ev 0 .lockStep, .ev 0 (.enter .task "u1"), .ev 1 (.endAct "u1" .cancel)] = false := by decide
example : accepts ⟨true, false, false⟩ [.ev 1 .tryStepOk, .ev 1 (.enter .handler "u1")] = false := by decide
example : accepts ⟨true, false, false⟩ [.deadlock "T0(drv):poll t=-1"] = false := by decide

end Examples

end SockModel.Locks

/-! ## quiescence, data level (dispatch model of `Model/Dispatch.lean`)

`quiescence` above is the lock-level half ("no handler is running when the destructor returns").
The other half - "... or will ever start" - is a fact about the data the critical section mutates:
handlers are dispatched only for sockets in `sockets`/`pfds`, `AsyncUnregister` removes the socket
there, and socket ids are never reused. -/
namespace SockModel.Dispatch

/-- "once a socket's destructor ... has returned ..., no handler of that socket ... will ever start":
for every history `pre` (any sockets, peers, steps, handlers destroying sockets), every registered socket
`i`, and EVERY continuation `post` after `i` was destroyed (peers may keep sending to it, close or
reset it, other sockets come and go, any number of steps with any readiness order): the handler
invocations of `i` in the log are exactly those from before its destruction. -/
theorem destroyed_socket_stays_silent (order : List Nat) (pre post : List Op) (i : Nat) :
    let s := run order {} pre
    i ∈ s.socks.map (·.id) →
      evOf i (run order (apply order s (.destroy i)) post).log = evOf i s.log := by
  intro s hi
  have h : DInv s := inv_run inv_init pre
  have hg := gone_after_destroy (order := order) h hi
  exact (run_gone (inv_apply h _) hg post).2

/-- the same after the library itself unregistered the socket (`DriverDisconnect`): once the
disconnect handler of `i` is in the log, `i` is gone for good - in every continuation its handler
log stays what it is (this is `handler_shape` of C03 seen from the unregistering side). -/
theorem disconnected_socket_stays_silent (order : List Nat) (pre post : List Op) (i a : Nat) (r : Reason) :
    let s := run order {} pre
    Event.disconnect i a r ∈ s.log → evOf i (run order s post).log = evOf i s.log := by
  intro s hm
  have h : DInv s := inv_run inv_init pre
  have hg : Gone s i := ⟨h.evSock _ hm, (h.addrOk i a r hm).2⟩
  exact (run_gone h hg post).2

/-- non-vacuity: a client socket receives data, is destroyed, the peer keeps sending and closes, the
driver keeps stepping - nothing more is delivered to it -/
example :
    let pre : List Op := [.newClient 9 4, .peerSend 0 [1, 2, 3], .step false 8 4 []]
    let post : List Op := [.peerSend 0 [4, 5], .step false 8 4 [], .peerClose 0, .step false 8 4 []]
    (run [0, 1, 2] {} pre).log = [.data 0 [1, 2, 3] 4] ∧
    (run [0, 1, 2] (apply [0, 1, 2] (run [0, 1, 2] {} pre) (.destroy 0)) post).log = [.data 0 [1, 2, 3] 4] := by
  decide

end SockModel.Dispatch

/-! ## quiescence, data level (ToDo model of `Model/ToDos.lean`) -/
namespace SockModel.ToDos
open SockModel.Deadline

/-- "once ... a ToDo's Cancel has returned ..., ... that task ... will [n]ever start": for every history
`pre` (any ToDos with any task bodies, clock readings, steps), every live ToDo `id`, and EVERY continuation
`post` after `Cancel(id)` - steps with any timeout, other ToDos created, shifted, cancelled, their tasks
running and re-entering the driver, the clock advancing arbitrarily - task `id` is never invoked again,
PROVIDED nothing schedules it anew: `Shift(id)` is the only operation that gives an existing ToDo an entry,
and neither `post` nor any task body may contain it (hypotheses `hb`, `hq`; they are what "Cancel has
returned and the ToDo is not shifted afterwards" means). -/
theorem cancelled_todo_never_runs (clamp : Bool) (fuel : Nat) (pre post : List Op) (id : Nat) :
    let s := run clamp fuel {} pre
    id ∈ s.live → (∀ p ∈ s.bodies, bodyQuiet id p.2 = true) → post.all (Op.quiet id) = true →
      ranOf id (run clamp fuel (applyOp s (.cancel id)) post).log = ranOf id s.log := by
  intro s hl hb hq
  have h := inv_run clamp fuel inv_init pre
  have hc : id ∉ ids (applyOp s (.cancel id)).todos := by
    simp only [applyOp, if_pos hl]
    exact not_mem_ids_remove id h.nodup
  have hlog : (applyOp s (.cancel id)).log = s.log := by simp only [applyOp]; split <;> rfl
  have hquiet : Quiet id (applyOp s (.cancel id)) := by
    refine ⟨?_, hc, ?_⟩
    · simp only [applyOp]; split <;> exact h.liveKnown id hl
    · simp only [applyOp]; split <;> exact hb
  rw [← hlog]
  exact (run_quiet clamp fuel hquiet post hq).2

/-- the same for a task that has run (its only entry was popped, `run_pops_only_entry`): it is not invoked
a second time in any continuation that does not shift it -/
theorem executed_todo_runs_once (clamp : Bool) (fuel : Nat) (s : St) (id : Nat) (post : List Op)
    (hq : Quiet id s) (hp : post.all (Op.quiet id) = true) :
    ranOf id (run clamp fuel s post).log = ranOf id s.log :=
  (run_quiet clamp fuel hq post hp).2

/-- non-vacuity: two tasks due at 5; the second is cancelled, the driver steps past the due time: only
the first runs -/
example :
    let pre : List Op := [.new 1 5 [], .new 2 5 [.adv 1]]
    let post : List Op := [.clock 10, .step 0, .step 0]
    ranOf 2 (run true 8 (applyOp (run true 8 {} pre) (.cancel 2)) post).log = [] ∧
    (ranOf 1 (run true 8 (applyOp (run true 8 {} pre) (.cancel 2)) post).log).length = 1 := by
  decide

end SockModel.ToDos
