import SockModel.Props.C16
/-!
# C01  TCP byte-stream integrity and exact send accounting

Property theorems.  `os` carries the answers of the operating system - *any* list of
`poll` / `send` / `recv` answers (short writes of any pattern; `accept 0` is zero progress only on an
empty buffer, on a non-empty one it is `SendNow`'s `logic_error`; failures at any position, signals) -
and the record `wire os` of the bytes the library really handed to `send`, in order.
The theorems hold for every such script, every payload and every timeout.

The TCP connection itself is the assumption A-TCP (a connected pair is a FIFO byte
queue); `Chan` below states it, and `stream_integrity` is what it gives for every interleaving of
pushes, pulls and the close (nothing here links `Chan.push` to `wire`: that is the assumption).

The loop invariants `sendAllLoop_inv` / `sendTry_inv` / `sendSomeLoop_inv` and their sum `send_prefix` are proved in
`Model/SendLoopLemmas.lean`; `spec_holds_on_model` links the run-time oracle of `./check C01` to the model.
-/
namespace SockModel.SendLoop
open SockModel.Deadline

/-- "A Send with unlimited timeout returns only after all its bytes were accepted (n = size)":
and exactly the caller's bytes were handed to the OS, whatever the short-write pattern. -/
theorem sendAll_returns_size (data : Bytes) (os os' : Os) (m : Nat) (h : sendAll data os = (.ok m, os')) :
    m = data.length ∧ wire os' = wire os ++ data := by
  obtain ⟨n, _, hw, hok⟩ := sendAllLoop_inv _ data 0 os os' (.ok m) h
  obtain ⟨h1, h2⟩ := hok m rfl
  refine ⟨by omega, ?_⟩
  rw [hw, h2, List.take_length]

/-- if an unlimited Send fails, what reached the OS is a prefix of the caller's bytes -/
theorem sendAll_fail_prefix (data : Bytes) (os os' : Os) (e : Exn) (h : sendAll data os = (.exn e, os')) :
    ∃ n, n ≤ data.length ∧ wire os' = wire os ++ data.take n := by
  obtain ⟨n, hn, hw, _⟩ := sendAllLoop_inv _ data 0 os os' (.exn e) h
  exact ⟨n, hn, hw⟩

/-- `SendTry` (timeout 0): `0 ≤ n ≤ size`, and exactly the first n bytes reached the OS -/
theorem sendTry_count (data : Bytes) (os os' : Os) (r : Res Nat) (h : sendTry data os = (r, os')) :
    ∃ n, n ≤ data.length ∧ wire os' = wire os ++ data.take n ∧ (∀ m, r = .ok m → m = n) :=
  sendTry_inv data os os' r h

/-- a sequence of Send calls with arbitrary payloads and timeouts -/
def sendMany : List (Bytes × Int) → Os → List (Res Nat) × Os
  | [], os => ([], os)
  | (d, T) :: rest, os =>
    let r := send d T os
    let rr := sendMany rest r.2
    (r.1 :: rr.1, rr.2)

/-- "the bytes the receiver obtains are exactly the concatenation, in call order, of the first n_i
bytes of each Send call, where n_i is the count that call returned" - sender half: the wire is that
concatenation (for a call that threw, some prefix of its buffer). -/
theorem send_sequence_wire (calls : List (Bytes × Int)) (os : Os) :
    ∃ ns : List Nat, ns.length = calls.length ∧
      wire (sendMany calls os).2 = wire os ++ ((calls.zip ns).map fun c => c.1.1.take c.2).flatten ∧
      (∀ i (hi : i < calls.length) m, (sendMany calls os).1[i]? = some (.ok m) → ns[i]? = some m) := by
  induction calls generalizing os with
  | nil => exact ⟨[], rfl, by simp [sendMany], by intro i hi; cases hi⟩
  | cons c rest ih =>
    obtain ⟨d, T⟩ := c
    obtain ⟨n, _, hw, hok⟩ := send_prefix d T os (send d T os).2 (send d T os).1 rfl
    obtain ⟨ns, hlen, hwire, hres⟩ := ih (send d T os).2
    refine ⟨n :: ns, by simp [hlen], ?_, ?_⟩
    · simp only [sendMany, List.zip_cons_cons, List.map_cons, List.flatten_cons]
      rw [hwire, hw, List.append_assoc]
    · intro i hi m hm
      cases i with
      | zero =>
        simp only [sendMany, List.getElem?_cons_zero, Option.some.injEq] at hm
        simp only [List.getElem?_cons_zero, Option.some.injEq]
        exact ((hok m hm).1).symm
      | succ i =>
        simp only [sendMany, List.getElem?_cons_succ] at hm
        simp only [List.getElem?_cons_succ]
        exact hres i (by simp at hi; omega) m hm

theorem recvNow_bounds (size : Nat) (os os' : Os) (bs : Bytes) (h : recvNow size os = (.ok bs, os')) :
    1 ≤ bs.length ∧ bs.length ≤ size := by
  unfold recvNow at h
  cases hr : os.recvs with
  | nil => rw [hr] at h; cases h
  | cons a rest =>
    rw [hr] at h
    cases a with
    | got data =>
      simp only at h
      split at h
      · cases h
      · rename_i hne
        cases h
        refine ⟨?_, by simp only [List.length_take]; omega⟩
        cases hb : List.take size data with
        | nil => simp [hb] at hne
        | cons x xs => simp
    | eof => cases h
    | fail e => cases h

/-- "a Receive reports between 1 and the offered buffer size bytes, never 0" (a closed connection or a
failed `recv` is an exception, a timeout is `none`: neither is `.ok (some bs)`) -/
theorem receive_chunk_bounds (size : Nat) (T : Int) (os os' : Os) (bs : Bytes)
    (h : receive size T os = (.ok (some bs), os')) : 1 ≤ bs.length ∧ bs.length ≤ size := by
  unfold receive at h
  split at h
  · cases h
  · cases h
  · split at h
    · rename_i hr
      cases h
      exact recvNow_bounds size _ _ _ hr
    · cases h

/-! ### A-TCP: the connection as a FIFO byte queue, and stream integrity end to end -/

structure Chan where
  q : Bytes := []            -- bytes in flight
  closed : Bool := false     -- the sender closed its side
  pushed : Bytes := []       -- everything the sender's OS accepted (ghost)
  delivered : Bytes := []    -- everything the receiver's `recv` handed over (ghost)
  eofSeen : Bool := false    -- the receiver was told "connection closed"

inductive ChanOp where
  | push (bs : Bytes)                 -- the sender's kernel accepted these bytes (`wire` grows by them)
  | pull (chunk size : Nat)           -- a `recv(size)`; the kernel has `chunk ≥ 1` bytes ready to hand over
  | close

def Chan.step (c : Chan) : ChanOp → Chan
  | .push bs => if c.closed then c else { c with q := c.q ++ bs, pushed := c.pushed ++ bs }
  | .pull chunk size =>
    if c.q.isEmpty then (if c.closed then { c with eofSeen := true } else c)
    else
      let k := min (max chunk 1) size
      { c with q := c.q.drop k, delivered := c.delivered ++ c.q.take k }
  | .close => { c with closed := true }

/-- "nothing is lost, duplicated, reordered or invented ... Everything sent before the peer closes is
delivered before Receive reports the closure": for every interleaving of sender pushes, receiver
pulls (any chunking, any buffer sizes) and the close, what was delivered plus what is still in flight
is exactly what was pushed, and the closure is reported only when nothing is in flight any more. -/
theorem stream_integrity (ops : List ChanOp) :
    let c := ops.foldl Chan.step {}
    c.delivered ++ c.q = c.pushed ∧ (c.eofSeen = true → c.q = [] ∧ c.delivered = c.pushed) := by
  suffices H : ∀ c0 : Chan,
      (c0.delivered ++ c0.q = c0.pushed ∧ (c0.eofSeen = true → c0.closed = true ∧ c0.q = [])) →
      ((ops.foldl Chan.step c0).delivered ++ (ops.foldl Chan.step c0).q = (ops.foldl Chan.step c0).pushed ∧
       ((ops.foldl Chan.step c0).eofSeen = true →
          (ops.foldl Chan.step c0).closed = true ∧ (ops.foldl Chan.step c0).q = [])) by
    intro c
    have := H {} ⟨rfl, by intro h; cases h⟩
    refine ⟨this.1, fun he => ⟨(this.2 he).2, ?_⟩⟩
    have h1 := this.1
    rw [(this.2 he).2, List.append_nil] at h1
    exact h1
  induction ops with
  | nil => intro c0 h; exact h
  | cons op ops ih =>
    intro c0 ⟨h1, h2⟩
    apply ih
    cases op with
    | push bs =>
      simp only [Chan.step]
      split
      · exact ⟨h1, h2⟩
      · rename_i hnc
        refine ⟨by simp only; rw [← List.append_assoc, h1], ?_⟩
        intro he
        simp only at he
        exact absurd (h2 he).1 hnc
    | pull chunk size =>
      simp only [Chan.step]
      split
      · split
        · rename_i hq hcl
          exact ⟨h1, fun _ => ⟨hcl, by simpa using hq⟩⟩
        · exact ⟨h1, h2⟩
      · refine ⟨?_, ?_⟩
        · simp only
          rw [List.append_assoc, List.take_append_drop]; exact h1
        · intro he; simp only at he
          have := h2 he
          exact ⟨this.1, by simp [this.2]⟩
    | close =>
      refine ⟨h1, ?_⟩
      intro he
      exact ⟨rfl, (h2 he).2⟩

/-! ### non-vacuity -/

example : (sendAll [1, 2, 3, 4, 5] { polls := [.ready 0, .eintr 3, .ready 1], sends := [.accept 2, .accept 3] }).1
    = .ok 5 := by decide
example : wire (sendAll [1, 2, 3, 4, 5] { polls := [.ready 0, .ready 0], sends := [.accept 2, .fail 32] }).2
    = [1, 2] := by decide

end SockModel.SendLoop

namespace SockModel.Spec.C01
/-- the predicate `./check C01` evaluates on the implementation's observations (`specStep` of `Spec/C01.lean`)
accepts every trace of the model, for every history of any length; the clauses and the domain `histOk` are
described at `model_satisfies_spec` -/
theorem spec_holds_on_model (history : List Op) (h : histOk {} history = true) :
    ∃ s, specRun {} (modelTrace {} history) = .ok s :=
  model_satisfies_spec history h
end SockModel.Spec.C01

/-! ## Source-derived tie (DESIGN.md §0.7)

`SockModel.Gen.*` (Generated/Funcs.lean) is regenerated on every run by tools/cxx2lean.py from the clang AST of
the CURRENT /repo/src: the timeout-sign dispatch of SocketImpl::Send (socket_impl.cpp).
Each theorem below states that the generated function and the hand-written model function agree for ALL
arguments; a change of the C++ function changes the generated definition and the theorem stops checking. -/
namespace SockModel.Props.C01
open SockModel SockModel.SendLoop
theorem tie_send_dispatch (data : Bytes) (t : Int) (os : Os) :
    send data t os =
      match Gen.Send_dispatch t with
      | .sendAll => sendAll data os
      | .sendTry => sendTry data os
      | .sendSomeLimited => sendSome data t os := by
  -- split on the MODEL's conditions; every generated `if` (whatever its order and polarity) is decided by `omega`
  by_cases h1 : t < 0 <;> by_cases h2 : t = 0 <;>
    simp (disch := omega) only [send, Gen.Send_dispatch, if_pos, if_neg, if_true, if_false, h1, h2] <;>
      (try (exfalso; omega))
end SockModel.Props.C01

/-! ## Source-derived tie, stage 2 (DESIGN.md §0.7): `SendNow`, `ReceiveNow`, `Receive`, `SendTry`, `SendAll`

Generated from the clang AST of src/socket_impl.cpp on every run (Generated/Loops.lean), run in the model's world
(`GenWorld.osWorld buf`: `::send(fd, data + off, len)` offers the bytes `(buf.drop off).take len`), tied to the
hand-written `SendLoop.*` for every script.  Uses `waitReadable_run` / `waitWritable_run` of Props/C16.lean.
`Gen.SendSome` likewise (below). -/
namespace SockModel.Props.C01
open SockModel SockModel.SendLoop SockModel.Deadline SockModel.GenWorld

def mapRes {α β : Type} (f : α → β) : Res α → Res β
  | .ok v => .ok (f v)
  | .exn e => .exn e

/-- whatever expression the generated code returns as its count, reduced to `size_t` or not: if it denotes `n`,
the count is `n` -/
theorem count_canon (x : Int) (n : Nat) (hx : x = n) (hn : n < 2 ^ 64) : (x % 18446744073709551616).toNat = n := by
  subst hx; omega

theorem toNat_canon (x : Int) (n : Nat) (hx : x = n) : x.toNat = n := by
  subst hx; rfl

/-- `SendNow`, offered the `len` bytes at offset `off` of a buffer, does what the model's `sendNow` does with those
bytes (result, exceptions, the `send` call and its argument, the script), and a count it returns is not negative -/
theorem tie_SendNow_nonneg (buf : Bytes) (fuel off len : Nat) (h : off + len ≤ buf.length) (h64 : len < 2 ^ 64)
    (os : Os) (i : Bool) (e : Nat) :
    (resOf Int.toNat (Gen.SendNow (osWorld buf) fuel off len ⟨os, i, e⟩).1,
      (Gen.SendNow (osWorld buf) fuel off len ⟨os, i, e⟩).2.os) = sendNow ((buf.drop off).take len) os ∧
    ∀ v, (Gen.SendNow (osWorld buf) fuel off len ⟨os, i, e⟩).1 = .ok v → 0 ≤ v := by
  have hl : ((buf.drop off).take len).length = len := by simp; omega
  unfold Gen.SendNow sendNow
  simp only [Gen.M.bind, send_eq, Int.toNat_natCast]
  generalize (buf.drop off).take len = d at hl ⊢
  subst hl
  cases hs : os.sends with
  | nil => simp [resOf]
  | cons a rest =>
    cases a with
    | fail e' => simp [Gen.M.throw, Gen.M.bind, resOf, exnOf]
    | accept a =>
      by_cases h0 : min a d.length = 0 ∧ d.length > 0
      · have h1 : ((min a d.length : Nat) : Int) = 0 ∧ (d.length : Int) > 0 := by omega
        have h2 : ¬ ((min a d.length : Nat) : Int) < 0 := by omega
        simp [h0, Gen.M.throw, resOf, exnOf]
      · have h1 : ¬ (((min a d.length : Nat) : Int) = 0 ∧ (d.length : Int) > 0) := by omega
        have h2 : ¬ ((min a d.length : Nat) : Int) < 0 := by omega
        have h3 := count_canon _ (min a d.length) rfl (by omega)
        simp only [h0, h1, h2, if_false, Gen.M.pure, resOf, h3, true_and, Gen.Res.ok.injEq]
        intro v hv
        omega

theorem tie_SendNow (buf : Bytes) (fuel off len : Nat) (h : off + len ≤ buf.length) (h64 : len < 2 ^ 64)
    (os : Os) (i : Bool) (e : Nat) :
    (resOf Int.toNat (Gen.SendNow (osWorld buf) fuel off len ⟨os, i, e⟩).1,
      (Gen.SendNow (osWorld buf) fuel off len ⟨os, i, e⟩).2.os) = sendNow ((buf.drop off).take len) os :=
  (tie_SendNow_nonneg buf fuel off len h h64 os i e).1

/-- the generated code returns the count, the model the bytes -/
theorem tie_ReceiveNow (buf : Bytes) (fuel size : Nat) (h64 : size < 2 ^ 64) (os : Os) (i : Bool) (e : Nat) :
    (resOf Int.toNat (Gen.ReceiveNow (osWorld buf) fuel size ⟨os, i, e⟩).1,
      (Gen.ReceiveNow (osWorld buf) fuel size ⟨os, i, e⟩).2.os)
      = (mapRes List.length (recvNow size os).1, (recvNow size os).2) := by
  unfold Gen.ReceiveNow recvNow
  simp only [Gen.M.bind, recv_eq, Int.toNat_natCast]
  cases hr : os.recvs with
  | nil => simp [resOf, mapRes]
  | cons a rest =>
    cases a with
    | eof => simp [Gen.M.throw, resOf, exnOf, mapRes]
    | fail e' => simp [Gen.M.throw, Gen.M.bind, resOf, exnOf, mapRes]
    | got bs =>
      have hle : (bs.take size).length ≤ size := by simp; omega
      dsimp only
      generalize bs.take size = tk at hle ⊢
      cases tk with
      | nil =>
        simp [Gen.M.throw, resOf, exnOf, mapRes]
      | cons x xs =>
        have h4 : ((((x :: xs).length : Nat) : Int) % 18446744073709551616).toNat = (x :: xs).length := by omega
        have hl : (0 : Int) < (((x :: xs).length : Nat) : Int) := by simp only [List.length_cons]; omega
        simp (disch := omega) only [if_pos, if_neg, Gen.M.pure, resOf, mapRes, h4, List.isEmpty_cons]
        try simp

open SockModel.Props.C16 in
theorem tie_Receive (buf : Bytes) (fuel size : Nat) (h64 : size < 2 ^ 64) (t : Int) (os : Os) (i : Bool) (e : Nat)
    (hf : os.polls.length < fuel) :
    (resOf (Option.map Int.toNat) (Gen.Receive (osWorld buf) fuel size t ⟨os, i, e⟩).1,
      (Gen.Receive (osWorld buf) fuel size t ⟨os, i, e⟩).2.os)
      = (mapRes (Option.map List.length) (receive size t os).1, (receive size t os).2) := by
  obtain ⟨g, i', e', hg, hr⟩ := waitReadable_run buf fuel t os i e hf
  unfold Gen.Receive receive
  simp only [Gen.M.bind, hg]
  cases hw : wait t os with
  | mk r os1 =>
    rw [hw] at hr
    simp only at hr
    cases g with
    | halted => subst hr; rfl
    | thrown x => subst hr; rfl
    | ok b =>
      simp only [resOf, id] at hr
      subst hr
      cases b with
      | false => simp [Gen.M.pure, resOf, mapRes]
      | true =>
        have hn := tie_ReceiveNow buf fuel size h64 os1 i' e'
        simp only [Bool.not_true, if_false, if_true, not_true_eq_false, Gen.M.bind]
        generalize Gen.ReceiveNow (osWorld buf) fuel size ⟨os1, i', e'⟩ = q at hn ⊢
        generalize recvNow size os1 = m at hn ⊢
        obtain ⟨qr, qw⟩ := q
        obtain ⟨mr, mo⟩ := m
        simp only [Prod.mk.injEq] at hn
        obtain ⟨h1, h2⟩ := hn
        subst h2
        cases qr <;> cases mr <;> simp [resOf, mapRes, Gen.M.pure] at h1 ⊢ <;> first | exact h1 | simp_all

/-- how a generated `SendNow` runs, in the form the callers' proofs use -/
theorem sendNow_run (buf : Bytes) (fuel off len : Nat) (h : off + len ≤ buf.length) (h64 : len < 2 ^ 64)
    (os : Os) (i : Bool) (e : Nat) :
    ∃ g i' e', Gen.SendNow (osWorld buf) fuel off len ⟨os, i, e⟩ = (g, ⟨(sendNow ((buf.drop off).take len) os).2, i', e'⟩) ∧
      resOf Int.toNat g = (sendNow ((buf.drop off).take len) os).1 ∧ (∀ v, g = .ok v → 0 ≤ v) := by
  obtain ⟨h1, h2⟩ := tie_SendNow_nonneg buf fuel off len h h64 os i e
  generalize Gen.SendNow (osWorld buf) fuel off len ⟨os, i, e⟩ = r at h1 h2
  obtain ⟨g, ⟨o, i', e'⟩⟩ := r
  exact ⟨g, i', e', by rw [← h1], by rw [← h1], h2⟩

open SockModel.Props.C16 in
theorem tie_SendTry (buf : Bytes) (fuel : Nat) (h64 : buf.length < 2 ^ 64) (os : Os) (i : Bool) (e : Nat)
    (hf : os.polls.length < fuel) :
    (resOf Int.toNat (Gen.SendTry (osWorld buf) fuel 0 buf.length ⟨os, i, e⟩).1,
      (Gen.SendTry (osWorld buf) fuel 0 buf.length ⟨os, i, e⟩).2.os) = sendTry buf os := by
  obtain ⟨g, i', e', hg, hr⟩ := waitWritable_run buf fuel 0 os i e hf
  unfold Gen.SendTry sendTry
  simp only [Gen.M.bind, hg]
  cases hw : wait 0 os with
  | mk r os1 =>
    rw [hw] at hr
    simp only at hr
    cases g with
    | halted => subst hr; rfl
    | thrown x => subst hr; rfl
    | ok b =>
      simp only [resOf, id] at hr
      subst hr
      cases b with
      | false => simp [Gen.M.pure, resOf]
      | true =>
        obtain ⟨q, i2, e2, hq, hqr, _⟩ := sendNow_run buf fuel 0 buf.length (by omega) h64 os1 i' e'
        have hb : (buf.drop 0).take buf.length = buf := by simp
        rw [hb] at hq hqr
        have hq' : Gen.SendNow (osWorld buf) fuel (0 : Int) (buf.length : Int) ⟨os1, i', e'⟩ = _ := hq
        simp only [Bool.not_true, if_false, if_true, not_true_eq_false, Gen.M.bind, hq']
        cases q <;> simp [resOf, Gen.M.pure] at hqr ⊢ <;> rw [hqr]

section
open SockModel.Props.C16
/-! ### the send loops (`SendAll`, `SendSome`), shape-robust

The translator gives every send loop the canonical state "offset of the next byte" (a shrinking `string_view` and a
byte counter translate to the same loop signature: all parameters and unchanged locals as fixed arguments, the cursor
as the only changing one besides `deadline.now`).  The proofs never name an argument expression of the generated
code: `SendNow`'s arguments are rewritten to the canonical `↑off`, `↑len` by `sendNow_canon` with `omega` side goals,
its count comes back as a cast natural number (`sendNow_gen`), the model's `if` is decided by a case split, the
generated `if`s by `omega` from that case in whatever polarity and nesting they come, the returned expression is read
by `count_canon` / `toNat_canon`, and the induction hypothesis is applied by `rw` with the loop argument left open
(`tie_send_exit`, `tie_send_again`).  What one round does to the scripts is `wait_sendNow_scripts`. -/

/-- whatever expressions the generated code passes to `SendNow`: if they denote offset `off` and length `len`
(side goals for `omega`), the call is the canonical one -/
theorem sendNow_canon (buf : Bytes) (fuel : Nat) (a b : Int) (off len : Nat) (ha : a = (off : Int)) (hb : b = (len : Int)) (w : WSt) :
    Gen.SendNow (osWorld buf) fuel a b w = Gen.SendNow (osWorld buf) fuel (off : Int) (len : Int) w := by
  subst ha hb; rfl

theorem sendNow_gen (buf : Bytes) (fuel off : Nat) (hinv : off ≤ buf.length) (h64 : buf.length < 2 ^ 64)
    (os : Os) (i : Bool) (e : Nat) :
    ∃ g i' e', Gen.SendNow (osWorld buf) fuel off (buf.length - off : Nat) ⟨os, i, e⟩
        = (g, ⟨(sendNow (buf.drop off) os).2, i', e'⟩) ∧
      (∀ k, (sendNow (buf.drop off) os).1 = .ok k → g = .ok (k : Int)) ∧
      (∀ x, (sendNow (buf.drop off) os).1 = .exn x → resOf Int.toNat g = .exn x) := by
  obtain ⟨g, i', e', hg, hr, hpos⟩ := sendNow_run buf fuel off (buf.length - off) (Nat.le_of_eq (Nat.add_sub_of_le hinv))
    (Nat.lt_of_le_of_lt (Nat.sub_le _ _) h64) os i e
  rw [drop_take_rest] at hg hr
  refine ⟨g, i', e', hg, ?_, fun x hx => hr.trans hx⟩
  intro k hk
  rw [hk] at hr
  cases g with
  | ok v => have := hpos v rfl; simp only [resOf, Res.ok.injEq] at hr; congr 1; omega
  | thrown x => cases hr
  | halted => cases hr

/-- a send loop returns the count `n`: decides the generated `if`s, in whatever polarity and arithmetic form they
come, from the hypotheses (`omega`), and reads the returned expression as `n` -/
macro "tie_send_exit" n:term : tactic => `(tactic|
  simp (disch := omega) only [if_pos, if_neg, Gen.M.pure, resOf, ↓count_canon _ $n, toNat_canon _ $n])

/-- a send loop goes round again: decides the generated `if`s likewise, then the induction hypothesis `ih` with the
loop argument left open (its side goals: the new cursor, the bounds on the scripts) -/
macro "tie_send_again" ih:term : tactic => `(tactic| (
  simp (disch := omega) only [if_pos, if_neg]
  rw [$ih:term]
  all_goals omega))

theorem sendAll_loop_tie (buf : Bytes) (fuel : Nat) (h64 : buf.length < 2 ^ 64) :
    ∀ (n : Nat) (a : Int) (off : Nat) (os : Os) (i : Bool) (e : Nat), a = off → off ≤ buf.length →
      os.polls.length < fuel → os.sends.length < n →
      (resOf Int.toNat (Gen.SendAll_loop1 (osWorld buf) fuel 0 buf.length (-1) n a ⟨os, i, e⟩).1,
        (Gen.SendAll_loop1 (osWorld buf) fuel 0 buf.length (-1) n a ⟨os, i, e⟩).2.os)
        = sendAllLoop (os.sends.length + 1) (buf.drop off) off os := by
  intro n
  induction n with
  | zero => intro a off os i e _ _ _ h; omega
  | succ n ih =>
    intro a off os i e ha hinv hp hs
    obtain ⟨g, i1, e1, hg, hr⟩ := waitWritable_run buf fuel (-1) os i e hp
    rw [sendAllLoop]
    simp only [Gen.SendAll_loop1, Gen.M.bind, hg]
    cases hw : wait (-1) os with
    | mk r os1 =>
      rw [hw] at hr
      simp only at hr
      cases g with
      | halted => subst hr; rfl
      | thrown x => subst hr; rfl
      | ok b =>
        simp only [resOf, id] at hr
        subst hr
        obtain ⟨q, i2, e2, hq, hqok, hqexn⟩ := sendNow_gen buf fuel off hinv h64 os1 i1 e1
        dsimp only
        rw [sendNow_canon buf fuel _ _ off (buf.length - off) ?ha ?hb]
        case ha => omega
        case hb => omega
        simp only [hq]
        cases hsn : sendNow (buf.drop off) os1 with
        | mk sr os2 =>
          rw [hsn] at hqok hqexn
          cases sr with
          | exn x =>
            have hx := hqexn x rfl
            cases q with
            | ok v => cases hx
            | thrown t => cases hx; rfl
            | halted => cases hx; rfl
          | ok k =>
            cases hqok k rfl
            obtain ⟨hk, h6, hpl⟩ := wait_sendNow_scripts hw hsn
            simp only [List.length_drop] at hk
            simp only [List.drop_drop, List.isEmpty_iff, List.drop_eq_nil_iff, ← h6]
            by_cases hz : buf.length ≤ off + k
            · rw [if_pos hz]
              tie_send_exit (off + k)
            · rw [if_neg hz]
              tie_send_again (ih _ (off + k) os2 i2 e2 ?_ (by omega) (Nat.lt_of_le_of_lt hpl hp) (by omega))

theorem tie_SendAll (buf : Bytes) (fuel : Nat) (h64 : buf.length < 2 ^ 64) (os : Os) (i : Bool) (e : Nat)
    (hp : os.polls.length < fuel) (hs : os.sends.length < fuel) :
    (resOf Int.toNat (Gen.SendAll (osWorld buf) fuel 0 buf.length ⟨os, i, e⟩).1,
      (Gen.SendAll (osWorld buf) fuel 0 buf.length ⟨os, i, e⟩).2.os) = sendAll buf os := by
  have := sendAll_loop_tie buf fuel h64 (Gen.loopFuel fuel) 0 0 os i e (by simp) (by omega) hp hs
  unfold Gen.SendAll sendAll
  simpa using this

/-- a wait leaves the `send` script alone and does not lengthen the `poll` script (no bound on the timeout) -/
theorem wait_frame (T : Int) (os : Os) :
    (wait T os).2.sends = os.sends ∧ (wait T os).2.polls.length ≤ os.polls.length :=
  ⟨(wait_waited T os).polled.sends, (wait_waited T os).polled.fewer⟩

theorem gen_timeLeft (now dl : Int) : (Gen.DeadlineLimited_TimeLeft now dl = true) = (now < dl) := by
  simp only [Gen.DeadlineLimited_TimeLeft]
  apply propext
  constructor <;> intro h
  · have : decide (now < dl) = true := by revert h; tie_bool_arith
    simpa using this
  · have : decide (now < dl) = true := by simpa using h
    revert this; tie_bool_arith

theorem sendSome_loop_tie (buf : Bytes) (fuel : Nat) (h64 : buf.length < 2 ^ 64) (dnow0 dl : Int) :
    ∀ (n : Nat) (a : Int) (off : Nat) (dnow : Int) (os : Os) (i : Bool) (e : Nat), a = off → off ≤ buf.length →
      os.polls.length < fuel → os.sends.length < n →
      (resOf Int.toNat (Gen.SendSome_loop1 (osWorld buf) fuel 0 buf.length dnow0 dl n dnow a ⟨os, i, e⟩).1,
        (Gen.SendSome_loop1 (osWorld buf) fuel 0 buf.length dnow0 dl n dnow a ⟨os, i, e⟩).2.os)
        = sendSomeLoop dl (os.sends.length + 1) (buf.drop off) off dnow os := by
  intro n
  induction n with
  | zero => intro a off dnow os i e _ _ _ h; omega
  | succ n ih =>
    intro a off dnow os i e ha hinv hp hs
    obtain ⟨g, i1, e1, hg, hr⟩ := waitWritable_run buf fuel (Deadline.limited dnow dl).remaining os i e hp
    rw [sendSomeLoop]
    simp only [Gen.SendSome_loop1, Gen.M.bind, gen_remaining, hg]
    cases hw : wait (Deadline.limited dnow dl).remaining os with
    | mk r os1 =>
      rw [hw] at hr
      simp only at hr
      cases g with
      | halted => subst hr; rfl
      | thrown x => subst hr; rfl
      | ok b =>
        simp only [resOf, id] at hr
        subst hr
        cases b with
        | false =>
          simp only [Bool.false_eq_true, not_false_eq_true, if_true, if_false]
          tie_send_exit off
        | true =>
          simp only [not_true_eq_false, if_true, if_false, Gen.M.bind, Gen.Clocked_Tick, clockNow_eq, Gen.M.pure]
          obtain ⟨q, i2, e2, hq, hqok, hqexn⟩ := sendNow_gen buf fuel off hinv h64 os1 i1 e1
          rw [sendNow_canon buf fuel _ _ off (buf.length - off) ?ha ?hb]
          case ha => omega
          case hb => omega
          simp only [hq]
          cases hsn : sendNow (buf.drop off) os1 with
          | mk sr os2 =>
            rw [hsn] at hqok hqexn
            cases sr with
            | exn x =>
              have hx := hqexn x rfl
              cases q with
              | ok v => cases hx
              | thrown t => cases hx; rfl
              | halted => cases hx; rfl
            | ok k =>
              cases hqok k rfl
              obtain ⟨hk, h6, hpl⟩ := wait_sendNow_scripts hw hsn
              simp only [List.length_drop] at hk
              simp only [gen_timeLeft, List.drop_drop, List.isEmpty_iff, List.drop_eq_nil_iff, ← h6]
              by_cases hz : buf.length ≤ off + k ∨ ¬ os1.now < dl
              · rw [if_pos hz]
                tie_send_exit (off + k)
              · rw [if_neg hz]
                tie_send_again (ih _ (off + k) os1.now os2 i2 e2 ?_ (by omega) (Nat.lt_of_le_of_lt hpl hp) (by omega))

/-- **tie of `SendSome(fd, data, size, deadline)`** for every state of the caller's deadline object -/
theorem tie_SendSome (buf : Bytes) (fuel : Nat) (h64 : buf.length < 2 ^ 64) (dnow dl : Int) (os : Os) (i : Bool) (e : Nat)
    (hp : os.polls.length < fuel) (hs : os.sends.length < fuel) :
    (resOf Int.toNat (Gen.SendSome (osWorld buf) fuel 0 buf.length dnow dl ⟨os, i, e⟩).1,
      (Gen.SendSome (osWorld buf) fuel 0 buf.length dnow dl ⟨os, i, e⟩).2.os)
      = sendSomeLoop dl (os.sends.length + 1) buf 0 dnow os := by
  have := sendSome_loop_tie buf fuel h64 dnow dl (Gen.loopFuel fuel) 0 0 dnow os i e (by simp) (by omega) hp hs
  unfold Gen.SendSome
  simpa using this

/-- ... and as `SocketImpl::Send` calls it (`DeadlineLimited deadline(timeout)` constructed at the current clock
reading): the model's `sendSome` -/
theorem tie_SendSome_send (buf : Bytes) (fuel : Nat) (h64 : buf.length < 2 ^ 64) (t : Int) (os : Os) (i : Bool) (e : Nat)
    (hp : os.polls.length < fuel) (hs : os.sends.length < fuel) :
    (resOf Int.toNat
        (Gen.SendSome (osWorld buf) fuel 0 buf.length os.now (Gen.DeadlineLimited_deadline os.now t) ⟨os, i, e⟩).1,
      (Gen.SendSome (osWorld buf) fuel 0 buf.length os.now (Gen.DeadlineLimited_deadline os.now t) ⟨os, i, e⟩).2.os)
      = sendSome buf t os := by
  rw [tie_SendSome buf fuel h64 _ _ os i e hp hs]
  simp only [sendSome, Gen.DeadlineLimited_deadline, nsPerMs]
end
end SockModel.Props.C01
