import SockModel.Model.TlsLemmas
import SockModel.Spec.C15
/-!
# C15  Peer failure at any point is reported, never fatal

The kernel is a `Net.Script`: *any* finite history of `poll`/`send`/`recv`
answers (any length, any content - short writes, errors, timeouts, data in any segmentation),
followed for ever by the kernel's reaction to a vanished peer (assumption **K1**: `poll` reports
ready, `send` fails with EPIPE, `recv` reports end of stream) - `dead := true`.
"For every script whose answers from some point on are `fail`" is therefore "for every `Script`
with `dead = true`".
-/
namespace SockModel.PeerFail
open SockModel.Net SockModel.Tls

/-! ## "a Send with unlimited timeout never blocks forever on a dead connection" -/

/-- **sendAll_dead_peer_terminates**.  For every script (arbitrary answers, then K1) and every buffer,
`SendAll` - the loop behind `Send(data, size, unlimited)` -
* makes at most `(number of scripted send answers) + 1` further `send` calls,
* ends with everything accepted or with an exception,
* and ends with an *exception* whenever the buffer is larger than what the scripted answers accept:
  once the peer is gone an unlimited `Send` does not block, it throws. -/
theorem sendAll_dead_peer_terminates (s : Script) (hdead : s.dead = true) (data : Bytes) (acc : Nat) :
    nSends (sendAll Script.world s data acc).w.calls ≤ nSends s.calls + s.sends.length + 1 ∧
    ((sendAll Script.world s data acc).exn.isSome ∨ (sendAll Script.world s data acc).sent = acc + data.length) ∧
    (budget s.sends < data.length → (sendAll Script.world s data acc).exn.isSome) := by
  fun_induction Net.sendAll Script.world s data acc with
  | case1 s bs acc r0 hx =>
    obtain ⟨k1, -, -⟩ := script_round s hdead bs r0 rfl
    exact ⟨by simp only; omega, Or.inl hx, fun _ => hx⟩
  | case2 s bs acc r0 hx hrest =>
    obtain ⟨k1, -, k3⟩ := script_round s hdead bs r0 rfl
    obtain ⟨k, rest, hk1, -, hk3⟩ := k3 (Option.not_isSome_iff_eq_none.mp hx)
    have hle : r0.sent ≤ bs.length := sendNow_le _ _ bs
    have hall : r0.sent = bs.length := by
      have := List.drop_eq_nil_iff.mp hrest
      omega
    refine ⟨by simp only; omega, Or.inr (by simp [hall]), fun hb => ?_⟩
    rw [hk1] at hb
    simp only [budget] at hb
    omega
  | case3 s bs acc r0 hx hrest hpos ih =>
    obtain ⟨k1, k2, k3⟩ := script_round s hdead bs r0 rfl
    obtain ⟨k, rest, hk1, hk2, hk3⟩ := k3 (Option.not_isSome_iff_eq_none.mp hx)
    have hle : r0.sent ≤ bs.length := sendNow_le _ _ bs
    obtain ⟨i1, i2, i3⟩ := ih k2
    rw [show r0.w.sends = rest from hk2] at i1 i3
    rw [hk1]
    simp only [List.length_cons, List.length_drop, budget] at i1 i2 i3 ⊢
    exact ⟨by omega, i2.imp_right (by omega), fun hb => i3 (by omega)⟩
  | case4 s bs acc r0 hx hrest hpos =>
    obtain ⟨k1, -, -⟩ := script_round s hdead bs r0 rfl
    exact ⟨by simp only; omega, Or.inl rfl, fun _ => rfl⟩

/-! ## "local sends and receives report it by exception" -/

/-- the kernel with nothing scripted left: the peer is gone (K1) -/
def gone (s : Script) : Prop := s.dead = true ∧ s.waits = [] ∧ s.sends = [] ∧ s.recvs = []

/-- **peer_failure_reported** (synchronous, plain): once the peer is gone and no scripted answer is left, every
`Receive` throws `connection closed` and every `Send` - whatever the timeout: unlimited, zero or limited - throws
EPIPE with nothing sent. -/
theorem peer_failure_reported (s : Script) (hg : gone s) (size : Nat) (t : Int) (data : Bytes) (hd : data ≠ []) :
    (∃ w', recvT Script.world s size t = .exn .closed w') ∧
    (∃ w', (sendT Script.world s data t).exn = some (.system epipe) ∧ (sendT Script.world s data t).sent = 0 ∧
      (sendT Script.world s data t).w = w') := by
  obtain ⟨h1, h2, h3, h4⟩ := hg
  constructor
  · simp [recvT, receive, Script.world, h1, h2, h4, recvNow]
  · -- in each of the three timeout modes: the first wait reports ready, the first `send` fails
    have key : (sendT Script.world s data t).exn = some (.system epipe) ∧ (sendT Script.world s data t).sent = 0 := by
      unfold sendT Net.send
      split
      · unfold sendAll
        simp [Script.world, h1, h2, h3, sendNow]
      · split
        · simp [sendTry, Script.world, h1, h2, h3, sendNow]
        · unfold sendSome
          simp [Script.world, h1, h2, h3, sendNow]
    exact ⟨_, key.1, key.2, rfl⟩

/-- in every world: the `recv` that sees the failure is the call that throws - end of stream as
`runtime_error("connection closed")`, an errno as `system_error` - never a 0-byte success -/
theorem recv_failure_is_exception {ω : Type} (W : World ω) (w : ω) (size : Nat) :
    (∀ w', W.recv w size = (.data [], w') → recvNow W w size = .exn .closed w') ∧
    (∀ e w', W.recv w size = (.fail e, w') → recvNow W w size = .exn (.system e) w') ∧
    (∀ bs w', recvNow W w size = .got bs w' → bs ≠ []) := by
  refine ⟨?_, ?_, ?_⟩
  · intro w' h; simp [recvNow, h]
  · intro e w' h; simp [recvNow, h]
  · intro bs w' h
    unfold recvNow at h
    split at h
    · cases h
    · split at h
      · cases h
      · rename_i hne; cases h; exact hne

/-- the engine's verdicts on a broken connection -/
def FatalAns (a : SslAns) : Prop := a = .zeroReturn ∨ a = .syscallErr ∨ a = .sslErr

/-- **tls_peer_failure_reported**: whenever the engine answers a `ssl_read` with close-notify
(`zeroReturn`), an I/O failure (`syscallErr`) or a protocol failure (`sslErr`) - which is how it reacts to a
peer that closed, reset or truncated the stream, at any stage incl. mid-handshake - the round throws. -/
theorem tls_peer_failure_reported {σ ω : Type} {W : World ω} (C : Cfg) (E : Engine σ) (size i : Nat) (s : St σ ω)
    (hE : AllLeaves (fun a _ _ => FatalAns a) (E.sslRead s.e size)) :
    ∃ e s', readRound C W E size i s = (some (.exn e), s') := by
  have hs := interp_spec (W := W) _ _ hE s
  unfold readRound
  rcases hi : interp W s (E.sslRead s.e size) with ⟨o, s1⟩
  rw [hi] at hs
  cases o with
  | exn e => exact ⟨e, s1, rfl⟩
  | abort m => exact absurd rfl (hs.2.1 m)
  | ok p =>
    obtain ⟨ans, out⟩ := p
    have hf : FatalAns ans := hs.2.2.1 ans out rfl
    obtain ⟨e, s', hr⟩ := handleResult_fatal (W := W) (noteCall E s1 true [] ans) ans hf
    refine ⟨e, s', ?_⟩
    rcases hf with ha | ha | ha <;> subst ha <;> simp [hr]

/-! ### asynchronous sockets: "by the disconnect handler and failed or broken futures" -/

/-- **async_failure_reported_once**: for every history of enqueue / step events and every
world - in particular every way the kernel reports the peer's failure to `poll`, `recv` or `send` - the
disconnect handler runs at most once (and the socket is unregistered from then on, so it cannot run
again), and no promise is lost: resolved + still queued = enqueued. -/
theorem async_failure_reported_once {ω : Type} (W : World ω) (rx : Nat) (evs : List PEv) :
    ∀ (x : PSt ω) (n : Nat), AInv n x.a → AInv (n + nEnq evs) (pRun W rx x evs).a := by
  induction evs with
  | nil => intro x n h; simpa [nEnq, pRun] using h
  | cons ev evs ih =>
    intro x n h
    cases ev with
    | enq buf =>
      have : AInv (n + 1) (pEnqueue x buf).a := by
        obtain ⟨h1, h2, h3⟩ := h
        refine ⟨h1, h2, ?_⟩
        simp only [pEnqueue, List.length_append, List.length_cons, List.length_nil]
        omega
      have := ih (pEnqueue x buf) (n + 1) this
      simp only [nEnq]
      rw [show n + (nEnq evs + 1) = n + 1 + nEnq evs by omega]
      exact this
    | step rev =>
      have := ih (pTask W rx x rev).2 n (pTask_inv W rx x rev n h)
      simpa [nEnq, pRun, pApply] using this

/-- a failing `send` on a queued buffer resolves its promise with the exception (it is not swallowed),
and the buffer leaves the queue -/
theorem async_send_failure_fails_future {ω : Type} (W : World ω) (x : PSt ω) (buf : Bytes) (rest : List Bytes)
    (hq : x.a.sendQ = buf :: rest) (e : Nat) (w' : ω) (hs : W.send x.w buf = (.fail e, w')) :
    (pWritable W x).2.a.futures = .exn :: x.a.futures ∧ (pWritable W x).2.a.sendQ = rest := by
  simp [pWritable, hq, sendNow, hs, Exn.isRuntime]

/-- an end of stream or an error seen by the driver's receive goes to the disconnect handler -/
theorem async_recv_failure_disconnects {ω : Type} (W : World ω) (rx : Nat) (x : PSt ω) (w' : ω)
    (hr : W.recv x.w rx = (.data [], w') ∨ ∃ e, W.recv x.w rx = (.fail e, w')) :
    (pReadable W rx x).2.a.disconnects = x.a.disconnects + 1 ∧ (pReadable W rx x).2.a.registered = false := by
  rcases hr with hr | ⟨e, hr⟩ <;> simp [pReadable, recvNow, hr, Exn.isRuntime, pDisconnect]

/-! ## "what was delivered up to the report is a prefix of what the peer sent - the complete stream for an orderly close" -/

/-- **delivered_is_prefix**.  A caller that keeps calling `Receive(size, timeout)` - any timeout, any
number of calls - obtains exactly the chunks the kernel handed over, in order, nothing added and
nothing altered: the delivered bytes are a prefix of the peer's stream for every script (including
every position of a reset), provided his buffer is at least as large as the chunks. -/
theorem delivered_is_prefix (size : Nat) (t : Int) (fuel : Nat) (s : Script)
    (hsz : ∀ bs ∈ stream s.recvs, bs.length ≤ size) :
    ∃ k, (recvUntilExn Script.world size t fuel s []).1 = (stream s.recvs).take k := by
  simpa using recvUntilExn_prefix size t fuel s [] hsz

/-- "... the complete stream for an orderly close": if the peer's stream arrives in chunks
(any segmentation) and then the connection ends, the caller who keeps receiving gets *all* of it
and then - not before - the exception `connection closed`. -/
theorem delivered_complete_on_orderly_close (size : Nat) (t : Int) (chunks : List Bytes) (s : Script)
    (hd : s.dead = true) (hw : s.waits = []) (hr : s.recvs = chunks.map .data)
    (hc : ∀ bs ∈ chunks, bs ≠ [] ∧ bs.length ≤ size) :
    (recvUntilExn Script.world size t (chunks.length + 1) s []).1 = chunks ∧
    (recvUntilExn Script.world size t (chunks.length + 1) s []).2.1 = .exn .closed := by
  simpa using recvUntilExn_complete size t chunks (chunks.length + 1) s [] hd hw hr hc (by omega)

/-! ## "the process is never killed by SIGPIPE": MSG_NOSIGNAL everywhere -/

/-- **nosignal_everywhere**.  In every history of calls on a TLS socket (hence also of its handshake), and in
every plain `Send` / `Receive` with any timeout, every `send` the model issues carries the flag set
`sendFlags` of socket_impl.cpp - and that set, as extracted from the source on this run, contains MSG_NOSIGNAL. -/
theorem nosignal_everywhere {σ : Type} (C : Cfg) (E : Engine σ) (e0 : σ) (script : Script) (hfresh : script.calls = [])
    (ops : List Op) (data : Bytes) (t : Int) :
    AllNoSignal (run C Script.world E { g := {}, e := e0, w := script } ops).w.calls ∧
    AllNoSignal (sendT Script.world script data t).w.calls := by
  have h0 : AllNoSignal script.calls := by rw [hfresh]; intro _ _ _ h; cases h
  exact ⟨(Frame.ofWorldInv Script.noSignalInv).run C E (fun s b h => h) ops _ h0,
    Script.noSignalInv.sendAny script data t h0⟩

/-! ## the run-time oracle is a theorem of the model -/

/-- **spec_holds_on_model_partial**: the predicate `./check C15` evaluates on the implementation's transcript accepts
every trace of the model of the plain socket; this is `Spec.model_satisfies_spec_partial`, where the statement, the
assumptions `Spec.histOk` and what `_partial` leaves out are described. -/
theorem spec_holds_on_model_partial (async : Bool) (rsz : Nat) (ppay : Bytes) (history : List Spec.Op)
    (h : Spec.histOk async rsz ppay history = true) :
    ∃ s, Spec.specRun {} (Spec.modelTrace async rsz ppay history) = .ok s ∧ Spec.specFinal s = none :=
  Spec.model_satisfies_spec_partial async rsz ppay history h

example : Spec.histOk false 4 [1, 2, 3, 4, 5, 6, 7, 8] Spec.demoSync = true := by decide
example : Spec.histOk true 4 [1, 2, 3, 4, 5, 6, 7, 8] Spec.demoAsync = true := by decide

example : (sendAll Script.world { sends := [.accept 2, .accept 1] } [1, 2, 3, 4, 5]).exn.isSome = true :=
  (sendAll_dead_peer_terminates { sends := [.accept 2, .accept 1] } rfl [1, 2, 3, 4, 5] 0).2.2 (by decide)
example : (recvUntilExn Script.world 10 0 5 { recvs := [.data [1, 2], .data [3]] } []).1 = [[1, 2], [3]] := by decide

end SockModel.PeerFail
