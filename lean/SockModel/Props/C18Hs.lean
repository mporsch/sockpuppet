import SockModel.Model.HsTimed
import SockModel.Model.HsBlock
import SockModel.Model.HsAsyncQ
import SockModel.Model.TlsBudget
/-!
# C18: handshake completion beyond the polling schedule

"The handshake, which is carried out lazily inside Send/Receive or by the driver, completes for every combination of
sync/async endpoints, timeout modes and **order of the two sides' calls**" (C18).

`Props/C18.lean` (`handshake_completes_partial`) proves completion for the fixed round-robin
`[c.Send, s.Receive, s.Send, c.Receive]` with timeout 0.  This file widens it (same composition: the REAL glue model
`Tls.sendT` / `Tls.receiveT` twice, reference engine `Hs.engine P`, two FIFO channels with an arbitrary segmentation
oracle; every flight size, payload, `Cfg` with `1 < stepsMax`).  The theorems are re-exported in `Props/C18.lean`
(section "handshake completion beyond the polling schedule"), which is where the audit (`#print axioms`) looks.

## (A) any schedule of zero-timeout calls

A schedule is any list / infinite sequence of `Act`s = (client | server) × (Send | Receive n), `n ≥ 1` chosen per call.
-/
namespace SockModel.Hs.C18Hs
open SockModel.Net SockModel.Tls SockModel.Hs

/-- Whoever calls and
whatever the call is: the invariant of the composition is kept (in particular `faults = 0`: the call neither threw
nor hit an assert), the measure `mu` = handshake work left on both sides does not increase, it strictly decreases if
the calling side can progress (has a flight to write, or bytes in flight towards it), stages only advance (a finished
side stays finished), and the *other* side's ability to progress is not taken away. -/
theorem call_progress (C : Cfg) (hC : 1 < C.stepsMax) (P : HsP) (dc ds : Bytes) (hdc : dc ≠ []) (hds : ds ≠ [])
    (y : Sys) (hinv : SysInv P dc ds y) (a : Act) (ha : a.ok) :
    SysInv P dc ds (y.act C P dc ds a) ∧ (y.act C P dc ds a).faults = 0 ∧
    mu P (y.act C P dc ds a) ≤ mu P y ∧
    (y.canProg a.client → mu P (y.act C P dc ds a) < mu P y) ∧
    y.ec.stage ≤ (y.act C P dc ds a).ec.stage ∧ y.es.stage ≤ (y.act C P dc ds a).es.stage ∧
    (y.canProg (!a.client) → (y.act C P dc ds a).canProg (!a.client)) := by
  have r := act_spec C hC P dc ds hdc hds y hinv a ha
  exact ⟨r.inv, r.inv.2.2.2.2.2.2, r.muLe, r.muLt, r.stC, r.stS, r.keep⟩

/-- **no deadlock, whatever happened before**: in every state the composition can be in, an unfinished handshake
leaves at least one side able to progress - so a schedule can fail to complete the handshake only by starving that
side. -/
theorem some_side_can_progress (P : HsP) (dc ds : Bytes) (y : Sys) (hinv : SysInv P dc ds y)
    (hnf : ¬ y.bothFinished) : y.canProg true ∨ y.canProg false :=
  can_progress P dc ds y hinv hnf

/-- **every finite schedule, no fairness assumed**: no call throws or asserts, stages only advance, and the measure
falls by at least the number `progCalls` of calls made by a side that could progress when it called. -/
theorem schedule_progress (C : Cfg) (hC : 1 < C.stepsMax) (P : HsP) (dc ds : Bytes) (hdc : dc ≠ []) (hds : ds ≠ [])
    (l : List Act) (hok : ∀ a ∈ l, a.ok) (y : Sys) (hinv : SysInv P dc ds y) :
    SysInv P dc ds (Sys.run C P dc ds l y) ∧ (Sys.run C P dc ds l y).faults = 0 ∧
    mu P (Sys.run C P dc ds l y) + progCalls C P dc ds l y ≤ mu P y ∧
    y.ec.stage ≤ (Sys.run C P dc ds l y).ec.stage ∧ y.es.stage ≤ (Sys.run C P dc ds l y).es.stage := by
  obtain ⟨h1, h2, h3, h4⟩ := run_spec C hC P dc ds hdc hds l y hinv hok
  exact ⟨h1, h1.2.2.2.2.2.2, h2, h3, h4⟩

/-- the weakest hypothesis: a schedule (any order, any mix of `Send` and `Receive`,
any receive sizes ≥ 1, any segmentation) completes the handshake as soon as it contains `2·(k1+k2+k3+3)` calls made by
a side that could progress at that moment; no call on the way (or after) throws or asserts. -/
theorem handshake_completes_counting (C : Cfg) (hC : 1 < C.stepsMax) (P : HsP) (dc ds : Bytes) (hdc : dc ≠ [])
    (hds : ds ≠ []) (segs : List Nat) (l : List Act) (hok : ∀ a ∈ l, a.ok)
    (hcount : P.total ≤ progCalls C P dc ds l (Sys.init P segs)) :
    (Sys.run C P dc ds l (Sys.init P segs)).bothFinished ∧ (Sys.run C P dc ds l (Sys.init P segs)).faults = 0 := by
  obtain ⟨h1, h2, _, _⟩ := run_spec C hC P dc ds hdc hds l _ (sysInv_init P dc ds segs) hok
  rw [mu_init] at h2
  exact ⟨mu_zero_fin P _ (by omega), h1.2.2.2.2.2.2⟩

/-- semantic fairness with a window: if, whenever the handshake is unfinished, one
of the next `w` calls is made by a side that can progress at that moment (`ProgFair`), then after at most
`w · 2·(k1+k2+k3+3)` calls - and after every longer prefix - both sides are `init_finished`; `faults = 0` after every
prefix. -/
theorem handshake_completes_prog_fair (C : Cfg) (hC : 1 < C.stepsMax) (P : HsP) (dc ds : Bytes) (hdc : dc ≠ [])
    (hds : ds ≠ []) (segs : List Nat) (w : Nat) (l : List Act) (hok : ∀ a ∈ l, a.ok)
    (hf : ProgFair C P dc ds w l (Sys.init P segs)) (j : Nat) (hj : j ≤ l.length) :
    (Sys.run C P dc ds (l.take j) (Sys.init P segs)).faults = 0 ∧
    (P.total * w ≤ j → (Sys.run C P dc ds (l.take j) (Sys.init P segs)).bothFinished) := by
  have hinv := sysInv_init P dc ds segs
  obtain ⟨h1, h2⟩ := (sysTS C hC P dc ds hdc hds).completes_of w l _ hinv hok
    (progFair_sys C hC P dc ds hdc hds w l _ hinv hok hf) j hj
  exact ⟨h1.2.2.2.2.2.2, fun hB => h2 (by rw [show (sysTS C hC P dc ds hdc hds).mu _ = P.total from mu_init P segs]; exact hB)⟩

/-- syntactic fairness: *each side calls at least once in every window of `w`
consecutive calls* (`SideFair w`; nothing about which call - `Send` or `Receive` - nor about the order: client first,
server first, both sending first, both receiving first, one side calling `w - 1` times in a row ...).  Then after at
most `w · 2·(k1+k2+k3+3)` calls, and after every longer prefix of the schedule, both sides are `init_finished`;
no call of the schedule throws or asserts (`faults = 0` after every prefix); a finished side stays finished. -/
theorem handshake_completes_any_schedule (C : Cfg) (hC : 1 < C.stepsMax) (P : HsP) (dc ds : Bytes) (hdc : dc ≠ [])
    (hds : ds ≠ []) (segs : List Nat) (w : Nat) (l : List Act) (hok : ∀ a ∈ l, a.ok) (hf : SideFair w l)
    (j : Nat) (hj : j ≤ l.length) :
    (Sys.run C P dc ds (l.take j) (Sys.init P segs)).faults = 0 ∧
    (P.total * w ≤ j → (Sys.run C P dc ds (l.take j) (Sys.init P segs)).bothFinished) ∧
    (∀ i, i ≤ j →
      (Sys.run C P dc ds (l.take i) (Sys.init P segs)).ec.stage ≤ (Sys.run C P dc ds (l.take j) (Sys.init P segs)).ec.stage ∧
      (Sys.run C P dc ds (l.take i) (Sys.init P segs)).es.stage ≤ (Sys.run C P dc ds (l.take j) (Sys.init P segs)).es.stage) := by
  have hinv := sysInv_init P dc ds segs
  obtain ⟨h1, h2⟩ := (sysTS C hC P dc ds hdc hds).fair_completes w l _ hinv hok
    (sideFair_sys C hC P dc ds hdc hds w l hf) j hj
  refine ⟨h1.2.2.2.2.2.2,
    fun hB => h2 (by rw [show (sysTS C hC P dc ds hdc hds).mu _ = P.total from mu_init P segs]; exact hB), ?_⟩
  intro i hi
  have hsplit : l.take j = l.take i ++ (l.drop i).take (j - i) := by
    have : j = i + (j - i) := by omega
    conv => lhs; rw [this, List.take_add]
  rw [hsplit, run_append]
  have hok1 : ∀ a ∈ l.take i, a.ok := fun a ha => hok a (List.mem_of_mem_take ha)
  have hok2 : ∀ a ∈ (l.drop i).take (j - i), a.ok :=
    fun a ha => hok a (List.mem_of_mem_drop (List.mem_of_mem_take ha))
  obtain ⟨_, _, h3, h4⟩ := run_spec C hC P dc ds hdc hds _ _ (run_spec C hC P dc ds hdc hds _ _ hinv hok1).1 hok2
  exact ⟨h3, h4⟩

/-- for an infinite sequence of calls in which each side calls at
least once in every window of `w` calls, every prefix of length `≥ w · 2·(k1+k2+k3+3)` leaves both sides
`init_finished`, and no call ever throws or asserts. -/
theorem handshake_completes_any_infinite_schedule (C : Cfg) (hC : 1 < C.stepsMax) (P : HsP) (dc ds : Bytes)
    (hdc : dc ≠ []) (hds : ds ≠ []) (segs : List Nat) (w : Nat) (σ : Nat → Act) (hok : ∀ i, (σ i).ok)
    (hf : SideFairInf w σ) (k : Nat) :
    (Sys.runTo C P dc ds σ k (Sys.init P segs)).faults = 0 ∧
    (P.total * w ≤ k → (Sys.runTo C P dc ds σ k (Sys.init P segs)).bothFinished) := by
  have hokl : ∀ a ∈ (List.range k).map σ, a.ok := by
    intro a ha
    obtain ⟨i, _, rfl⟩ := List.mem_map.mp ha
    exact hok i
  have hlen : ((List.range k).map σ).length = k := by simp
  obtain ⟨h1, h2, _⟩ := handshake_completes_any_schedule C hC P dc ds hdc hds segs w _ hokl (sideFair_of_inf w σ hf k) k
    (by omega)
  rw [List.take_of_length_le (by omega)] at h1 h2
  exact ⟨h1, h2⟩

/-! ### the fairness hypothesis is needed -/

/-- a schedule in which only one side ever calls -/
def OnlySide (r : Bool) (l : List Act) : Prop := ∀ a ∈ l, a.client = r

/-- if the server never calls anything, the handshake never completes, however
long the client polls (the server's engine is not even touched). -/
theorem starved_server_never_completes (C : Cfg) (P : HsP) (dc ds : Bytes) (segs : List Nat) (l : List Act)
    (hl : OnlySide true l) :
    (Sys.run C P dc ds l (Sys.init P segs)).es = Hs.init P false ∧
    ¬ (Sys.run C P dc ds l (Sys.init P segs)).bothFinished := by
  have h : (Sys.run C P dc ds l (Sys.init P segs)).es = Hs.init P false := onlySide_other C P dc ds true l _ hl
  refine ⟨h, fun hb => ?_⟩
  have := hb.2
  rw [h] at this
  simp [Hs.init] at this

/-- likewise if the client never calls. -/
theorem starved_client_never_completes (C : Cfg) (P : HsP) (dc ds : Bytes) (segs : List Nat) (l : List Act)
    (hl : OnlySide false l) :
    (Sys.run C P dc ds l (Sys.init P segs)).ec = Hs.init P true ∧
    ¬ (Sys.run C P dc ds l (Sys.init P segs)).bothFinished := by
  have h : (Sys.run C P dc ds l (Sys.init P segs)).ec = Hs.init P true := onlySide_other C P dc ds false l _ hl
  refine ⟨h, fun hb => ?_⟩
  have := hb.1
  rw [h] at this
  simp [Hs.init] at this

/-! ### instances: the hypotheses are satisfiable, the orders of the first calls the property names -/

/-- the polling round of `handshake_completes_partial` (`SideFair` with `w = 3`) -/
def pollRound (n : Nat) : List Act := [.cSend, .sRecv n, .sSend, .cRecv n]

def rep (m : Nat) (v : List Act) : List Act := (List.replicate m v).flatten

example : SideFair 3 (rep 5 (pollRound 4)) := by decide
example : ∀ a ∈ rep 5 (pollRound 4), a.ok := by decide

/-- the client receives first, then the server receives, then both send -/
example : SideFair 4 ([.cRecv 7, .sRecv 1, .cSend, .sSend] ++ rep 3 [.cRecv 7, .cSend, .sSend, .sRecv 2]) := by decide
/-- the server sends first (three times) before the client does anything; the client only ever receives, the
server only ever sends: fair with `w = 4` -/
example : SideFair 4 (rep 4 [.sSend, .sSend, .sSend, .cRecv 3]) := by decide
/-- both send first -/
example : SideFair 2 ([.cSend, .sSend] ++ rep 6 [.cRecv 1, .sRecv 1]) := by decide
/-- both receive first -/
example : SideFair 2 ([.sRecv 5, .cRecv 5] ++ rep 6 [.sSend, .cSend]) := by decide
/-- unfair: the server never calls -/
example : ¬ SideFair 4 (rep 6 [.cSend, .cRecv 4]) := by decide
example : OnlySide true (rep 6 [.cSend, .cRecv 4]) := by unfold OnlySide; decide
/-- an infinite schedule: the client calls at even positions, the server at odd ones; the kind of call alternates
every two positions -/
def alternating (i : Nat) : Act := ⟨i % 2 = 0, if i / 2 % 2 = 0 then .recv 3 else .send⟩

example : SideFairInf 2 alternating := by
  intro i
  rcases Nat.mod_two_eq_zero_or_one i with h | h
  · exact ⟨⟨0, by omega, by simp [alternating, h]⟩, ⟨1, by omega, by simp [alternating]; omega⟩⟩
  · exact ⟨⟨1, by omega, by simp [alternating]; omega⟩, ⟨0, by omega, by simp [alternating, h]⟩⟩

/-- the smallest instance: three flights of one byte each -/
def tinyP' : HsP := ⟨1, 1, 1, by decide, by decide, by decide⟩

/-- any schedule whatsoever that is fair with window 4, for one-byte flights: finished after 48 calls -/
example (l : List Act) (hok : ∀ a ∈ l, a.ok) (hf : SideFair 4 l) (hl : 48 ≤ l.length) (segs : List Nat) :
    (Sys.run Cfg.current tinyP' [1] [2] (l.take 48) (Sys.init tinyP' segs)).bothFinished :=
  (handshake_completes_any_schedule Cfg.current (by decide) tinyP' [1] [2] (by decide) (by decide) segs 4 l hok hf 48
    hl).2.1 (by decide)

/-! ## (B) limited timeouts `T ≥ 0`, each call its own, under virtual time

"... completes for every combination of ... **timeout modes** ...".  `chanWorldT` (Model/HsTimed.lean) is the channel
world with a clock: a wait with argument `t` that finds nothing ready times out after `t` (the clock advances by `t`;
the peer cannot act meanwhile - the composition is sequential); a wait that finds the descriptor ready, `send` and
`recv` take no time.  It satisfies A-CLOCK (`chanWorldT_clockOk`), so `tls_limited_budget` (Props/C18.lean) applies to
every call on it. -/

theorem chanWorldT_clockOk (r : Bool) : ClockOk (chanWorldT r) where
  wait_mono := by
    intro w d t
    cases d with
    | wr => exact Int.le_refl _
    | rd => rw [wait_rd, now_T, now_T]; dsimp only; (repeat' split) <;> omega
  wait_le := by
    intro w d t ht
    cases d with
    | wr => rw [wait_wr, now_T]; omega
    | rd => rw [wait_rd, now_T, now_T]; dsimp only; (repeat' split) <;> omega
  send_now := fun _ _ => rfl
  recv_now := fun _ _ => rfl

/-- for ANY engine (any interaction tree), any glue state and any `T ≥ 0`:
`Receive(n, T)` / `Send(data, T)` on the healthy channel under virtual time return the same result and leave engine,
channels and glue exactly as the zero-timeout call does (`proj` forgets the clock and the budget, nothing else); the
budget left is `≥ 0` and ends exactly `T` after the call began - so the call **returns after at most `T`**, and
with respect to handshake progress it is the zero-timeout call. -/
theorem timed_call_is_zero_call {σ : Type} (C : Cfg) (r : Bool) (E : Engine σ) (s : St σ ChanT) (T : Int) (hT : 0 ≤ T) :
    (∀ n, receiveT C (chanWorld r) E (proj s) n 0 =
        ((receiveT C (chanWorldT r) E s n T).1, proj (receiveT C (chanWorldT r) E s n T).2) ∧
      0 ≤ (receiveT C (chanWorldT r) E s n T).2.g.remainingTime ∧
      (receiveT C (chanWorldT r) E s n T).2.w.clock + (receiveT C (chanWorldT r) E s n T).2.g.remainingTime = s.w.clock + T) ∧
    (∀ data, sendT C (chanWorld r) E (proj s) data 0 =
        ((sendT C (chanWorldT r) E s data T).1, proj (sendT C (chanWorldT r) E s data T).2) ∧
      0 ≤ (sendT C (chanWorldT r) E s data T).2.g.remainingTime ∧
      (sendT C (chanWorldT r) E s data T).2.w.clock + (sendT C (chanWorldT r) E s data T).2.g.remainingTime = s.w.clock + T) :=
  ⟨fun n => receiveT_sim C r E s n T hT, fun data => sendT_sim C r E s data T hT⟩

/-- a schedule in which every call has its own timeout `≥ 0` leaves the
composition in the state the same schedule with all timeouts 0 leaves it in (up to clock and budgets), and its calls
together take no longer than the sum of their timeouts. -/
theorem timed_schedule_is_zero_schedule (C : Cfg) (P : HsP) (dc ds : Bytes) (l : List ActT)
    (hT : ∀ a ∈ l, 0 ≤ a.timeout) (y : SysT) :
    (SysT.run C P dc ds l y).untimed = Sys.run C P dc ds (l.map ActT.act) y.untimed ∧
    (SysT.run C P dc ds l y).clock ≤ y.clock + budgetSum l :=
  run_untimed C P dc ds l y hT

/-- (A) for arbitrary per-call timeouts `T ≥ 0`: if each side calls at least
once in every window of `w` consecutive calls, then after at most `w · 2·(k1+k2+k3+3)` calls, and after every longer
prefix, both sides are `init_finished`; no call throws or asserts; and the first `j` calls take at most the sum of
their timeouts. -/
theorem handshake_completes_any_timeouts (C : Cfg) (hC : 1 < C.stepsMax) (P : HsP) (dc ds : Bytes) (hdc : dc ≠ [])
    (hds : ds ≠ []) (segs : List Nat) (w : Nat) (l : List ActT) (hok : ∀ a ∈ l, a.act.ok)
    (hT : ∀ a ∈ l, 0 ≤ a.timeout) (hf : SideFair w (l.map ActT.act)) (j : Nat) (hj : j ≤ l.length) :
    (SysT.run C P dc ds (l.take j) (SysT.init P segs)).faults = 0 ∧
    (P.total * w ≤ j → (SysT.run C P dc ds (l.take j) (SysT.init P segs)).bothFinished) ∧
    (SysT.run C P dc ds (l.take j) (SysT.init P segs)).clock ≤ budgetSum (l.take j) := by
  have hTj : ∀ a ∈ l.take j, 0 ≤ a.timeout := fun a ha => hT a (List.mem_of_mem_take ha)
  obtain ⟨h1, h2⟩ := run_untimed C P dc ds (l.take j) (SysT.init P segs) hTj
  have hok' : ∀ a ∈ l.map ActT.act, a.ok := by
    intro a ha
    obtain ⟨b, hb, rfl⟩ := List.mem_map.mp ha
    exact hok b hb
  obtain ⟨g1, g2, _⟩ := handshake_completes_any_schedule C hC P dc ds hdc hds segs w (l.map ActT.act) hok' hf j
    (by simpa using hj)
  rw [untimed_init, List.map_take] at h1
  rw [← h1] at g1 g2
  refine ⟨g1, g2, ?_⟩
  have : (SysT.init P segs).clock = 0 := rfl
  omega

/-- time does pass: a `Receive(4, 50 ms)` of the server as the very first call waits out its 50 ms -/
example : (SysT.run Cfg.current tinyP' [1] [2] [⟨.sRecv 4, 50⟩] (SysT.init tinyP' [])).clock = 50 := by decide

/-- a timed schedule satisfying the hypotheses: timeouts 0, 20 and 50 ms mixed, the server starts by receiving -/
def timedDemo : List ActT :=
  [⟨.sRecv 4, 50⟩, ⟨.cSend, 20⟩, ⟨.cRecv 4, 0⟩, ⟨.sSend, 30⟩, ⟨.cRecv 9, 5⟩, ⟨.sRecv 4, 7⟩, ⟨.cSend, 0⟩, ⟨.sRecv 1, 7⟩]
example : SideFair 3 (timedDemo.map ActT.act) := by decide
example : ∀ a ∈ timedDemo, 0 ≤ a.timeout := by decide
example : ∀ a ∈ timedDemo, a.act.ok := by decide

/-! ## (C) an unlimited timeout (`T < 0`) on one side, the other side polls

In a sequential composition an unlimited wait with nothing ready never returns, so this needs an interleaving
semantics.  `blockWorld` (Model/HsBlock.lean): the world of the blocking side `u` contains the polling peer (glue,
engine, and the list `prog` of calls it is going to make).  A wait of side `u` for readability with nothing in flight
and `t < 0` **suspends side `u` and lets the peer perform the next calls of its program** - each one the real
zero-timeout `Send`/`Receive` (`callOn`) on the shared channels - until bytes towards `u` are in flight; then the
blocked call resumes exactly where it was (inside the BIO callback inside the engine inside `Read`/`Write`).  Nothing
is re-tried and nothing is assumed about how often the blocked call is suspended.  If the peer's program ends first the
wait reports "not ready" - the observation ends with the call still blocked; the theorems say what holds then, too.

Restrictions, relative to "(C) one side unlimited, the other polls" in full: the peer polls with timeout 0 (by (B) a
limited timeout changes nothing but the clock - not combined here); the blocked side resumes at the END of the peer
call that made its descriptor ready, not in the middle of it (peer calls are atomic with respect to the blocked side,
which touches nothing while blocked); both sides blocking with unlimited timeouts at once is not covered (each
side's wait would have to contain the other: two threads - outside this sequential model). -/

/-- no deadlock under blocking: side `u` is in its handshake, waits for a flight
(`h.writes = false`) with an unlimited timeout, and the peer's program is at least as long as the work the peer's
engine has left (`Enough`: at most `k1+k2+k3+3` calls).  Then the wait returns "ready" with bytes towards `u` in flight;
the invariant of the composition holds afterwards (so none of the peer's calls threw or asserted: `faults = 0`), and the
peer's remaining program is still long enough for what its engine has left. -/
theorem blocked_wait_is_released (C : Cfg) (hC : 1 < C.stepsMax) (P : HsP) (u : Bool) (dc ds : Bytes) (hdc : dc ≠ [])
    (hds : ds ≠ []) (T : Int) (hT : T < 0) (g : Glue) (h : Hs) (w : PeerW)
    (hinv : SysInv P dc ds (mkSys u g h w)) (hok : ProgOk w) (hs : h.stage < 3) (hr : h.writes = false)
    (hen : Enough P w) :
    ((blockWorld C P u dc ds).wait w .rd T).1 = true ∧ 0 < ((blockWorld C P u dc ds).wait w .rd T).2.ch.inb u ∧
    SysInv P dc ds (mkSys u g h ((blockWorld C P u dc ds).wait w .rd T).2) ∧
    ProgOk ((blockWorld C P u dc ds).wait w .rd T).2 ∧ Enough P ((blockWorld C P u dc ds).wait w .rd T).2 := by
  rw [bw_wait_rd]
  by_cases hin : 0 < w.ch.inb u
  · rw [if_pos hin]; exact ⟨rfl, hin, hinv, hok, hen⟩
  · rw [if_neg hin, if_pos hT]
    obtain ⟨j1, j2, _, _, j5, _, j7⟩ := runPeer_spec C hC P u dc ds hdc hds g h w.prog w _ _ rfl hinv hok (by omega)
    obtain ⟨a1, a2⟩ := j7 hs hr
    have hb := a2 hen
    refine ⟨hb, j5 hb, j1, j2, ?_⟩
    unfold Enough at hen ⊢
    omega

/-- `Send(payload, T)`, `T < 0`, of the blocking side - from any state of the
composition between calls, with a peer program long enough for the peer's remaining handshake work (needed only
while this side is unfinished) - returns the whole length, leaves this side `init_finished`, no error cached, the
invariant of the composition intact (no peer call failed), the peer's work not increased. -/
theorem unlimited_send_completes_handshake (C : Cfg) (hC : 1 < C.stepsMax) (P : HsP) (u : Bool) (dc ds : Bytes)
    (hdc : dc ≠ []) (hds : ds ≠ []) (T : Int) (hT : T < 0) (s : St Hs PeerW) (hr : ReadyU (ownPay u dc ds) s)
    (hinv : SysInv P dc ds (mkSys u s.g s.e s.w)) (hok : ProgOk s.w) (hen : s.e.stage < 3 → Enough P s.w) :
    ∃ s', sendT C (blockWorld C P u dc ds) (engine P) s (ownPay u dc ds) T = (.ok (ownPay u dc ds).length, s') ∧
      ReadyU (ownPay u dc ds) s' ∧ SysInv P dc ds (mkSys u s'.g s'.e s'.w) ∧ ProgOk s'.w ∧ 3 ≤ s'.e.stage ∧
      work P s'.w.e ≤ work P s.w.e ∧ s.w.e.stage ≤ s'.w.e.stage := by
  obtain ⟨s', h1, h2, h3⟩ := sendU_spec C hC P u dc ds hdc hds T hT s hr hinv hok hen
  exact ⟨s', h1, h2, h3.inv, h3.ok, h3.fin, h3.wk, h3.st⟩

/-- `Receive(n, T)`, `T < 0`, `n ≥ 1`, of the blocking side: when the
call is over this side is `init_finished` and the invariant is intact; it returned at least one byte (never
"nothing", no assert) - unless the peer's program ended while it was waiting for application data. -/
theorem unlimited_receive_completes_handshake (C : Cfg) (hC : 1 < C.stepsMax) (P : HsP) (u : Bool) (dc ds : Bytes)
    (hdc : dc ≠ []) (hds : ds ≠ []) (T : Int) (hT : T < 0) (n : Nat) (hn : 1 ≤ n) (s : St Hs PeerW)
    (hr : ReadyU (ownPay u dc ds) s) (hinv : SysInv P dc ds (mkSys u s.g s.e s.w)) (hok : ProgOk s.w)
    (hen : s.e.stage < 3 → Enough P s.w) :
    SysInv P dc ds (mkSys u (receiveT C (blockWorld C P u dc ds) (engine P) s n T).2.g
      (receiveT C (blockWorld C P u dc ds) (engine P) s n T).2.e (receiveT C (blockWorld C P u dc ds) (engine P) s n T).2.w) ∧
    3 ≤ (receiveT C (blockWorld C P u dc ds) (engine P) s n T).2.e.stage ∧
    ((receiveT C (blockWorld C P u dc ds) (engine P) s n T).2.w.prog = [] ∨
     (∃ out, (receiveT C (blockWorld C P u dc ds) (engine P) s n T).1 = .ok out ∧ out ≠ [] ∧
        ReadyU (ownPay u dc ds) (receiveT C (blockWorld C P u dc ds) (engine P) s n T).2)) := by
  obtain ⟨h1, h2⟩ := recvU_spec C hC P u dc ds hdc hds T hT n hn s hr hinv hok hen
  exact ⟨h1.inv, h1.fin, h2⟩

/-- side `u` (client or server) calls with an unlimited timeout, the
other side polls with timeout 0, making the calls of `prog` (any mix of `Send` / `Receive n`, `n ≥ 1`) in order - while
side `u` is blocked, and between the calls of side `u` wherever the schedule says `poll`.  For every schedule that
contains a call of side `u` - `pre` (polls of the peer before it), the call `kb` (`Send` or `Receive`), `post` (any
further calls of either side) -, if the peer's program is long enough to reach that call with `k1+k2+k3+3` calls to
spare: the invariant of the composition holds at the end (no call of the peer ever failed), **side `u` is
`init_finished`** (already when its first call returns); and unless the observation ended because the peer's program
was exhausted: no call of side `u` threw or asserted, and once `post` contains `k1+k2+k3+3` polls **the peer is
`init_finished`** as well. -/
theorem handshake_completes_one_side_unlimited (C : Cfg) (hC : 1 < C.stepsMax) (P : HsP) (u : Bool) (dc ds : Bytes)
    (hdc : dc ≠ []) (hds : ds ≠ []) (T : Int) (hT : T < 0) (segs : List Nat) (prog : List Kind)
    (hprog : ∀ k ∈ prog, k.ok) (pre post : List ActU) (kb : Kind) (hpre : ∀ a ∈ pre, a = .poll) (hkb : kb.ok)
    (hpost : ∀ a ∈ post, a.okU) (hlen : pre.length + P.half ≤ prog.length) :
    SysInv P dc ds (mkSys u (SysU.run C P u dc ds T (pre ++ .block kb :: post) (SysU.init P u segs prog)).g
      (SysU.run C P u dc ds T (pre ++ .block kb :: post) (SysU.init P u segs prog)).e
      (SysU.run C P u dc ds T (pre ++ .block kb :: post) (SysU.init P u segs prog)).w) ∧
    3 ≤ (SysU.run C P u dc ds T (pre ++ .block kb :: post) (SysU.init P u segs prog)).e.stage ∧
    ((SysU.run C P u dc ds T (pre ++ .block kb :: post) (SysU.init P u segs prog)).w.prog ≠ [] →
      (SysU.run C P u dc ds T (pre ++ .block kb :: post) (SysU.init P u segs prog)).faults = 0 ∧
      (P.half ≤ polls post →
        3 ≤ (SysU.run C P u dc ds T (pre ++ .block kb :: post) (SysU.init P u segs prog)).w.e.stage)) := by
  have hinit : UInv P u dc ds (SysU.init P u segs prog) :=
    ⟨sysInv_initU P u dc ds segs prog, hprog, Or.inr ⟨⟨rfl, rfl, rfl, rfl, Or.inl rfl⟩, rfl⟩⟩
  obtain ⟨i1, e1, p1, w1⟩ := run_polls C hC P u dc ds hdc hds T hT pre _ hinit hpre
  rw [runU_append, runU_cons]
  generalize SysU.run C P u dc ds T pre (SysU.init P u segs prog) = y1 at i1 e1 p1 w1
  have hwinit : work P (SysU.init P u segs prog).w.e = P.half := by
    simp only [SysU.init, work_init, HsP.half]
  have hplen : P.half ≤ y1.w.prog.length := by
    rw [p1, List.length_drop]
    show P.half ≤ prog.length - pre.length
    omega
  have hen1 : Enough P y1.w := by unfold Enough; omega
  have hne1 : y1.w.prog ≠ [] := by
    intro h0
    rw [h0] at hplen
    simp [HsP.half] at hplen
  obtain ⟨i2, w2, _, _, f2, _, _⟩ := stepU_spec C hC P u dc ds hdc hds T hT y1 i1 (.block kb) hkb (fun _ _ => hen1)
  have hfin2 := f2 hne1 ⟨kb, rfl⟩
  obtain ⟨j1, j2, j3, j4⟩ := run_after C hC P u dc ds hdc hds T hT post _ i2 hpost hfin2
  refine ⟨j1.inv, j2, ?_⟩
  intro hne
  refine ⟨?_, ?_⟩
  · rcases j1.live with h | h
    · exact absurd h hne
    · exact h.2
  · intro hp
    rcases j4 with h | h | h
    · exact absurd h hne
    · exact h
    · have hle : work P (y1.step C P u dc ds T (.block kb)).w.e ≤ P.half := by omega
      exact work_zero_fin P _ (by omega)

/-- the call of side `u` in the schedule is needed: as long as only the peer polls, side `u` stays where it was
(stage 0 from the initial state), however long the peer's program is -/
theorem blocking_side_must_call (C : Cfg) (hC : 1 < C.stepsMax) (P : HsP) (u : Bool) (dc ds : Bytes)
    (hdc : dc ≠ []) (hds : ds ≠ []) (T : Int) (hT : T < 0) (segs : List Nat) (prog : List Kind)
    (hprog : ∀ k ∈ prog, k.ok) (pre : List ActU) (hpre : ∀ a ∈ pre, a = .poll) :
    (SysU.run C P u dc ds T pre (SysU.init P u segs prog)).e = Hs.init P u ∧
    ¬ 3 ≤ (SysU.run C P u dc ds T pre (SysU.init P u segs prog)).e.stage := by
  have hinit : UInv P u dc ds (SysU.init P u segs prog) :=
    ⟨sysInv_initU P u dc ds segs prog, hprog, Or.inr ⟨⟨rfl, rfl, rfl, rfl, Or.inl rfl⟩, rfl⟩⟩
  obtain ⟨_, e1, _, _⟩ := run_polls C hC P u dc ds hdc hds T hT pre _ hinit hpre
  refine ⟨e1, ?_⟩
  rw [e1]
  simp [SysU.init, Hs.init]

/-- the peer's faults, spelled out: part of the invariant -/
theorem peer_never_faults (P : HsP) (u : Bool) (dc ds : Bytes) (g : Glue) (h : Hs) (w : PeerW)
    (hinv : SysInv P dc ds (mkSys u g h w)) : w.faults = 0 := by
  have := hinv.2.2.2.2.2.2
  cases u <;> simpa [mkSys] using this

/-- the hypotheses are satisfiable: the server blocks in `Receive(3, -1)` after two polls of the client, then sends;
the client's polling loop alternates `Receive(4, 0)` and `Send` -/
def blockDemoProg : List Kind := (List.replicate 8 [Kind.recv 4, Kind.send]).flatten
example : ∀ k ∈ blockDemoProg, k.ok := by decide
example : ∀ a ∈ [ActU.poll, ActU.poll], a = .poll := by decide
example : [ActU.poll, ActU.poll].length + tinyP'.half ≤ blockDemoProg.length := by decide
example : tinyP'.half ≤ polls (ActU.block .send :: List.replicate 6 ActU.poll) := by decide

/-! ## (D) an asynchronous (driver-operated) endpoint paired with a polling synchronous peer

"... or by the driver ... for every combination of sync/async endpoints".  The asynchronous endpoint is the model of
`Model/Tls.lean`: `aQuery` (`DriverQuery` through `QuerySockets`), `aTask` (`DoOneSocketTask`), `aReadable`
(`DriverOnReadable` → `Receive(data, size)` → `receiveReadable`) - composed with the reference engine and the two
channels; `poll` reports what the channels dictate (`SysAS.rev`: readable iff bytes are in flight, writable, no
HUP/ERR).

Proved: `handshake_completes_async_endpoint`: an asynchronous endpoint of EITHER role with a send
queue - buffers queued before and during the handshake - so that the WRITABLE task (`DriverOnWritable` → `SendSome` →
`sendSomeWritable`) and the `POLLOUT` protocol of `DriverQuery` take part.  Its special case
`handshake_completes_async_server` - the pairing **asynchronous server / polling synchronous client**, nothing queued
on the server - is stated without the queue: the server then only ever runs readable tasks and `POLLOUT` is never
requested, so the `pollout_protocol` invariant of Props/C18.lean holds trivially.  An asynchronous client starts its handshake
only through a writable task, i.e. it needs a buffer queued (hypothesis `u = true → q ≠ []`; without it nothing ever
happens: `example` below).
NOT proved (open): async/async pairings (two drivers); an asynchronous endpoint paired with a BLOCKING peer. -/

/-- for ANY engine: on the healthy channel the glue's `Read` and `Write` commute with
forgetting the "deemed readable / writable" flags a driver task sets (`nf`), provided the budget is 0 and the socket is
deemed readable only while bytes towards it are in flight (what `poll` guarantees): same result, same engine, same
channels, same glue up to the flags.  So `DriverOnReadable`'s `Receive(data, size)` is `Receive(size, 0)` and
`DriverOnWritable`'s `SendSome` is `Send(…, 0)`. -/
theorem deemed_flags_are_harmless {σ : Type} (C : Cfg) (r : Bool) (E : Engine σ) (s : St σ Chan) (hfl : Fl r s) :
    (∀ n, tlsRead C (chanWorld r) E (nf s) n = ((tlsRead C (chanWorld r) E s n).1, nf (tlsRead C (chanWorld r) E s n).2)) ∧
    (∀ d, tlsWrite C (chanWorld r) E (nf s) d = ((tlsWrite C (chanWorld r) E s d).1, nf (tlsWrite C (chanWorld r) E s d).2)) :=
  ⟨fun n => ((flagFrame r).tlsRead C E s n hfl).1, fun d => ((flagFrame r).tlsWrite C E s d hfl).1⟩

/-- the driver's readable task on a socket `poll` reported readable, against the
reference engine: no exception, no assert; the side invariant is kept; the engine only moves forward and strictly so
if it can progress; afterwards an unfinished engine has WANT_READ cached, a finished one nothing. -/
theorem readable_task_progress (C : Cfg) (hC : 0 < C.stepsMax) (P : HsP) (r : Bool) (data : Bytes) (rx : Nat)
    (hrx : 1 ≤ rx) (s : St Hs Chan) (hi : SideInv P r data (nf s)) (hin : 0 < s.w.inb r) :
    ∃ bs s', receiveReadable C (chanWorld r) (engine P) s rx = (.ok bs, s') ∧ SideInv P r data (nf s') ∧
      Tr P r s.e s.w s'.e s'.w ∧ (CanProg r s.e s.w → work P s'.e < work P s.e) ∧ Tight (nf s') ∧
      (3 ≤ s'.e.stage → s'.g.lastError = .none) :=
  receiveReadable_hs C hC P r data rx hrx s hi hin

/-- each side acts at least once in every window of `w` steps: a `Driver::Step` of the server and a call of the
client -/
def AFair (w : Nat) (l : List ActA) : Prop :=
  ∀ i, i < l.length + 1 - w →
    (∃ a ∈ (l.drop i).take w, a = ActA.drive) ∧ (∃ a ∈ (l.drop i).take w, a ≠ ActA.drive)

instance (w : Nat) (l : List ActA) : Decidable (AFair w l) := by
  unfold AFair; exact inferInstance

/-- the fairness hypothesis is needed: if the server's driver is never stepped the server's engine is never touched -/
theorem undriven_server_never_completes (C : Cfg) (P : HsP) (dc : Bytes) (rx : Nat) (segs : List Nat) (l : List ActA)
    (hl : ∀ a ∈ l, a ≠ ActA.drive) :
    (SysAS.run C P dc rx l (SysAS.init P segs)).x.s.e = Hs.init P false ∧
    ¬ (SysAS.run C P dc rx l (SysAS.init P segs)).bothFinished := by
  have key : ∀ (l : List ActA) (y : SysAS), (∀ a ∈ l, a ≠ ActA.drive) → (SysAS.run C P dc rx l y).x.s.e = y.x.s.e := by
    intro l
    induction l with
    | nil => intro y _; rfl
    | cons a l ih =>
      intro y h
      show (SysAS.run C P dc rx l (y.step C P dc rx a)).x.s.e = _
      rw [ih _ (fun b hb => h b (List.mem_cons_of_mem _ hb))]
      cases a with
      | drive => exact absurd rfl (h _ (List.mem_cons_self ..))
      | peer k => rfl
  have h := key l (SysAS.init P segs) hl
  refine ⟨h, ?_⟩
  intro hb
  have := hb.2
  rw [h] at this
  simp [SysAS.init, Hs.init] at this

/-- instances: the client sends first / receives first; the driver is stepped twice as often as the client calls -/
example : AFair 3 ((List.replicate 8 [ActA.drive, ActA.peer .send, ActA.drive]).flatten) := by decide
example : AFair 2 ((List.replicate 8 [ActA.peer (.recv 5), ActA.drive]).flatten) := by decide
example : ¬ AFair 2 ((List.replicate 8 [ActA.peer (.recv 5), ActA.peer .send]).flatten) := by decide
example : ∀ a ∈ (List.replicate 8 [ActA.peer (.recv 5), ActA.drive]).flatten, a.okA := by decide

/-! ### an asynchronous endpoint of either role, with a send queue -/

/-- `isReadable` is written only by `BioRead` (to `false`), and every `ssl_read` of the
reference engine performs a BIO read: a readable task leaves `isReadable = false` - which the writable task relies on
(`prepWritable` does not reset it; with a stale `isReadable` the next BIO read would `recv` without a wait). -/
theorem readable_task_clears_flag (C : Cfg) (hC : 0 < C.stepsMax) (P : HsP) (r : Bool) (rx : Nat) (s : St Hs Chan)
    (hw : WF P s.e) (hle : s.g.lastError = .none ∨ s.g.lastError = .wantRead) :
    (receiveReadable C (chanWorld r) (engine P) s rx).2.g.isReadable = false :=
  receiveReadable_ir C hC P r rx s hw hle

/-- the driver's writable task with the front buffer `buf` of the queue does what `Write(buf)` with budget 0 does:
no exception, no assert; progress if the engine can progress; either all of `buf` is taken (then the handshake is
finished, nothing cached, nothing pending) or none of it. -/
theorem writable_task_progress (C : Cfg) (hC : 1 < C.stepsMax) (P : HsP) (r : Bool) (buf : Bytes) (hb : buf ≠ [])
    (s : St Hs Chan) (hi : SideInv P r buf (nf s)) (hir : s.g.isReadable = false) :
    ∃ k s', sendSomeWritable C (chanWorld r) (engine P) s buf = (.ok k, s') ∧ SideInv P r buf (nf s') ∧
      Tr P r s.e s.w s'.e s'.w ∧ (CanProg r s.e s.w → work P s'.e < work P s.e) ∧ Tight (nf s') ∧
      s'.g.isReadable = false ∧
      ((k = buf.length ∧ 3 ≤ s'.e.stage ∧ s'.g.lastError = .none ∧ s'.g.pendingSend = []) ∨ k = 0) :=
  sendSomeWritable_hs C hC P r buf hb s hi hir

def isPeerCall : ActG → Bool
  | .peer _ => true
  | _ => false

/-- in every window of `w` steps the driver is stepped and the peer calls (queueing buffers counts for neither) -/
def GFair (w : Nat) (l : List ActG) : Prop :=
  ∀ i, i < l.length + 1 - w →
    (∃ a ∈ (l.drop i).take w, a = ActG.drive) ∧ (∃ a ∈ (l.drop i).take w, isPeerCall a = true)

instance (w : Nat) (l : List ActG) : Decidable (GFair w l) := by
  unfold GFair; exact inferInstance

/-- an asynchronous endpoint of role `u` (client or server; receive buffer
size `rx ≥ 1`; `q` = the buffers queued at the start, non-empty ones; a CLIENT must have one) and a polling synchronous
peer.  For every schedule of driver steps, `Send(buffer)` calls of the asynchronous socket's user (non-empty buffers,
at any time) and zero-timeout calls of the peer, in which driver steps and peer calls both occur in every window of
`w` steps: after at most `w · 2·(k1+k2+k3+3)` steps, and after every longer prefix, both sides are `init_finished`;
no driver step and no peer call throws or asserts; and `Armed` holds throughout (queued data is armed with `POLLOUT` or
remembered as suppressed - the invariant of `pollout_protocol`), with its converse. -/
theorem handshake_completes_async_endpoint (C : Cfg) (hC : 1 < C.stepsMax) (P : HsP) (u : Bool) (dc ds : Bytes)
    (hdc : dc ≠ []) (hds : ds ≠ []) (rx : Nat) (hrx : 1 ≤ rx) (segs : List Nat) (q : List Bytes)
    (hq : ∀ b ∈ q, b ≠ []) (hfed : u = true → q ≠ []) (w : Nat) (l : List ActG) (hok : ∀ a ∈ l, a.okG)
    (hf : GFair w l) (j : Nat) (hj : j ≤ l.length) :
    (SysAG.run C P u dc ds rx (l.take j) (SysAG.init P u segs q)).faults = 0 ∧
    ((SysAG.run C P u dc ds rx (l.take j) (SysAG.init P u segs q)).x.a.sendQ ≠ [] ↔
      ((SysAG.run C P u dc ds rx (l.take j) (SysAG.init P u segs q)).x.a.pollOut = true ∨
       (SysAG.run C P u dc ds rx (l.take j) (SysAG.init P u segs q)).x.s.g.driverSendSuppressed = true)) ∧
    (P.total * w ≤ j → (SysAG.run C P u dc ds rx (l.take j) (SysAG.init P u segs q)).bothFinished) := by
  have hfair : (agTS C hC P u dc ds hdc hds rx hrx).SideFair w l := by
    intro i hi
    obtain ⟨⟨a, ha, hd⟩, ⟨b, hb, hk⟩⟩ := hf i (by omega)
    have h1 : (agTS C hC P u dc ds hdc hds rx hrx).side a = some u := by rw [hd]; rfl
    have h2 : (agTS C hC P u dc ds hdc hds rx hrx).side b = some (!u) := by
      cases b with
      | drive => cases hk
      | enq _ => cases hk
      | peer k => rfl
    cases u with
    | true => exact ⟨⟨a, ha, h1⟩, ⟨b, hb, h2⟩⟩
    | false => exact ⟨⟨b, hb, h2⟩, ⟨a, ha, h1⟩⟩
  obtain ⟨h1, h2⟩ := (agTS C hC P u dc ds hdc hds rx hrx).fair_completes w l (SysAG.init P u segs q)
    (gInv_init P u dc ds segs q hq hfed) hok hfair j hj
  rw [agTS_run] at h1 h2
  have hmu : (agTS C hC P u dc ds hdc hds rx hrx).mu (SysAG.init P u segs q) = P.total := by
    show work P _ + work P _ = _
    simp only [SysAG.init, work_init, HsP.total]; omega
  rw [hmu] at h2
  refine ⟨?_, h1.q.1, h2⟩
  have := h1.inv.2.2.2.2.2.2
  cases u <;> simpa [SysAG.sys, mkSys, SysAG.pw] using this

/-- asynchronous server (driver-operated, receive buffer size `rx ≥ 1`,
nothing queued), polling synchronous client (`Send(dc, 0)` / `Receive(n, 0)` in any order).  For every schedule of
driver steps and client calls in which both occur in every window of `w` steps: after at most `w · 2·(k1+k2+k3+3)`
steps, and after every longer prefix, both sides are `init_finished`; no driver step and no client call throws or
asserts; the server never requests `POLLOUT`.
(`handshake_completes_async_endpoint` for `u = false`, an empty queue, no `enq`; the server's payload plays no role.) -/
theorem handshake_completes_async_server (C : Cfg) (hC : 1 < C.stepsMax) (P : HsP) (dc ds : Bytes) (hdc : dc ≠ [])
    (rx : Nat) (hrx : 1 ≤ rx) (segs : List Nat) (w : Nat) (l : List ActA) (hok : ∀ a ∈ l, a.okA) (hf : AFair w l)
    (j : Nat) (hj : j ≤ l.length) :
    (SysAS.run C P dc rx (l.take j) (SysAS.init P segs)).faults = 0 ∧
    (SysAS.run C P dc rx (l.take j) (SysAS.init P segs)).x.a.pollOut = false ∧
    (P.total * w ≤ j → (SysAS.run C P dc rx (l.take j) (SysAS.init P segs)).bothFinished) := by
  have hmap : ∀ i, (((l.map ActA.toG).drop i).take w) = ((l.drop i).take w).map ActA.toG := by
    intro i; rw [← List.map_drop, ← List.map_take]
  have hfG : GFair w (l.map ActA.toG) := by
    intro i hi
    rw [List.length_map] at hi
    obtain ⟨⟨a, ha, hd⟩, ⟨b, hb, hnd⟩⟩ := hf i hi
    rw [hmap]
    refine ⟨⟨a.toG, List.mem_map_of_mem ha, by rw [hd]; rfl⟩, ⟨b.toG, List.mem_map_of_mem hb, ?_⟩⟩
    cases b with
    | drive => exact absurd rfl hnd
    | peer k => rfl
  have hokG : ∀ a ∈ l.map ActA.toG, a.okG := by
    intro a ha
    obtain ⟨b, hb, rfl⟩ := List.mem_map.mp ha
    have := hok b hb
    cases b <;> exact this
  obtain ⟨h1, h2, h3⟩ := handshake_completes_async_endpoint C hC P false dc [0] hdc (by decide) rx hrx segs []
    (fun _ h => nomatch h) (fun h => nomatch h) w (l.map ActA.toG) hokG hfG j (by rw [List.length_map]; exact hj)
  rw [← List.map_take, ← toG_init, ← toG_run] at h1 h2 h3
  have hq := run_sendQ C P dc rx (l.take j) (SysAS.init P segs) rfl
  refine ⟨h1, ?_, fun hB => ⟨(h3 hB).2, (h3 hB).1⟩⟩
  cases hpo : (SysAS.run C P dc rx (l.take j) (SysAS.init P segs)).x.a.pollOut with
  | false => rfl
  | true => exact absurd hq (h2.mpr (Or.inl hpo))

/-- the hypothesis "a client has something queued" is needed: an asynchronous client with an empty queue never even
starts (the handshake is lazy; nothing makes its descriptor readable, and `POLLOUT` is not requested) -/
example :
    (SysAG.run Cfg.current tinyP' true [1] [2] 4
      [.drive, .peer (.recv 4), .drive, .peer (.recv 4), .drive, .peer (.recv 4), .drive]
      (SysAG.init tinyP' true [] [])).x.s.e = Hs.init tinyP' true := by decide

example : GFair 3 ((List.replicate 6 [ActG.drive, ActG.enq [7], ActG.peer (.recv 3)]).flatten) := by decide
example : ∀ a ∈ (List.replicate 6 [ActG.drive, ActG.enq [7], ActG.peer (.recv 3)]).flatten, a.okG := by decide

end SockModel.Hs.C18Hs
