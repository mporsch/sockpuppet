import SockModel.Spec.Uri
import SockModel.Generated.Funcs
/-!
# C12  Address text round-trip, canonical accessors and port fidelity

The spelling / round-trip / no-wrap theorems are proved in `Model/UriSpellLemmas.lean` (namespace `Lem`), where
`Spec/Uri.lean` can reach them, and stated here for the property; the tie to the translated source is at the end.
The neighbours `getaddrinfo` / `getnameinfo` are not modelled; the statements are about what
the library hands to `getaddrinfo` (`GaiCall`: node, service, AI_NUMERICSERV).  Assumptions
used to read them as statements about `Address` values, exercised by the check on every run
but not proved:
* (G1) for a numeric host literal `h` and a service `s` with `strtoulReads s = some v`, the
  resulting address has host `h` and port `v mod 2^16`;
* (G2) `getnameinfo(NI_NUMERICHOST|NI_NUMERICSERV)` returns the canonical text of the host and
  `render port`.
Hosts are arbitrary byte strings subject to the stated side conditions (so all IPv4 literals
`a.b.c.d`, and all IPv6 literals incl. `%scope` in the bracketed / pair forms, are covered).
-/
namespace SockModel.Uri
open SockModel.Decimal

/-- "Port() is p, Service() its decimal text": the decimal text of a port denotes that port, is a
pure digit string (no sign, no blank), and `strtoul` reads it completely as `p` -/
theorem render_parse (p : Nat) :
    parseDec (render p) = some p ∧ isDigits (render p) = true ∧
    (p < 2 ^ 64 → strtoulReads (render p) = some p) :=
  Lem.render_parse p

/-- "all documented spellings - "h:p" or "[h]:p", with a scheme prefix and/or a path suffix, the
pair (h, "p") - produce the same Address": for every host text `h` without ':' and '/', not
starting with '[' and without line terminators, every port `p < 65536`, every `\w*` scheme and
every single-line path/query suffix, all spellings are dissected to the same `(h, render p)` with
AI_NUMERICSERV, and the pair hands the same `(node, service)` to `getaddrinfo` -/
theorem spellings_agree (h scheme path : Bytes) (p : Nat) (hp : p < 65536)
    (hne : h ≠ []) (hc : (0x3a : UInt8) ∉ h) (hs : (0x2f : UInt8) ∉ h) (hb : h.head? ≠ some 0x5b)
    (hl : hasLineBreak h = false) (hw : ∀ c ∈ scheme, isWord c = true) (hpath : hasLineBreak path = false) :
    let d := render p
    let want : Except Exn Dissect := .ok ⟨h, d, true⟩
    dissect (h ++ 0x3a :: d) = want ∧
    dissect (0x5b :: (h ++ 0x5d :: 0x3a :: d)) = want ∧
    dissect (scheme ++ 0x3a :: 0x2f :: 0x2f :: (h ++ 0x3a :: d)) = want ∧
    dissect (h ++ 0x3a :: d ++ 0x2f :: path) = want ∧
    dissect (scheme ++ 0x3a :: 0x2f :: 0x2f :: (0x5b :: (h ++ 0x5d :: 0x3a :: d) ++ 0x2f :: path)) = want ∧
    parseHostServ h d = .ok ⟨cstr h, d, false⟩ ∧
    parseUri (h ++ 0x3a :: d) = .ok ⟨cstr h, d, true⟩ :=
  Lem.spellings_agree h scheme path p hp hne hc hs hb hl hw hpath

/-- no scheme is recognised in `h/rest` when `h` has no colon (whatever `rest` contains - "://" included) -/
theorem trimServAndPath_hostpath {h rest : Bytes} (hc : (0x3a : UInt8) ∉ h) :
    trimServAndPath (h ++ 0x2f :: rest) = (trimPath (h ++ 0x2f :: rest)).map (·, []) :=
  trimServAndPath_no_scheme (by decide) hc fun e => absurd e (by decide)

/-- the documented spelling WITHOUT a service, "host/path": for every host text `h` without ':' and '/'
(non-empty) and EVERY single-line path - free text that may itself contain colons, ports, brackets and
"://" anywhere, so that the first colon of the whole string sits inside the path - the URI is dissected to
the same `(h, no service)` as the bare host, and that is what reaches `getaddrinfo` -/
theorem hostpath_spelling (h path : Bytes) (hne : h ≠ []) (hc : (0x3a : UInt8) ∉ h) (hs : (0x2f : UInt8) ∉ h)
    (hpath : hasLineBreak path = false) :
    dissect (h ++ 0x2f :: path) = .ok ⟨h, [], false⟩ ∧ dissect h = .ok ⟨h, [], false⟩ :=
  Lem.hostpath_spelling h path hne hc hs hpath

/-- non-vacuity / the input class of the seeded change C12_2_agentG: the first colon of the string is the
one of "://" inside the query -/
example : dissect ([0x31, 0x2e, 0x32] ++ 0x2f :: [0x75, 0x3d, 0x68, 0x3a, 0x2f, 0x2f, 0x78, 0x3a, 0x38, 0x30])  -- "1.2/u=h://x:80"
    = .ok ⟨[0x31, 0x2e, 0x32], [], false⟩ :=
  (hostpath_spelling [0x31, 0x2e, 0x32] [0x75, 0x3d, 0x68, 0x3a, 0x2f, 0x2f, 0x78, 0x3a, 0x38, 0x30]
    (by decide) (by decide) (by decide) (by decide)).1

/-- the bracketed spellings for IPv6 literals (colons, `%scope` allowed inside the brackets):
`[h6]:p`, `scheme://[h6]:p`, `[h6]:p/path`, `scheme://[h6]:p/path?query` and the pair agree -/
theorem spellings_agree_v6 (h6 scheme path : Bytes) (p : Nat) (hp : p < 65536)
    (hne : h6 ≠ []) (hs : (0x2f : UInt8) ∉ h6) (hl : hasLineBreak h6 = false)
    (hw : ∀ c ∈ scheme, isWord c = true) (hpath : hasLineBreak path = false) :
    let d := render p
    let want : Except Exn Dissect := .ok ⟨h6, d, true⟩
    dissect (0x5b :: (h6 ++ 0x5d :: 0x3a :: d)) = want ∧
    dissect (scheme ++ 0x3a :: 0x2f :: 0x2f :: (0x5b :: (h6 ++ 0x5d :: 0x3a :: d))) = want ∧
    dissect (0x5b :: (h6 ++ 0x5d :: 0x3a :: d) ++ 0x2f :: path) = want ∧
    dissect (scheme ++ 0x3a :: 0x2f :: 0x2f :: (0x5b :: (h6 ++ 0x5d :: 0x3a :: d) ++ 0x2f :: path)) = want ∧
    parseHostServ h6 d = .ok ⟨cstr h6, d, false⟩ :=
  Lem.spellings_agree_v6 h6 scheme path p hp hne hs hl hw hpath

/-- "to_string() ("h:p" / "[h]:p") parses back to an equal Address": the text composed by
`to_string` from the canonical host `h` and the decimal port is dissected back to exactly
`(h, render p)` - for IPv4-style hosts (no ':' '/', not starting with '[') in the plain form,
for any host without '/' and line terminators in the bracketed form.  With G1/G2 this is
`Address(to_string(a)) == a`. -/
theorem tostring_roundtrip (v6 : Bool) (h : Bytes) (p : Nat) (hp : p < 65536)
    (hs : (0x2f : UInt8) ∉ h) (hl : hasLineBreak h = false)
    (h4 : v6 = false → h ≠ [] ∧ (0x3a : UInt8) ∉ h ∧ h.head? ≠ some 0x5b) :
    dissect (toString v6 h (render p)) = .ok ⟨h, render p, true⟩ :=
  Lem.tostring_roundtrip v6 h p hp hs hl h4

/-- "A numeric port outside 0..65535 is rejected by an exception in every spelling, never silently
wrapped": for EVERY input - URI or pair, any bytes - if `getaddrinfo` is reached with a service
that `strtoul` reads completely (blanks, sign, digits to the end of the C string), the value it
reads is a port.  So every out-of-range numeric service was answered by an exception before the
lookup, in every position: after the colon, as the scheme, as the service argument with sign or
blanks ("-0" passes as 0, "-1" is rejected). -/
theorem no_silent_wrap : NoSilentWrap parseUri parseHostServ :=
  Lem.no_silent_wrap

/-- the strict form of the same statement, without `strtoul`'s modulo: the number as written
(sign applied) is itself in 0..65535 - so "-18446744073709551615" (which `strtoul` would read as 1)
is rejected as well, and a minus sign is only accepted in front of zero -/
theorem no_silent_wrap_strict : NoSilentWrapStrict parseUri parseHostServ :=
  Lem.no_silent_wrap_strict

/-- port fidelity under assumption G1: whatever resolver `gai` maps a completely-read numeric
service `v` to port `v mod 2^16`, the port of the result is `v` itself - nothing was wrapped -/
theorem port_not_wrapped_under_G1 (gai : GaiCall → Option Nat)
    (G1 : ∀ c v port, strtoulReads c.serv = some v → gai c = some port → port = v % 65536)
    (uri : Bytes) (c : GaiCall) (v port : Nat)
    (hok : parseUri uri = .ok c) (hv : strtoulReads c.serv = some v) (hg : gai c = some port) : port = v := by
  have := no_silent_wrap.1 uri c v hok hv
  rw [G1 c v port hv hg]
  omega

namespace C12
/-- the predicate `./check C12` evaluates on the implementation's observations (`Spec/Uri.lean`: `specStep`
in mode `.fidelity` - no numeric service outside 0..65535 reaches `getaddrinfo`; `Port()` is the numeric
service; `Service()` its decimal text; `to_string` is `host:serv` / `[host]:serv` and parses back to an equal
Address; every spelling of a literal endpoint is accepted, reports the ground-truth host / port / family and
all are equal) accepts every trace of the model - `parseUri` / `parseHostServ` / `Addr.toString` over a name
service `ns` - for EVERY `ns` that satisfies the assumptions G1 / G2 (`NameService.Lawful`; satisfiable:
`toyNS_lawful`) and every history of any length in the domain `histOk` (`uri` / `pair` with arbitrary byte
strings; literal groups of addresses the resolver knows by their numeric text, with `\w*` schemes and
single-line paths; service names the database maps to the port). -/
theorem spec_holds_on_model {α : Type} [DecidableEq α] (ns : NameService α) (L : ns.Lawful)
    (history : List (Op α)) (hok : histOk ns history = true) :
    ∃ s, C12.specRun {} (modelTrace ns history) = .ok s :=
  C12.model_satisfies_spec ns L history hok

/-- the hypotheses of `spec_holds_on_model` are satisfiable: a concrete resolver is lawful and a history with
every kind of operation is in the domain -/
example : toyNS.Lawful ∧ histOk toyNS Demo.history = true := ⟨toyNS_lawful, Demo.history_ok⟩
end C12

/-- the pre-fix code (finding F5) did wrap: a numeric scheme is never checked -/
theorem legacy_wraps_scheme :
    ∃ c, Legacy.parseUri (ofChars "99999://localhost".toList) = .ok c ∧ strtoulReads c.serv = some 99999 :=
  ⟨⟨ofChars "localhost".toList, ofChars "99999".toList, false⟩, by decide +kernel, by decide⟩

/-- ... a service argument with a leading '+' escapes the `-?\d+` test -/
theorem legacy_wraps_plus :
    ∃ c, Legacy.parseHostServ (ofChars "localhost".toList) (ofChars "+99999".toList) = .ok c ∧
      strtoulReads c.serv = some 99999 :=
  ⟨⟨ofChars "localhost".toList, ofChars "+99999".toList, false⟩, by decide +kernel, by decide⟩

/-- ... and so does one with a leading blank -/
theorem legacy_wraps_blank :
    ∃ c, Legacy.parseHostServ (ofChars "localhost".toList) (ofChars " 99999".toList) = .ok c ∧
      strtoulReads c.serv = some 99999 :=
  ⟨⟨ofChars "localhost".toList, ofChars " 99999".toList, false⟩, by decide +kernel, by decide⟩

/-- proved negation of `no_silent_wrap` for the pre-fix counter-model -/
theorem legacy_wraps : ¬ NoSilentWrap Legacy.parseUri Legacy.parseHostServ := by
  intro h
  obtain ⟨c, hc, hv⟩ := legacy_wraps_scheme
  have := h.1 _ c 99999 hc hv
  omega

/-! ### non-vacuity / examples -/

example : dissect (ofChars "127.0.0.1:8080".toList) = .ok ⟨ofChars "127.0.0.1".toList, ofChars "8080".toList, true⟩ := by decide +kernel
example : dissect (toString true (ofChars "fe80::1%eth0".toList) (render 65535)) =
    .ok ⟨ofChars "fe80::1%eth0".toList, ofChars "65535".toList, true⟩ := by decide +kernel
example : render 0 = [0x30] := by decide
example : render 65535 = ofChars "65535".toList := by decide
example : parseUri (ofChars "65536://127.0.0.1".toList) = .error .runtimeError := by decide +kernel
example : parseHostServ (ofChars "127.0.0.1".toList) (ofChars "\t65537".toList) = .error .runtimeError := by decide
example : parseHostServ (ofChars "h".toList) (ofChars "-0".toList) = .ok ⟨[0x68], ofChars "-0".toList, false⟩ := by decide
example : parseHostServ (ofChars "h".toList) (ofChars "-1".toList) = .error .runtimeError := by decide
example : strtoulReads (ofChars "-1".toList) = some 18446744073709551615 := by decide
example : strtoulReads (ofChars " +80".toList) = some 80 := by decide
example : strtoulReads (ofChars "http".toList) = none := by decide
example : strtoulReads (ofChars "-18446744073709551615".toList) = some 1 := by decide +kernel
example : numericReads (ofChars "-18446744073709551615".toList) = some (true, 18446744073709551615) := by decide +kernel
example : parseHostServ [0x68] (ofChars "-18446744073709551615".toList) = .error .outOfRange := by decide +kernel

end SockModel.Uri

/-! ## Source-derived tie (DESIGN.md §0.7)

`SockModel.Gen.*` (Generated/Funcs.lean) is regenerated on every run by tools/cxx2lean.py from the clang AST of
the CURRENT /repo/src.  `Gen.ServiceOutOfRange` is the condition under which CheckServiceNumericOutOfRange
(address_impl.cpp) throws after `std::stoll`; the theorem states that the model's `rangeOf` is that condition for
every value `std::stoll` can return (the int64 range; beyond it `rangeOf` answers `out_of_range` itself).  A change
of the C++ function changes the generated definition and the theorem stops checking. -/
namespace SockModel.Props.C12
open SockModel SockModel.Uri
theorem tie_rangeOf (neg : Bool) (m : Nat) (h : if neg then m ≤ 2 ^ 63 else m ≤ 2 ^ 63 - 1) :
    rangeOf neg m =
      if Gen.ServiceOutOfRange (if neg then -(m : Int) else (m : Int)) then .error .runtimeError else .ok () := by
  unfold rangeOf Gen.ServiceOutOfRange
  cases neg
  · have h' : m ≤ 2 ^ 63 - 1 := by simpa using h
    have h1 : ¬ m > 2 ^ 63 - 1 := by omega
    by_cases h2 : m > 65535
    · have : (m : Int) < 0 ∨ (m : Int) > 65535 := by omega
      simp [h1, h2, this]
    · simp [h1, h2] <;> omega
  · have h' : m ≤ 2 ^ 63 := by simpa using h
    have h1 : ¬ m > 2 ^ 63 := by omega
    by_cases h2 : m > 0
    · simp [h1, h2] <;> omega
    · simp [h1, h2]
end SockModel.Props.C12
