import SockModel.Spec.C07
import SockModel.Generated.Funcs
/-!
# C07  Timeouts mean what the documentation says, for every blocking call

Every blocking socket operation is `wait` (one `Wait(fd, events, timeout)`, which re-issues
a `poll` that a signal interrupted) followed by one non-blocking system call, except the
TCP send loops which wait repeatedly.  The theorems are about the *arguments* the
library passes to `poll` and about the virtual time that passes inside those polls
(A-POLL: `poll(t)` returns 0 only after `t` ms); the script `os.polls` is arbitrary:
readiness after any delay, never, signals at any time, failures.

`-intMax ≤ T ≤ intMax` is the documented domain `|T| < 2^31` ms.
-/
namespace SockModel.SendLoop
open SockModel.Deadline

/-- `T < 0`: "returns only with a result, never 'nothing'" - as long as the OS does not answer an
unlimited `poll` with 0 (which it never does), and every poll issued has the unlimited timeout. -/
theorem unlimited_never_nothing (size : Nat) (T : Int) (hT : T < 0) (hlo : -intMax ≤ T) (os os' : Os)
    (r : Res (Option Bytes)) (hs : ∀ a ∈ os.polls, a ≠ .timedOut) (h : receive size T os = (r, os')) :
    r ≠ .ok none ∧ ∀ p ∈ pollArgs os', p ∈ pollArgs os ∨ p = T := by
  obtain ⟨_, _, _, _, _, hargs, _, _, hneg⟩ := wait_spec (T := T) (os := os) rfl hlo (by unfold intMax; omega)
  have hfr := Spec.C07.receive_frame size T os
  rw [h] at hfr
  refine ⟨fun hr => hneg hT hs (hfr.2.2.1 hr), ?_⟩
  intro p hp
  rw [hfr.2.1] at hp
  rcases hargs p hp with h | h
  · exact Or.inl h
  · right; unfold ArgOk at h; rw [if_pos hT] at h; exact h

/-- `T = 0`: "never blocks": every poll issued has timeout 0 and no virtual time passes. -/
theorem zero_never_blocks (os os' : Os) (r : Res Bool) (h : wait 0 os = (r, os')) :
    os'.now = os.now ∧ ∀ p ∈ pollArgs os', p ∈ pollArgs os ∨ p = 0 := by
  obtain ⟨_, _, _, _, _, hargs, hzero, _⟩ := wait_spec h (by decide) (by decide)
  refine ⟨hzero rfl, ?_⟩
  intro p hp
  rcases hargs p hp with h | h
  · exact Or.inl h
  · right; unfold ArgOk at h; simpa using h

/-- `T > 0`: "blocks no longer than T in total", however many polls the wait needs (signals), each
poll's timeout is within the remaining budget, and "returns 'nothing' no earlier than T": `false`
exactly when the virtual clock reached `start + T`. -/
theorem limited_budget (T : Int) (hT : 0 < T) (hhi : T ≤ intMax) (os os' : Os) (r : Res Bool)
    (h : wait T os = (r, os')) :
    os.now ≤ os'.now ∧ os'.now ≤ os.now + T * nsPerMs ∧
    (r = .ok false → os'.now = os.now + T * nsPerMs) ∧
    (∀ p ∈ pollArgs os', p ∈ pollArgs os ∨ (0 ≤ p ∧ p ≤ T)) := by
  obtain ⟨_, _, _, hmono, _, hargs, _, hpos, _⟩ := wait_spec h (by unfold intMax; omega) hhi
  refine ⟨hmono, (hpos hT).1, (hpos hT).2, ?_⟩
  intro p hp
  rcases hargs p hp with h | h
  · exact Or.inl h
  · right; unfold ArgOk at h; rw [if_neg (by omega), if_neg (by omega)] at h; exact h

/-- the same for a TCP/UDP receive with limited timeout: `nullopt` no earlier and no later than T -/
theorem receive_limited (size : Nat) (T : Int) (hT : 0 < T) (hhi : T ≤ intMax) (os os' : Os)
    (r : Res (Option Bytes)) (h : receive size T os = (r, os')) :
    os'.now ≤ os.now + T * nsPerMs ∧ (r = .ok none → os'.now = os.now + T * nsPerMs) := by
  obtain ⟨_, h2, h3, _⟩ := limited_budget T hT hhi os _ _ rfl
  have hfr := Spec.C07.receive_frame size T os
  rw [h] at hfr
  rw [hfr.2.2.2]
  exact ⟨h2, fun hr => h3 (hfr.2.2.1 hr)⟩

/-- `SendSome` (TCP send with limited timeout): however many waits and partial sends it needs, the
clock never passes `start + T`; and it returns fewer bytes than asked only at `start + T`. -/
theorem sendSome_budget (data : Bytes) (T : Int) (hT : 0 < T) (hhi : T ≤ intMax) (os os' : Os) (r : Res Nat)
    (h : sendSome data T os = (r, os')) :
    os.now ≤ os'.now ∧ os'.now ≤ os.now + T * nsPerMs ∧
    (∀ m, r = .ok m → m < data.length → os'.now = os.now + T * nsPerMs) := by
  obtain ⟨e', _, h0, hle, hclk, hshort⟩ := Spec.C07.sendSomeLoop_elapsed hT hhi (os.now + T * nsPerMs)
    (os.sends.length + 1) data 0 os 0 (Int.le_refl 0) (Int.le_of_lt hT)
    (by rw [Int.sub_zero, Int.add_comm, Int.add_sub_cancel])
  unfold sendSome at h
  rw [h, Int.sub_zero] at hclk
  rw [h] at hshort
  have hns : (0 : Int) ≤ nsPerMs := by decide
  refine ⟨?_, ?_, ?_⟩
  · rw [hclk]; exact Int.le_add_of_nonneg_right (Int.mul_nonneg h0 hns)
  · rw [hclk]; exact Int.add_le_add_left (Int.mul_le_mul_of_nonneg_right hle hns) _
  · intro m hm hlt
    rw [hclk, hshort m hm (by rw [Nat.zero_add]; exact hlt)]

end SockModel.SendLoop

namespace SockModel.ToDos
open SockModel.Deadline

/-- "with no ToDo pending ... it waits the full T" -/
theorem step_full_wait (fuel : Nat) (T : Int) (s : St) (h : s.todos = []) :
    (step true fuel T s).log = .poll (toMsec T) :: s.log := by
  unfold step
  rw [h]
  exact (Spec.C07.Step.pollSockets_facts T s).1

/-- "it never sleeps past the due time of the earliest pending ToDo": when a ToDo is still pending
after the tasks of this step ran, the timeout passed to the socket wait is non-negative (never
unlimited) and ends no later than that ToDo's due time.  Holds for every timeout `T`, every due
time (also ≥ 2^31 ms ahead: `ToMsec` clamps, finding F6) and every task behaviour. -/
theorem step_not_past_todo (fuel : Nat) (T : Int) (s : St) (ms : Int) (s' : St)
    (hst : stepTodos fuel (Deadline.make T s.now) s = (ms, s')) :
    ∀ f rest, s'.todos = f :: rest →
      0 ≤ toMsec ms ∧ (s'.now < f.when → toMsec ms * nsPerMs ≤ f.when - s'.now) :=
  stepTodos_not_past fuel T s ms s' hst

/-- "Driver::Step is bounded by T from above in the same way": for `T ≥ 0` the timeout handed to the
socket wait after the due tasks ran is within `[0, T]`, whatever the tasks did and however long they
took (`DBound T d`: the deadline object never promises more than `T`; `DBound_make`). -/
theorem step_bounded (fuel : Nat) (T : Int) (hT : 0 ≤ T) (d : Deadline) (s : St) (hd : d.now = s.now)
    (hb : DBound T d) (ms : Int) (s' : St) (h : stepTodos fuel d s = (ms, s')) : 0 ≤ ms ∧ ms ≤ T :=
  stepTodos_bounded fuel T hT d s hd hb ms s' h

/-- the shipped `ToMsec` (narrowing to 32 bits, finding F6) does NOT have this property: a ToDo due
2^31 ms ahead turns the wait into an unlimited one. -/
theorem legacy_sleeps_past_todo :
    ∃ (T : Int) (s : St) (f : Entry), s.todos = [f] ∧ s.now < f.when ∧
      (step false 1 T s).log.head? = some (.poll (-2147483648)) := by
  refine ⟨-1, { todos := [⟨1, 2147483648 * 1000000, 0⟩], now := 0 }, ⟨1, 2147483648 * 1000000, 0⟩, rfl, by decide, by decide⟩

end SockModel.ToDos

/-! ## The run-time oracle is a theorem of the model (`Spec/C07.lean`) -/
namespace SockModel.Spec.C07
/-- the timeout clauses `./check C07` evaluates on the implementation's blocking socket operations
(`Spec/C07.lean`: `specStep` = `specStepM c07` with `specTimeouts`, the clauses listed at the head of that file,
plus `MSG_NOSIGNAL` and crash / hang) accept every
trace of the model (`send` / `receive` / `sendTo` / `receiveFrom` / `acceptT` of `Model/SendLoop.lean` on
arbitrary scripted OS answers; the model trace is the one of `Spec/C01.lean`), for every history of any
length.  `histOk` is the domain: `T < 2^31` ms, and no "timed out" answer of the kernel to an unlimited poll. -/
theorem spec_holds_on_model (history : List C01.Op) (h : histOk history = true) :
    ∃ s, specRun () (C01.modelTrace {} history) = .ok s :=
  model_satisfies_spec history h

/-- the clauses `./check C07` (and `./check C06`) evaluate on the implementation's `Driver::Step` transcripts
(`Spec/C07.lean`: `Step.specStep` - one socket wait per step, within `[0, T]` for `T ≥ 0`, never unlimited and
never past the due time of the earliest pending ToDo, the full `T` when idle, a due task is run, no task after
the wait, monotone clock, and the reference scheduler of `Spec/C06.lean` for every invocation) accept every
trace of the model (`Model/ToDos.lean`, with the `ToMsec` clamp of fix F6), for every history of any length
with arbitrary task bodies.  Domain: `T < 2^31` ms for every `Step(T)`; `fuel ≥ 1` task invocations per step. -/
theorem spec_holds_on_model_step (fuel : Nat) (hf : 0 < fuel) (history : List ToDos.Op)
    (h : history.all Step.opOk = true) :
    ∃ s, Step.specRun {} (Step.modelTrace fuel {} history) = .ok s :=
  Step.model_satisfies_spec fuel hf history h
end SockModel.Spec.C07

/-! ## Source-derived tie (DESIGN.md §0.7)

`SockModel.Gen.*` (Generated/Funcs.lean) is regenerated on every run by tools/cxx2lean.py from the clang AST of
the CURRENT /repo/src: ToMsec, the wait.h deadline flavours, MinDuration, the timeout-sign dispatch of Driver::DriverImpl::Step.
Each theorem below states that the generated function and the hand-written model function agree for ALL
arguments; a change of the C++ function changes the generated definition and the theorem stops checking. -/
namespace SockModel.Props.C07
open SockModel SockModel.Deadline

theorem tie_toMsec (c : Int) : Gen.ToMsec c = Deadline.toMsec c := by
  simp only [Gen.ToMsec, toMsec, intMax, Int.bmod_eq_emod]
  repeat' split
  all_goals omega

theorem tie_unlimited_timeLeft (now : Int) : Gen.Unlimited_TimeLeft = (Deadline.unlimited now).timeLeft := rfl
theorem tie_unlimited_remaining (now : Int) : Gen.Unlimited_Remaining = (Deadline.unlimited now).remaining := rfl
theorem tie_zero_timeLeft (now : Int) : Gen.ZeroLimited_TimeLeft = (Deadline.zero now).timeLeft := rfl
theorem tie_zero_remaining (now : Int) : Gen.ZeroLimited_Remaining = (Deadline.zero now).remaining := rfl

theorem tie_limited_timeLeft (now dl : Int) :
    Gen.DeadlineLimited_TimeLeft now dl = (Deadline.limited now dl).timeLeft := rfl

theorem tie_limited_remaining (now dl : Int) :
    Gen.DeadlineLimited_Remaining now dl = (Deadline.limited now dl).remaining := by
  simp only [Gen.DeadlineLimited_Remaining, Deadline.remaining, toMs, nsPerMs]
  repeat' split
  all_goals omega

theorem tie_minDuration (l r : Int) : Gen.MinDuration l r = Deadline.minDuration l r := by
  simp only [Gen.MinDuration, minDuration, toMs, nsPerMs]
  repeat' split
  all_goals omega

/-- `Deadline.make`: flavour chosen by the sign of the timeout as in `Driver::DriverImpl::Step`, and the
limited deadline is the constructor initialiser `now + timeout` -/
theorem tie_make (t now : Int) :
    Deadline.make t now =
      match Gen.Step_dispatch false t with
      | .todosUnlimited => .unlimited now
      | .todosZero => .zero now
      | _ => .limited now (Gen.DeadlineLimited_deadline now t) := by
  simp only [Deadline.make, Gen.Step_dispatch, Gen.DeadlineLimited_deadline, nsPerMs]
  split <;> (try split) <;> simp_all

theorem tie_step (clamp : Bool) (fuel : Nat) (t : Int) (s : ToDos.St) :
    ToDos.step clamp fuel t s =
      match Gen.Step_dispatch s.todos.isEmpty t with
      | .socketsOnly => ToDos.pollSockets clamp t s
      | .todosUnlimited =>
        let r := ToDos.stepTodos fuel (.unlimited s.now) s
        ToDos.pollSockets clamp r.1 r.2
      | .todosZero =>
        let r := ToDos.stepTodos fuel (.zero s.now) s
        ToDos.pollSockets clamp r.1 r.2
      | .todosLimited =>
        let r := ToDos.stepTodos fuel (.limited s.now (Gen.DeadlineLimited_deadline s.now t)) s
        ToDos.pollSockets clamp r.1 r.2 := by
  simp only [ToDos.step, Deadline.make, Gen.Step_dispatch, Gen.DeadlineLimited_deadline, nsPerMs]
  repeat' split
  all_goals simp_all
end SockModel.Props.C07
