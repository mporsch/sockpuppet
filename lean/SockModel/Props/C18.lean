import SockModel.Props.C18Hs
import SockModel.Model.HsLemmas
import SockModel.Model.TlsShutdown
import SockModel.Spec.C18
/-!
# C18  TLS sockets encrypt, need a TLS peer, and always complete the handshake

The property theorems, and the few lemmas that need a definition of this file (`Armed`, `WInv` / `WPost`, `LimitedOk`,
`ReadRejects` / `WriteRejects`); everything else they rest on is in `Model/TlsLemmas.lean`, `Model/TlsBudget.lean`,
`Model/TlsLogLemmas.lean`, `Model/TlsShutdown.lean`, `Model/NetLemmas.lean`, `Spec/C18.lean`.

Every theorem quantifies over **every engine** `E : Engine σ` (any state type, any adaptive
behaviour: `ssl_read`/`ssl_write` are interaction trees that may call the BIO callbacks in any
pattern and answer anything), **every world** `W : World ω` (any behaviour of `poll`/`send`/
`recv` and the clock) and **every history** of calls, unless a hypothesis says otherwise.
What OpenSSL itself guarantees enters only as explicit hypotheses about `E` (A-SSL).
-/
namespace SockModel.Tls
open SockModel.Net

variable {σ ω : Type}

/-! ## "no application payload ever appears in the clear on the underlying TCP connection" -/

/-- In every history of calls on a TLS socket (any mix of `Receive`, `Send`, driver-mode calls,
any timeouts), in every world that records its raw outgoing stream: the raw stream is exactly the
concatenation, in order, of the accepted prefixes of the buffers the *engine* handed to the write
BIO.  Nothing else ever reaches `send` - in particular no byte of a `Send`/`SendSome` argument,
which the glue passes to `ssl_write` only. -/
theorem plaintext_only_via_engine {W : World ω} {wire : ω → Bytes} (L : WireLog W wire)
    (C : Cfg) (E : Engine σ) (s0 : St σ ω) (h0 : WireOk wire s0) (ops : List Op) :
    let s := run C W E s0 ops
    wire s.w = bioWire s.g ∧ ∀ c ∈ s.g.bioWrites, c.accepted ≤ c.buf.length := by
  intro s
  have h : WireOk wire s := (wireOk_frame (σ := σ) L).run C E (fun s b h => ⟨h.1, h.2.1, h.2.2⟩) ops s0 h0
  exact ⟨h.1.trans h.2.1, h.2.2⟩

/-- the same for the scripted kernel (every script of `poll`/`send`/`recv` answers, of any length,
followed by either default behaviour): what the kernel's call log shows as sent is the engine's output -/
theorem plaintext_only_via_engine_scripted (C : Cfg) (E : Engine σ) (e0 : σ) (script : Script)
    (hfresh : script.calls = []) (ops : List Op) :
    let s := run C Script.world E { g := {}, e := e0, w := script } ops
    s.w.wire = bioWire s.g := by
  intro s
  refine (plaintext_only_via_engine Script.wireLog C E _ ?_ ops).1
  refine ⟨?_, rfl, ?_⟩
  · simp [Script.wire, hfresh, wireOf]
  · intro c hc; cases hc

/-! ## "application data is exchanged only after a completed handshake" -/

/-- A-SSL, first half: the engine hands out plaintext (`done`) only once `init_finished` -/
def DoneImpliesInit (E : Engine σ) : Prop :=
  ∀ s n, AllLeaves (fun a _ s' => a.isDone = true → E.initFinished s' = true) (E.sslRead s n)

/-- "application data is exchanged only after a completed handshake": whenever `Receive` (with
any timeout) or the driver-mode `Receive` hands bytes to the caller, the engine has finished the
handshake - while `¬ init_finished` they deliver nothing. -/
theorem no_appdata_before_handshake {W : World ω} (C : Cfg) (E : Engine σ) (hE : DoneImpliesInit E)
    (s s' : St σ ω) (size : Nat) (bs : Bytes) (hbs : bs ≠ []) :
    (∀ t, receiveT C W E s size t = (.ok bs, s') → E.initFinished s'.e = true) ∧
    (receiveReadable C W E s size = (.ok bs, s') → E.initFinished s'.e = true) := by
  constructor
  · intro t h
    obtain ⟨k, _, hk, _⟩ := Spec.receiveT_done C E _ size (fun s => hE s size) s s' t bs hbs h
    exact hk rfl
  · intro h
    obtain ⟨k, _, hk, _⟩ := Spec.receiveReadable_done C E _ size (fun s => hE s size) s s' bs hbs h
    exact hk rfl

/-- the same for the asynchronous socket: the receive handler is invoked only with a non-empty
buffer and only once the handshake is finished -/
theorem no_handler_before_handshake {W : World ω} (C : Cfg) (E : Engine σ) (hE : DoneImpliesInit E)
    (rx : Nat) (x : ASt σ ω) :
    (aReadable C W E rx x).2.a.delivered = x.a.delivered ∨
    ∃ bs, bs ≠ [] ∧ (aReadable C W E rx x).2.a.delivered = bs :: x.a.delivered ∧
      E.initFinished (aReadable C W E rx x).2.s.e = true := by
  unfold aReadable
  split
  · left; rfl
  · rename_i bs s' hne heq
    right
    exact ⟨bs, hne, rfl, (no_appdata_before_handshake C E hE x.s s' rx bs hne).2 heq⟩
  · split
    · left; rfl
    · left; rfl
  · left; rfl

/-! ## "talking to a non-TLS peer fails with an exception instead of delivering bytes" -/

/-- the engine facing a peer that does not speak TLS: whatever arrives is not a TLS record, every
`ssl_read` ends in `SSL_ERROR_SSL` (it may first try to read, write an alert, ...) -/
def ReadRejects (E : Engine σ) : Prop := ∀ s n, AllLeaves (fun a _ _ => a = .sslErr) (E.sslRead s n)
def WriteRejects (E : Engine σ) : Prop := ∀ s d, AllLeaves (fun a _ _ => a = .sslErr) (E.sslWrite s d)

theorem readRound_rejects {W : World ω} (C : Cfg) (E : Engine σ) (hE : ReadRejects E) (size i : Nat) (s : St σ ω) :
    ∃ e s', readRound C W E size i s = (some (.exn e), s') := by
  obtain ⟨ans, out, s1, hi, _, ha⟩ := interp_ok (W := W) _ _ (hE s.e size) s
  subst ha
  obtain ⟨e, s', hr⟩ := handleResult_fatal (W := W) (noteCall E s1 true [] .sslErr) .sslErr (Or.inr (Or.inr rfl))
  exact ⟨e, s', by rw [readRound_retry_eq hi rfl, readRetry, hr]⟩

/-- `Receive` (any timeout, any receive-buffer size) against a peer that is not a TLS peer:
always an exception, never a value - zero bytes are delivered.  (Whatever the world does: data,
segmentation, errors, timeouts; the exception may also come from the descriptor itself.) -/
theorem non_tls_peer_rejected_receive {W : World ω} (C : Cfg) (E : Engine σ) (hE : ReadRejects E)
    (hpos : 0 < C.stepsMax) (s : St σ ω) (hfresh : s.g.lastError = .none) (size : Nat) (t : Int) :
    (∃ e s', receiveT C W E s size t = (.exn e, s')) ∧
    (∃ e s', receiveReadable C W E s size = (.exn e, s')) := by
  have key : ∀ s0 : St σ ω, s0.g.lastError = .none → ∃ e s', tlsRead C W E s0 size = (.exn e, s') := by
    intro s0 h0
    obtain ⟨i, hi⟩ : ∃ i, C.stepsMax = i + 1 := ⟨C.stepsMax - 1, by omega⟩
    obtain ⟨e, s', hr⟩ := readRound_rejects (W := W) C E hE size i (setLastError s0 .none)
    exact ⟨e, s', by simp only [tlsRead, handleLastError_none s0 h0, hi, readLoop, hr]⟩
  constructor
  · obtain ⟨e, s', h⟩ := key (setTimeout s t) hfresh
    exact ⟨e, s', by unfold receiveT; rw [h]⟩
  · obtain ⟨e, s', h⟩ := key (prepReadable s) (by simp [prepReadable, hfresh])
    exact ⟨e, s', by unfold receiveReadable; rw [h]⟩

theorem writeRound_rejects {W : World ω} (C : Cfg) (E : Engine σ) (hE : WriteRejects E) (i' : Nat) (rest : Bytes)
    (s : St σ ω) (hp : s.g.pendingSend = []) : ∃ e s', writeRound C W E i' rest s = (.stop (.exn e), s') := by
  obtain ⟨ans, out, s1, hi, _, ha⟩ := interp_ok (W := W) _ _ (hE s.e rest) s
  subst ha
  obtain ⟨e, s', hr⟩ := handleResult_fatal (W := W) (setPending (noteCall E s1 false rest .sslErr) rest) .sslErr
    (Or.inr (Or.inr rfl))
  exact ⟨e, s', by simp [writeRound, hp, hi, writeRetry, hr]⟩

/-- `Send` of a non-empty buffer against a peer that is not a TLS peer: an exception, and by
`plaintext_only_via_engine` nothing of the buffer reached the wire -/
theorem non_tls_peer_rejected_send {W : World ω} (C : Cfg) (E : Engine σ) (hE : WriteRejects E)
    (hpos : 0 < C.stepsMax) (s : St σ ω) (hfresh : s.g.lastError = .none) (hp : s.g.pendingSend = [])
    (data : Bytes) (hd : data ≠ []) (t : Int) :
    ∃ e s', sendT C W E s data t = (.exn e, s') := by
  have key : ∀ s0 : St σ ω, s0.g.lastError = .none → s0.g.pendingSend = [] →
      ∃ e s', tlsWrite C W E s0 data = (.exn e, s') := by
    intro s0 h0 hp0
    obtain ⟨i, hi⟩ : ∃ i, C.stepsMax = i + 1 := ⟨C.stepsMax - 1, by omega⟩
    obtain ⟨e, s', hr⟩ := writeRound_rejects (W := W) C E hE i data (setLastError s0 .none) hp0
    refine ⟨e, s', ?_⟩
    rw [tlsWrite, handleLastError_none s0 h0]
    simp only [hi]
    rw [writeLoop, if_neg hd, hr]
  obtain ⟨e, s', h⟩ := key (setTimeout s t) hfresh hp
  exact ⟨e, s', by unfold sendT; rw [h]⟩

/-- once the engine has reported `SSL_ERROR_SSL`, every later call throws without touching engine or
descriptor: no way to get bytes out of (or into) a connection that failed its handshake -/
theorem fatal_is_sticky {W : World ω} (C : Cfg) (E : Engine σ) (s : St σ ω) (h : s.g.lastError = .ssl) :
    (∀ n t, receiveT C W E s n t = (.exn .sslError, setTimeout s t)) ∧
    (∀ n, receiveReadable C W E s n = (.exn .sslError, prepReadable s)) ∧
    (∀ d t, sendT C W E s d t = (.exn .sslError, setTimeout s t)) ∧
    (∀ d, sendSomeWritable C W E s d = (.exn .sslError, prepWritable s)) := by
  refine ⟨?_, ?_, ?_, ?_⟩
  · intro n t
    simp [receiveT, tlsRead, handleLastError, setTimeout, h, handleError]
  · intro n
    simp [receiveReadable, tlsRead, handleLastError, prepReadable, h, handleError]
  · intro d t
    simp [sendT, tlsWrite, handleLastError, setTimeout, h, handleError]
  · intro d
    simp [sendSomeWritable, tlsWrite, handleLastError, prepWritable, h, handleError]

/-! ## the POLLOUT protocol of the driver-operated TLS socket -/

/-- what `DriverQuery` does to the POLLOUT bit, clause by clause:
requested while the handshake wants to write, suppressed (and remembered) while it wants to
read, restored once the handshake is finished, untouched otherwise -/
theorem driverQuery_protocol (E : Engine σ) (s : St σ ω) (po : Bool) :
    (E.initFinished s.e = false → s.g.lastError = .wantWrite →
      (driverQuery E s po).1 = true ∧ (driverQuery E s po).2 = s) ∧
    (E.initFinished s.e = false → s.g.lastError = .wantRead →
      (driverQuery E s po).1 = false ∧
      (driverQuery E s po).2.g.driverSendSuppressed = (s.g.driverSendSuppressed || po)) ∧
    (E.initFinished s.e = true → s.g.driverSendSuppressed = true →
      (driverQuery E s po).1 = true ∧ (driverQuery E s po).2.g.driverSendSuppressed = false) ∧
    (E.initFinished s.e = true → s.g.driverSendSuppressed = false →
      (driverQuery E s po).1 = po ∧ (driverQuery E s po).2 = s) := by
  refine ⟨?_, ?_, ?_, ?_⟩
  · intro hi hl; simp [driverQuery, hi, hl]
  · intro hi hl; simp [driverQuery, hi, hl]
  · intro hi hs; simp [driverQuery, hi, hs]
  · intro hi hs; simp [driverQuery, hi, hs]

/-- the invariant that carries C02's "queued data is armed" through the handshake: while the socket
is registered, a non-empty send queue is either polled for POLLOUT or remembered as suppressed -/
def Armed (x : ASt σ ω) : Prop :=
  x.a.registered = true → x.a.sendQ ≠ [] → (x.a.pollOut = true ∨ x.s.g.driverSendSuppressed = true)

theorem armed_enqueue (x : ASt σ ω) (buf : Bytes) (h : Armed x) : Armed (enqueue x buf) := by
  intro hreg hq
  simp only [enqueue] at hreg hq ⊢
  by_cases he : x.a.sendQ.isEmpty = true
  · left; simp [he, hreg]
  · have hne : x.a.sendQ ≠ [] := by intro h0; apply he; simp [h0]
    rcases h hreg hne with h1 | h1
    · left; simp [he, h1]
    · right; exact h1

theorem armed_query (E : Engine σ) (x : ASt σ ω) (h : Armed x) : Armed (aQuery E x) := by
  unfold aQuery
  split
  · exact h
  · rename_i hreg
    intro _ hq
    exact (driverQuery_spec E x.s x.a.pollOut).2 (h (by simpa using hreg) hq)

theorem armed_task {W : World ω} (C : Cfg) (E : Engine σ) (rx : Nat) (x : ASt σ ω) (rev : REvents) (h : Armed x) :
    Armed (aTask C W E rx x rev).2 := by
  refine aTask_route (motive := fun r => Armed r.2) C E rx x rev h ?_ ?_ ?_
  · -- readable: `Receive()` leaves `driverSendSuppressed` alone, the queue and POLLOUT are not touched
    intro _
    have hsup := (suppressed_frame W x.s.g.driverSendSuppressed).receiveReadable C E x.s rx rfl
    have keep : ∀ a : Async, a.registered = x.a.registered → a.sendQ = x.a.sendQ → a.pollOut = x.a.pollOut →
        Armed ({ a := a, s := (receiveReadable C W E x.s rx).2 } : ASt σ ω) := by
      intro a h1 h2 h3 hr hq
      rcases h (h1 ▸ hr) (h2 ▸ hq) with h' | h'
      · exact Or.inl (h3.trans h')
      · exact Or.inr (hsup.trans h')
    refine aReadable_route (motive := fun r => Armed r.2) C E rx x (fun _ => keep _ rfl rfl rfl) ?_ ?_
    · intro bs s' _ heq
      have := keep { x.a with delivered := bs :: x.a.delivered } rfl rfl rfl
      rwa [heq] at this
    · intro hr; cases hr
  · -- writable (and POLLOUT was requested)
    exact fun _ hpo _ hq => Or.inl (aWritable_pollOut C E x hpo hq)
  · intro _ hr; cases hr

/-- **pollout_protocol**: for every sequence of enqueue / driver-step events (each step = `DriverQuery`,
then whatever `poll` reported: readable, writable, HUP/ERR or nothing), every engine, every world: queued data
is always armed or remembered as suppressed - it cannot get stuck behind the handshake. -/
theorem pollout_protocol {W : World ω} (C : Cfg) (E : Engine σ) (rx : Nat) (evs : List AEv) :
    ∀ (x : ASt σ ω), Armed x → Armed (aRun C W E rx x evs) := by
  induction evs with
  | nil => intro x h; exact h
  | cons ev evs ih =>
    intro x h
    apply ih
    cases ev with
    | enq buf => exact armed_enqueue x buf h
    | step rev => exact armed_task C E rx _ rev (armed_query E x h)
    | stepFirst rev => exact armed_task C E rx _ _ (armed_query E x h)

/-- "restored once init_finished": after the `DriverQuery` of any step that finds the handshake
finished, a registered socket with queued data is polled for POLLOUT -/
theorem pollout_restored (E : Engine σ) (x : ASt σ ω) (h : Armed x) (hinit : E.initFinished x.s.e = true)
    (hreg : x.a.registered = true) (hq : x.a.sendQ ≠ []) : (aQuery E x).a.pollOut = true := by
  unfold aQuery
  rw [if_neg (by simp [hreg])]
  simp only [driverQuery, hinit]
  rcases h hreg hq with h1 | h1
  · by_cases hs : x.s.g.driverSendSuppressed = true
    · simp [hs]
    · simp [hs, h1]
  · simp [h1]

/-! ## decrypted data held inside the engine is served (F8) -/

/-- **received_is_served** (after C03: "the receive handler gets every byte the peer sent"): a registered
asynchronous TLS socket whose engine holds decrypted data (`SSL_pending() > 0`: the receive buffer was smaller
than the record) is served as READABLE by the step in which `QuerySockets` returns it - whatever `poll`
reported, in particular when it reported nothing because the descriptor is empty.  For every engine, world,
state and reported events. -/
theorem received_is_served {W : World ω} (C : Cfg) (E : Engine σ) (rx : Nat) (x : ASt σ ω) (rev : REvents)
    (hr : x.a.registered = true) (hp : E.pending x.s.e = true) :
    aApply C W E rx x (.stepFirst rev) = (aReadable C W E rx (aQuery E x)).2 := by
  obtain ⟨_, _, hreg, _, _, heng⟩ := aQuery_keeps E x
  have hforced : forcedRev E (aQuery E x) rev = { rev with rd := true } := by
    unfold forcedRev driverReceived
    rw [heng, hreg]
    simp [hr, hp]
  simp only [aApply, hforced, aTask]
  rw [if_neg (by rw [hreg]; simp [hr])]
  simp

/-- the driver before the repair of F8 (`DoOneSocketTask()` acting on the reported events only): when the
descriptor is empty `poll` reports nothing for the socket and the step hands nothing to the receive handler,
although the engine holds data - with no further traffic from the peer, for ever (witness of the open
finding F8 of the earlier sessions, kept as the negative counterpart of `received_is_served`) -/
theorem legacy_pending_stalls {W : World ω} (C : Cfg) (E : Engine σ) (rx : Nat) (x : ASt σ ω) (n : Nat) :
    (aRun C W E rx x (List.replicate n (.step {}))).a.delivered = x.a.delivered := by
  induction n generalizing x with
  | zero => rfl
  | succ k ih =>
    simp only [List.replicate_succ, aRun, List.foldl_cons]
    have h1 : (aApply C W E rx x (.step {})).a.delivered = x.a.delivered := by
      simp only [aApply, aTask]
      have hd : (aQuery E x).a.delivered = x.a.delivered := by
        obtain ⟨po, d, h⟩ := aQuery_spec E x
        rw [h]
      split
      · exact hd
      · simp [hd]
    have := ih (aApply C W E rx x (.step {}))
    simp only [aRun] at this
    rw [this, h1]

/-! ## `Write`: count and retry discipline (what C01/C02 need from the TLS socket) -/

def pendingAssert : String := "assert(pendingSend.empty() || pendingSend.size() == remaining.size())"

/-- loop invariant of `Write`: the calls logged so far form a chain that leaves `rest`; `pendingSend`
is empty or equal to what will be passed next -/
def WInv (data : Bytes) (old : List EngCall) (rest : Bytes) (s : St σ ω) : Prop :=
  ∃ cs, s.g.engCalls = cs.reverse ++ old ∧ WriteChain data cs rest ∧
    (s.g.pendingSend = [] ∨ s.g.pendingSend = rest)

def WPost (data : Bytes) (old : List EngCall) (o : Out Bytes) (s : St σ ω) : Prop :=
  ∃ cs rest, s.g.engCalls = cs.reverse ++ old ∧ WriteChain data cs rest ∧
    (∀ r, o = .ok r → r = rest ∧ (s.g.pendingSend = [] ∨ s.g.pendingSend = rest)) ∧
    o ≠ .abort pendingAssert

theorem writeRetry_chain {W : World ω} (C : Cfg) (data : Bytes) (old : List EngCall) (i' : Nat) (rest : Bytes)
    (s2 : St σ ω) (ans : SslAns) (cs : List EngCall)
    (hlog : s2.g.engCalls = cs.reverse ++ old) (hchain : WriteChain data cs rest) (hp : s2.g.pendingSend = rest) :
    (∀ o s', writeRetry C W i' rest s2 ans = (.stop o, s') → WPost data old o s') ∧
    (∀ j rest' s', writeRetry C W i' rest s2 ans = (.again j rest', s') → WInv data old rest' s') := by
  obtain ⟨s3, h1, h2, hc⟩ := writeRetry_cases (W := W) C i' rest s2 ans
  have post : ∀ o : Out Bytes, o ≠ .abort pendingAssert → (∀ r, o = .ok r → r = rest) → WPost data old o s3 :=
    fun o ho hr => ⟨cs, rest, by rw [h2]; exact hlog, hchain, fun r h => ⟨hr r h, Or.inr (by rw [h1]; exact hp)⟩, ho⟩
  rcases hc with ⟨e, hc⟩ | hc | hc | hc <;> rw [hc] <;> refine ⟨fun o s' heq => ?_, fun j r s' heq => ?_⟩
  · cases heq; exact post _ (by simp) (by intro r hr; cases hr)
  · cases heq
  · cases heq; exact post _ (by simp) (by intro r hr; cases hr; rfl)
  · cases heq
  · cases heq; exact post _ (by simp [pendingAssert]) (by intro r hr; cases hr)
  · cases heq
  · cases heq
  · cases heq; exact ⟨cs, by rw [h2]; exact hlog, hchain, Or.inr (by rw [h1]; exact hp)⟩

theorem writeRound_chain {W : World ω} (C : Cfg) (E : Engine σ) (data : Bytes) (old : List EngCall)
    (i' : Nat) (rest : Bytes) (s : St σ ω) (h : WInv data old rest s) :
    (∀ o s', writeRound C W E i' rest s = (.stop o, s') → WPost data old o s') ∧
    (∀ j rest' s', writeRound C W E i' rest s = (.again j rest', s') → WInv data old rest' s') := by
  obtain ⟨cs, hcalls, hchain, hpend⟩ := h
  obtain ⟨ans, out, s1, hi, ⟨_, _, hec, _⟩, _⟩ := interp_ok (W := W) _ _ (allLeaves_true (E.sslWrite s.e rest)) s
  have hp : ¬ (C.asserts ∧ ¬ (s.g.pendingSend = [] ∨ s.g.pendingSend.length = rest.length)) :=
    fun hc => hc.2 (hpend.imp id (congrArg List.length))
  -- the call is logged
  have hlog : (noteCall E s1 false rest ans).g.engCalls
      = (cs ++ [EngCall.mk false rest ans (E.initFinished s1.e)]).reverse ++ old := by
    simp only [noteCall, List.reverse_append, List.reverse_cons, List.reverse_nil, List.nil_append, List.cons_append]
    rw [show s1.g.engCalls = s.g.engCalls from hec, hcalls]
  have hchain' : WriteChain data (cs ++ [EngCall.mk false rest ans (E.initFinished s1.e)]) (afterAns ans rest) :=
    WriteChain.snoc (EngCall.mk false rest ans (E.initFinished s1.e)) hchain rfl rfl
  cases ans with
  | done k =>
    rw [writeRound_done_eq hp hi]
    rcases writeDone_cases C i' rest k (setPending (noteCall E s1 false rest (.done k)) []) with ⟨_, hc⟩ | hc | hc <;>
      rw [hc] <;> refine ⟨fun o s' heq => ?_, fun j r s' heq => ?_⟩ <;> cases heq
    · exact ⟨_, hlog, hchain', Or.inl rfl⟩
    · exact ⟨_, hlog, hchain', Or.inl rfl⟩
    · exact ⟨_, _, hlog, hchain', (by intro r hr; cases hr), by simp [pendingAssert]⟩
  | _ =>
    rw [writeRound_retry_eq hp hi rfl]
    exact writeRetry_chain C data old i' rest _ _ _ hlog hchain' rfl

/-- **tlsWrite_retry_same_data**.  For every engine, world and starting state in which the caller
respects the retry rule (`pendingSend` is empty, or he passes the buffer that is pending):
* every `ssl_write` call of this `Write(data)` is handed exactly the then-unsent suffix of `data`
  (`WriteChain`): after `want_read`/`want_write` the *same bytes* are passed again - the retry
  contract of `SSL_write`, and what the `assert` at socket_tls_impl.cpp:393 demands;
* that assert never fires;
* on return `pendingSend` is empty or equals the unsent remainder `data.drop n`, so a caller who
  retries with the remainder (as the API requires) respects the rule again. -/
theorem tlsWrite_retry_same_data {W : World ω} (C : Cfg) (E : Engine σ) (s : St σ ω) (data : Bytes)
    (hp : s.g.pendingSend = [] ∨ s.g.pendingSend = data) :
    ∃ cs rest, (tlsWrite C W E s data).2.g.engCalls = cs.reverse ++ s.g.engCalls ∧ WriteChain data cs rest ∧
      (∀ n, (tlsWrite C W E s data).1 = .ok n →
        n = data.length - rest.length ∧ rest = data.drop n ∧
        ((tlsWrite C W E s data).2.g.pendingSend = [] ∨ (tlsWrite C W E s data).2.g.pendingSend = data.drop n)) ∧
      (tlsWrite C W E s data).1 ≠ .abort pendingAssert := by
  obtain ⟨hps, hec, _, hna⟩ := handleLastError_keeps (W := W) s
  unfold tlsWrite
  rcases hh : handleLastError W s with ⟨(_|_)|e|m, s0⟩ <;> rw [hh] at hps hec hna
  · refine ⟨[], data, by simpa using hec, .nil, ?_, by simp⟩
    intro n hn
    cases hn
    simp only [Nat.sub_self, List.drop_zero, true_and]
    rw [hps]; exact hp
  · simp only
    have hinv : WInv data s.g.engCalls data s0 := ⟨[], by simpa using hec, .nil, by rw [hps]; exact hp⟩
    have hpost := writeLoop_rule C W E (fun _ => WInv data s.g.engCalls) (WPost data s.g.engCalls)
      (by intro i rest s h _
          obtain ⟨cs, h1, h2, h3⟩ := h
          exact ⟨cs, rest, h1, h2, by intro r hr; cases hr; exact ⟨rfl, h3⟩, by simp⟩)
      (by intro i' rest s o s' h _ heq; exact (writeRound_chain C E data _ i' rest s h).1 o s' heq)
      (by intro i' rest s j rest' s' h _ heq; exact (writeRound_chain C E data _ i' rest s h).2 j rest' s' heq)
      C.stepsMax data s0 hinv
    rcases hl : writeLoop C W E C.stepsMax data s0 with ⟨o, s'⟩
    rw [hl] at hpost
    obtain ⟨cs, rest, h1, h2, h3, h4⟩ := hpost
    cases o with
    | ok r =>
      obtain ⟨hr, hpd⟩ := h3 r rfl
      subst hr
      refine ⟨cs, r, h1, h2, ?_, by simp⟩
      intro n hn
      simp only [Out.ok.injEq] at hn
      have hre := h2.rest_eq
      have hlen : r.length = data.length - consumed cs := by rw [hre]; simp
      have hdrop : r = data.drop n := by
        rw [← hn, hlen, hre]
        by_cases hc : consumed cs ≤ data.length
        · congr 1; omega
        · rw [List.drop_eq_nil_of_le (by omega), List.drop_eq_nil_of_le (by omega)]
      exact ⟨hn.symm, hdrop, by rw [← hdrop]; exact hpd⟩
    | exn e => exact ⟨cs, rest, h1, h2, (by intro n hn; cases hn), by simp⟩
    | abort m => exact ⟨cs, rest, h1, h2, (by intro n hn; cases hn), by simpa using h4⟩
  · exact ⟨[], data, by simpa using hec, .nil, (by intro n hn; cases hn), by simp⟩
  · exact absurd rfl (hna m)

/-- **tlsWrite_count**: the count `Write` returns is the number of plaintext bytes the engine
reported as written by its `done` answers (capped at the size of the buffer, which a well-formed
engine never exceeds), never more than the buffer - so the sum over retries is exact. -/
theorem tlsWrite_count {W : World ω} (C : Cfg) (E : Engine σ) (s : St σ ω) (data : Bytes)
    (hp : s.g.pendingSend = [] ∨ s.g.pendingSend = data) (n : Nat) (h : (tlsWrite C W E s data).1 = .ok n) :
    n ≤ data.length ∧
    ∃ cs, (tlsWrite C W E s data).2.g.engCalls = cs.reverse ++ s.g.engCalls ∧ n = min (consumed cs) data.length := by
  obtain ⟨cs, rest, h1, h2, h3, _⟩ := tlsWrite_retry_same_data C E s data hp
  obtain ⟨hn, _, _⟩ := h3 n h
  refine ⟨by omega, cs, h1, ?_⟩
  rw [hn, h2.rest_eq]
  simp only [List.length_drop]
  omega

/-! ## `Read`: bounds -/

/-- A-SSL: `SSL_read(n)` that succeeds hands out between 1 and `n` bytes -/
def ReadSized (E : Engine σ) : Prop :=
  ∀ s n, AllLeaves (fun a o _ => ∀ k, a = .done k → o.length = k ∧ 1 ≤ k ∧ k ≤ n) (E.sslRead s n)

/-- **tlsRead_bounds**: a `Receive` that reports data reports between 1 and `size` bytes - never a
zero-length success; "nothing" (`[]` = `std::nullopt` / handshake only) is the only other normal result -/
theorem tlsRead_bounds {W : World ω} (C : Cfg) (E : Engine σ) (hE : ReadSized E) (s s' : St σ ω) (size : Nat) (bs : Bytes) :
    (∀ t, receiveT C W E s size t = (.ok bs, s') → bs = [] ∨ (1 ≤ bs.length ∧ bs.length ≤ size)) ∧
    (receiveReadable C W E s size = (.ok bs, s') → bs = [] ∨ (1 ≤ bs.length ∧ bs.length ≤ size)) := by
  have key : (∃ k rest, (∀ k', SslAns.done k = .done k' → bs.length = k' ∧ 1 ≤ k' ∧ k' ≤ size) ∧
      s'.g.engCalls = ⟨true, [], .done k, E.initFinished s'.e⟩ :: rest) → 1 ≤ bs.length ∧ bs.length ≤ size := by
    intro ⟨k, _, hk, _⟩
    obtain ⟨h1, h2, h3⟩ := hk k rfl
    omega
  constructor
  · intro t h
    by_cases hbs : bs = []
    · exact Or.inl hbs
    · exact Or.inr (key (Spec.receiveT_done C E _ size (fun s => hE s size) s s' t bs hbs h))
  · intro h
    by_cases hbs : bs = []
    · exact Or.inl hbs
    · exact Or.inr (key (Spec.receiveReadable_done C E _ size (fun s => hE s size) s s' bs hbs h))

/-! ## after the handshake the TLS socket behaves like the plain one (what C01/C07 need):
the three repairs, each with the pre-fix variant refuted -/

/-- (319faf2) A `Receive` that finds no user data within its timeout on an established connection
leaves no cached WANT_READ behind: the next `Send` goes straight to the engine instead of first
waiting for the socket to become readable. -/
theorem receive_leaves_no_stale_want_read {W : World ω} (C : Cfg) (hfix : C.fixRecvReset = true) (E : Engine σ)
    (s s' : St σ ω) (size : Nat) (t : Int) (h : receiveT C W E s size t = (.ok [], s'))
    (hinit : E.initFinished s'.e = true) : s'.g.lastError ≠ .wantRead := by
  unfold receiveT at h
  split at h
  · rename_i s1 heq
    split at h
    · simp at h
    · split at h
      · simp only [Prod.mk.injEq, true_and] at h
        subst h; simp [setLastError]
      · rename_i hc
        simp only [Prod.mk.injEq, true_and] at h
        subst h
        intro hl
        exact hc ⟨hfix, hl, hinit⟩
  · rename_i hne
    exact absurd h (hne s')

/-- (ee81033) the mirror image for `Send`: on an established connection a `Send` that could not
write everything within its timeout leaves no cached WANT_WRITE behind, so the next `Receive` reads
what is there instead of first waiting for the socket to become writable. -/
theorem send_leaves_no_stale_want_write {W : World ω} (C : Cfg) (hfix : C.fixSendReset = true) (E : Engine σ)
    (s s' : St σ ω) (data : Bytes) (t : Int) (n : Nat) (h : sendT C W E s data t = (.ok n, s'))
    (hinit : E.initFinished s'.e = true) : s'.g.lastError ≠ .wantWrite := by
  unfold sendT at h
  split at h
  · rename_i n1 s1 heq
    split at h
    · simp only [Prod.mk.injEq] at h
      obtain ⟨_, rfl⟩ := h; simp [setLastError]
    · rename_i hc
      simp only [Prod.mk.injEq] at h
      obtain ⟨_, rfl⟩ := h
      intro hl
      exact hc ⟨hfix, hl, hinit⟩
  · rename_i hne
    exact absurd h (hne n s')

/-- A-SSL for a blocking write: every `ssl_write` makes progress -/
def WriteProgress (E : Engine σ) : Prop :=
  ∀ s d, AllLeaves (fun a _ _ => ∃ k, a = .done k ∧ 0 < k) (E.sslWrite s d)

/-- (e3dfab5) However many records a buffer needs: as long as every `ssl_write` makes progress
(which is what OpenSSL does under an unlimited timeout, where the BIO callbacks block), `Write`
ends with the whole buffer taken (result `data.length`) or with an exception - the round limit
`handshakeStepsMax` no longer cuts a long `Send` short, and its `assert` does not fire. -/
theorem tlsWrite_complete {W : World ω} (C : Cfg) (hfix : C.fixRoundReset = true) (hpos : 0 < C.stepsMax)
    (E : Engine σ) (hE : WriteProgress E) (s : St σ ω) (data : Bytes)
    (hl : s.g.lastError = .none) (hp : s.g.pendingSend = [] ∨ s.g.pendingSend = data) :
    (∃ s', tlsWrite C W E s data = (.ok data.length, s')) ∨ (∃ e s', tlsWrite C W E s data = (.exn e, s')) := by
  have h1 := writeLoop_complete (W := W) C hfix hpos E hE (setLastError s .none) data hp
  rcases hw : writeLoop C W E C.stepsMax data (setLastError s .none) with ⟨o, s'⟩
  rw [hw] at h1
  cases h1
  exact Or.inl ⟨s', by simp [tlsWrite, handleLastError_none s hl, hw]⟩

/-! ### the pre-fix variants violate these statements (kept so that the defects cannot return unnoticed;
the same histories are replayed on the implementation by the polling schedules of the harness) -/

/-- an engine with an established connection and nothing to read; writes are buffered inside
the engine one byte per call (a legal, if slow, behaviour under SSL_MODE_ENABLE_PARTIAL_WRITE) -/
def idleEngine : Engine Unit where
  sslRead _ _ := .ret .wantRead [] ()
  sslWrite _ _ := .ret (.done 1) [] ()
  initFinished _ := true

/-- a healthy, silent peer: never readable, always writable -/
def quietWorld : Script := { dead := false }

/-- **F7, pre-319faf2.**  History: established connection; `Receive(buf, n, 0)` finds nothing;
`Send([1,2,3], T)`.  The pre-fix glue leaves WANT_READ cached and the `Send` returns 0 without ever
calling the engine although the socket is writable - with `T = -1` it would wait for *readable*
forever.  (Contradicts `receive_leaves_no_stale_want_read`, which holds for the current code.) -/
theorem legacy_recv_reset_violates :
    let C := Cfg.legacyRecvReset
    let s0 : St Unit Script := { g := {}, e := (), w := quietWorld }
    let s1 := (receiveT C Script.world idleEngine s0 100 0).2
    (receiveT C Script.world idleEngine s0 100 0).1 = .ok [] ∧
    s1.g.lastError = .wantRead ∧
    (sendT C Script.world idleEngine s1 [1, 2, 3] 0).1 = .ok 0 ∧
    (sendT C Script.world idleEngine s1 [1, 2, 3] 0).2.g.engCalls.length = s1.g.engCalls.length := by
  decide

/-- an engine whose write BIO is congested: `ssl_write` wants to write -/
def congestedEngine : Engine Unit where
  sslRead _ _ := .ret (.done 3) [7, 8, 9] ()
  sslWrite _ _ := .ret .wantWrite [] ()
  initFinished _ := true

/-- a peer that has sent data but does not drain ours: readable, not writable -/
def fullWorld : Script := { dead := false, waits := [⟨false, 0⟩, ⟨false, 0⟩, ⟨false, 0⟩, ⟨false, 0⟩] }

/-- **F10, pre-ee81033.**  History: established connection whose send buffer is full;
`Send([1,2,3], 0)` cannot write (returns 0); then `Receive(buf, 100, 0)` although the engine has three
bytes of user data ready.  The pre-fix glue leaves WANT_WRITE cached and the `Receive` returns nothing
without ever calling the engine, because it first waits for the socket to become *writable* - two
peers in this state never drain each other.  (Contradicts `send_leaves_no_stale_want_write`.) -/
theorem legacy_send_reset_violates :
    let C := Cfg.legacySendReset
    let s0 : St Unit Script := { g := {}, e := (), w := fullWorld }
    let s1 := (sendT C Script.world congestedEngine s0 [1, 2, 3] 0).2
    (sendT C Script.world congestedEngine s0 [1, 2, 3] 0).1 = .ok 0 ∧
    s1.g.lastError = .wantWrite ∧
    (receiveT C Script.world congestedEngine s1 100 0).1 = .ok [] ∧
    (receiveT C Script.world congestedEngine s1 100 0).2.g.engCalls.length = s1.g.engCalls.length := by
  have hs : sendT Cfg.legacySendReset Script.world congestedEngine { g := {}, e := (), w := fullWorld } [1, 2, 3] 0
      = (.ok 0, { g := { lastError := .wantWrite, pendingSend := [1, 2, 3],
                         engCalls := [⟨false, [1, 2, 3], .wantWrite, true⟩] },
                  e := (),
                  w := { fullWorld with waits := [⟨false, 0⟩, ⟨false, 0⟩, ⟨false, 0⟩],
                                        calls := [.wait .wr 0 false] } }) := by
    simp [sendT, tlsWrite, handleLastError, handleError, setTimeout, setLastError, Cfg.legacySendReset, Cfg.current,
      stepsMaxConst, SockModel.Consts.handshakeStepsMax, writeLoop, writeRound, writeRetry, interp, congestedEngine,
      noteCall, setPending, handleResult, SslAns.toErr, waitUnder, Script.world, fullWorld, underDeadline]
  simp only [hs]
  decide

/-- **F9, pre-e3dfab5.**  An engine that takes one byte per `ssl_write` (any engine that needs more than
`handshakeStepsMax` successful partial writes for the buffer - OpenSSL does for more than 9 records of
16 KiB): the pre-fix loop counts successful writes as handshake rounds and stops after `stepsMax` of
them.  In the NDEBUG build `Send(data, -1)` returns `stepsMax` although every call made progress
(contradicts `tlsWrite_complete`); in the build with asserts it aborts instead. -/
theorem legacy_round_limit_violates {W : World ω} (C : Cfg) (hfix : C.fixRoundReset = false) (hna : C.asserts = false)
    (s : St Unit ω) (hl : s.g.lastError = .none) (data : Bytes) :
    (tlsWrite C W idleEngine s data).1 = .ok (min C.stepsMax data.length) := by
  have loop : ∀ i rest (s0 : St Unit ω), (writeLoop C W idleEngine i rest s0).1 = .ok (rest.drop i) := by
    intro i
    induction i with
    | zero => intro rest s0; unfold writeLoop; simp
    | succ i' ih =>
      intro rest s0
      unfold writeLoop
      split
      · rename_i h0; simp [h0]
      · rename_i hne
        have hr : writeRound C W idleEngine i' rest s0
            = (.again i' (rest.drop 1), setPending (noteCall idleEngine s0 false rest (.done 1)) []) := by
          simp [writeRound, hna, hfix, idleEngine, interp]
        rw [hr]
        simp only
        have hdec : roundDecreases rest i' (rest.drop 1) i' := by
          left
          have : 0 < rest.length := List.length_pos_iff.mpr hne
          simp only [List.length_drop]; omega
        rw [dif_pos hdec, ih]
        simp
  unfold tlsWrite handleLastError
  rw [hl]
  simp only [handleError]
  have h1 := loop C.stepsMax data (setLastError s .none)
  rcases hw : writeLoop C W idleEngine C.stepsMax data (setLastError s .none) with ⟨o, s'⟩
  rw [hw] at h1
  simp only at h1
  subst h1
  simp only [List.length_drop, Out.ok.injEq]
  omega

example : WriteProgress idleEngine := by
  intro s d; exact .ret ⟨1, rfl, by decide⟩

end SockModel.Tls

/-! ## "the handshake ... completes for every combination of sync/async endpoints, timeout modes and order of calls"

FULL STATEMENT (not proved; DESIGN §5 C18):

  theorem handshake_completes : for every pairing of {sync, async} endpoints, every timeout mode on each side
  (unlimited, zero, limited), every order in which the two sides first send or receive, every segmentation of the
  flights on the wire and every behaviour of the kernel's send buffers (partial / refused writes), after finitely many
  calls / driver steps of a fair schedule both engines are `init_finished`, and thereafter `tlsRead`/`tlsWrite`
  refine the plain `receive`/`send` (so that C01, C02, C03, C07, C15 hold unchanged).

PROVED below: `handshake_completes_partial` - the restriction to
  * both endpoints **synchronous**, every call with **timeout 0**,
  * the **round-robin polling schedule** `[c.Send(dc,0), s.Receive(n,0), s.Send(ds,0), c.Receive(n,0)]` (the call
    shape on which the pre-319faf2 / pre-ee81033 code stalled after the handshake),
  * the **reference engine** `Hs.engine` (three flights of arbitrary positive sizes `k1 k2 k3`),
  * a **healthy channel**: two FIFO byte counters, every write accepted in full, reads cut by an arbitrary
    segmentation oracle (any list of cut points),
for the REAL glue model (`Tls.sendT` / `Tls.receiveT` with their retry loops, `HandleLastError` gating, `pendingSend`
rule - not a simplification), any `Cfg` with at least two handshake rounds (in particular the current code and all
three legacy variants: the repairs concern the payload phase, see the `legacy_*_violates` theorems above).
Also proved (section "handshake completion beyond the polling schedule" of this file, from `Props/C18Hs.lean`): every
fair schedule of zero-timeout calls, per-call timeouts `T ≥ 0`, one side blocking with an unlimited timeout, an
asynchronous endpoint with a polling peer.  Resting on the exhaustive
implementation matrix of `./check C18` only: async/async pairings, an asynchronous endpoint with a blocking peer, both
sides blocking, concurrency finer than one call, short / refused writes, and the agreement of `Hs.engine` with OpenSSL. -/
namespace SockModel.Hs
open SockModel.Net SockModel.Tls

/-- (a) progress: one round of the polling schedule keeps the invariant, never increases the measure
`mu` = work left on both sides, and strictly decreases it while the handshake is unfinished; stages only advance. -/
theorem round_progress (C : Cfg) (hC : 1 < C.stepsMax) (P : HsP) (dc ds : Bytes) (hdc : dc ≠ []) (hds : ds ≠ [])
    (n : Nat) (hn : 1 ≤ n) (y : Sys) (hinv : SysInv P dc ds y) :
    SysInv P dc ds (y.round C P dc ds n) ∧ mu P (y.round C P dc ds n) ≤ mu P y ∧
    (¬ y.bothFinished → mu P (y.round C P dc ds n) < mu P y) ∧
    y.ec.stage ≤ (y.round C P dc ds n).ec.stage ∧ y.es.stage ≤ (y.round C P dc ds n).es.stage := by
  have e : y.round C P dc ds n = Sys.run C P dc ds (C18Hs.pollRound n) y := rfl
  have hok : ∀ a ∈ C18Hs.pollRound n, a.ok := by
    intro a ha
    simp only [C18Hs.pollRound, List.mem_cons, List.not_mem_nil, or_false] at ha
    rcases ha with rfl | rfl | rfl | rfl <;> first | trivial | exact hn
  obtain ⟨h1, h2, h3, h4⟩ := run_spec C hC P dc ds hdc hds _ y hinv hok
  rw [e]
  refine ⟨h1, by omega, fun hnf => ?_, h3, h4⟩
  have : mu P (Sys.run C P dc ds (C18Hs.pollRound n) y) < mu P y :=
    (sysTS C hC P dc ds hdc hds).block_progress _ y hinv hok
      ⟨⟨.cSend, List.mem_cons_self .., rfl⟩, ⟨.sSend, by simp [C18Hs.pollRound], rfl⟩⟩ hnf
  omega

/-- `k` rounds: the measure falls by `k` unless the handshake is finished, and finished stays finished -/
theorem rounds_progress (C : Cfg) (hC : 1 < C.stepsMax) (P : HsP) (dc ds : Bytes) (hdc : dc ≠ []) (hds : ds ≠ [])
    (n : Nat) (hn : 1 ≤ n) : ∀ (k : Nat) (y : Sys), SysInv P dc ds y →
      SysInv P dc ds (Sys.rounds C P dc ds n k y) ∧
      ((Sys.rounds C P dc ds n k y).bothFinished ∨ mu P (Sys.rounds C P dc ds n k y) + k ≤ mu P y) ∧
      (y.bothFinished → (Sys.rounds C P dc ds n k y).bothFinished) := by
  intro k
  induction k with
  | zero => intro y h; exact ⟨h, Or.inr (by simp [Sys.rounds]), fun h => h⟩
  | succ k ih =>
    intro y h
    obtain ⟨r1, r2, r3, r4, r5⟩ := round_progress C hC P dc ds hdc hds n hn y h
    obtain ⟨j1, j2, j3⟩ := ih _ r1
    have keep : y.bothFinished → (y.round C P dc ds n).bothFinished := by
      intro hb; exact ⟨by have := hb.1; omega, by have := hb.2; omega⟩
    refine ⟨j1, ?_, fun hb => j3 (keep hb)⟩
    simp only [Sys.rounds]
    rcases j2 with j2 | j2
    · exact Or.inl j2
    · by_cases hb : y.bothFinished
      · exact Or.inl (j3 (keep hb))
      · right; have := r3 hb; omega

/-- **handshake_completes_partial** (restriction: both endpoints synchronous, timeout 0, round-robin polling
schedule, reference engine, healthy channel - see the section comment for the full statement).
For all flight sizes, all payloads (non-empty), all receive sizes ≥ 1, **every segmentation** of the wire, and every
glue configuration with at least two handshake rounds: after at most `2·(k1+k2+k3+3)` rounds of
`[c.Send(dc,0), s.Receive(n,0), s.Send(ds,0), c.Receive(n,0)]` - and after any larger number - both engines are
`init_finished`, and (b) **no call on the way threw or hit an assert** (`faults = 0`). -/
theorem handshake_completes_partial (C : Cfg) (hC : 1 < C.stepsMax) (P : HsP) (dc ds : Bytes) (hdc : dc ≠ [])
    (hds : ds ≠ []) (n : Nat) (hn : 1 ≤ n) (segs : List Nat) (m : Nat) (hm : 2 * (P.k1 + P.k2 + P.k3 + 3) ≤ m) :
    (Sys.rounds C P dc ds n m (Sys.init P segs)).bothFinished ∧
    (Sys.rounds C P dc ds n m (Sys.init P segs)).faults = 0 := by
  obtain ⟨h1, h2, _⟩ := rounds_progress C hC P dc ds hdc hds n hn m _ (sysInv_init P dc ds segs)
  refine ⟨?_, h1.2.2.2.2.2.2⟩
  rcases h2 with h2 | h2
  · exact h2
  · rw [mu_init, HsP.total] at h2
    exact mu_zero_fin P _ (by omega)

/-! ### after the handshake: the polling call order keeps working (current code), and stalls for ever before 319faf2 -/

/-- "... after which C01 ... hold unchanged", for the call order that exposed F7: on an established connection
(reference engine finished), a `Receive(n, 0)` that finds nothing followed by `Send(data, 0)` hands the **whole
buffer** to the engine - with the current code (319faf2 in), for every state the composition can be in. -/
theorem send_after_idle_receive_flows (C : Cfg) (hC : 1 < C.stepsMax) (hfix : C.fixRecvReset = true) (P : HsP)
    (r : Bool) (data : Bytes) (hd : data ≠ []) (n : Nat) (hn : 1 ≤ n) (s : St Hs Chan) (hi : SideInv P r data s)
    (hfin : 3 ≤ s.e.stage) (s1 : St Hs Chan) (hrecv : receiveT C (chanWorld r) (engine P) s n 0 = (.ok [], s1)) :
    ∃ s2, sendT C (chanWorld r) (engine P) s1 data 0 = (.ok data.length, s2) := by
  have hres := recv_spec C (by omega) P r data n hn s hi
  simp only [callOn, hrecv] at hres
  obtain ⟨_, hside, ht, _⟩ := hres
  have hfin1 : 3 ≤ s1.e.stage := by have := ht.st; simp only at this; omega
  have hne := receive_leaves_no_stale_want_read C hfix (engine P) s s1 n 0 hrecv (by simp [engine, hfin1])
  have hle : s1.g.lastError = .none := by
    rcases hside.2.2.2.2.2.1 with h | h
    · exact h
    · exact absurd h hne
  obtain ⟨s2, h2, _⟩ := send_flows C hC P r data hd s1 hside hfin1 hle
  exact ⟨s2, h2⟩

/-- the state in which the pre-319faf2 code ends up on the polling schedule: both engines finished, both channels
empty, and both endpoints with WANT_READ cached (left behind by the `Receive` that completed the handshake and then
found no user data).  It is reached in round 2: round 1 `c.Send` writes C1 and waits for S1; `s.Receive` reads C1,
writes S1, waits for C2; `s.Send` is gated; `c.Receive` reads S1, writes C2, is finished, finds no data - WANT_READ;
round 2 `c.Send` is gated; `s.Receive` reads C2, is finished, finds no data - WANT_READ. -/
def Stalled (P : HsP) (dc ds : Bytes) (y : Sys) : Prop :=
  SysInv P dc ds y ∧ y.bothFinished ∧ y.ch.cs = 0 ∧ y.ch.sc = 0 ∧
  y.gc.lastError = .wantRead ∧ y.gs.lastError = .wantRead

theorem stalled_step (C : Cfg) (hleg : C.fixRecvReset = false) (P : HsP) (dc ds : Bytes) (n : Nat) (y : Sys)
    (h : Stalled P dc ds y) (client : Bool) (c : Call) (hc : c = .send (ownPay client dc ds) ∨ c = .recv n) :
    Stalled P dc ds (y.step C P client c) := by
  obtain ⟨hinv, hb, hcs, hsc, hlc, hls⟩ := h
  have hat := (sysInv_at P dc ds y client).mp hinv
  have hl : (y.side client).g.lastError = .wantRead := by cases client <;> assumption
  have hin : (y.side client).w.inb client = 0 := by cases client <;> assumption
  obtain ⟨s', hcall, hi', hee, hw, hl'⟩ : ∃ s', callOn C P client (y.side client) c = (true, s') ∧
      SideInv P client (ownPay client dc ds) s' ∧ s'.e = (y.side client).e ∧ s'.w = (y.side client).w ∧
      s'.g.lastError = .wantRead := by
    rcases hc with rfl | rfl
    · obtain ⟨s', e, r⟩ := gated_send C P client (ownPay client dc ds) _ hat.1 hl hin
      exact ⟨s', by simp only [callOn, e, isOk], r⟩
    · obtain ⟨s', e, r⟩ := gated_recv_legacy C hleg P client (ownPay client dc ds) n _ hat.1 hl hin
      exact ⟨s', by simp only [callOn, e, isOk], r⟩
  rw [step_put, hcall]
  have hinv' : SysInv P dc ds (y.put client s' (y.faults + 0)) :=
    (sysInv_put P dc ds y client s' _).mpr
      (hat.move hi' (by rw [hee, hw]; exact Tr.refl P client _ _ hat.1.2.2.2.2.1))
  cases client
  · exact ⟨hinv', ⟨hb.1, by show 3 ≤ s'.e.stage; rw [hee]; exact hb.2⟩, by show s'.w.cs = 0; rw [hw]; exact hcs,
      by show s'.w.sc = 0; rw [hw]; exact hsc, hlc, hl'⟩
  · exact ⟨hinv', ⟨by show 3 ≤ s'.e.stage; rw [hee]; exact hb.1, hb.2⟩, by show s'.w.cs = 0; rw [hw]; exact hcs,
      by show s'.w.sc = 0; rw [hw]; exact hsc, hl', hls⟩

/-- (c) **the pre-319faf2 glue is refuted on the same schedule**: once it is in the `Stalled` state (reached in
round 2, see there), every further round of `[c.Send(dc,0), s.Receive(n,0), s.Send(ds,0), c.Receive(n,0)]` leaves it
there: the handshake is complete on both sides, both sides call `Send` with a non-empty buffer in every round, and not
a single payload byte ever enters a channel - the measure "payload still to deliver" stops decreasing for ever.
(With 319faf2 the state is unreachable - `receive_leaves_no_stale_want_read` - and `send_after_idle_receive_flows`
shows the `Send` going through.) -/
theorem legacy_polling_schedule_stalls (C : Cfg) (hleg : C.fixRecvReset = false) (P : HsP) (dc ds : Bytes) (n : Nat) :
    ∀ (m : Nat) (y : Sys), Stalled P dc ds y →
      Stalled P dc ds (Sys.rounds C P dc ds n m y) ∧
      (Sys.rounds C P dc ds n m y).ch.cs = 0 ∧ (Sys.rounds C P dc ds n m y).ch.sc = 0 := by
  intro m
  induction m with
  | zero => intro y h; exact ⟨h, h.2.2.1, h.2.2.2.1⟩
  | succ m ih =>
    intro y h
    have h1 := stalled_step C hleg P dc ds n y h true (.send dc) (Or.inl rfl)
    have h2 := stalled_step C hleg P dc ds n _ h1 false (.recv n) (Or.inr rfl)
    have h3 := stalled_step C hleg P dc ds n _ h2 false (.send ds) (Or.inl rfl)
    have h4 := stalled_step C hleg P dc ds n _ h3 true (.recv n) (Or.inr rfl)
    exact ih _ h4

/-- the smallest instance: three flights of one byte each -/
def tinyP : HsP := ⟨1, 1, 1, by decide, by decide, by decide⟩

/-- the `Stalled` state IS reached by the pre-319faf2 glue: two rounds of the polling schedule from the initial
state (evaluated for the smallest instance; the trace in the docstring of `Stalled` is independent of the flight
sizes) -/
theorem legacy_stall_state_reached :
    Stalled tinyP [1] [2] (Sys.rounds Cfg.legacyRecvReset tinyP [1] [2] 4 2 (Sys.init tinyP [])) := by
  refine ⟨(rounds_progress Cfg.legacyRecvReset (by decide) tinyP [1] [2] (by decide) (by decide) 4 (by decide) 2 _
    (sysInv_init tinyP [1] [2] [])).1, ?_⟩
  -- `writeLoop` is defined by well-founded recursion and does not evaluate; only the first `c.Send` enters it (all
  -- later sends are gated by a cached WANT_READ), and its first round ends the loop.
  have hw : writeLoop Cfg.legacyRecvReset (chanWorld true) (engine tinyP) Cfg.legacyRecvReset.stepsMax [1]
      ⟨{}, Hs.init tinyP true, {}⟩ = (.ok [1],
        ⟨{ lastError := .wantRead, pendingSend := [1], wire := [0], bioWrites := [⟨[0], 1⟩],
           engCalls := [⟨false, [1], .wantRead, false⟩] }, ⟨true, 1, 1⟩, { cs := 1 }⟩) :=
    writeLoop_stop (i' := Cfg.legacyRecvReset.stepsMax - 1) (by decide) rfl
  have h1 : (Sys.init tinyP []).step Cfg.legacyRecvReset tinyP true (.send [1]) =
      { gc := { lastError := .wantRead, pendingSend := [1], wire := [0], bioWrites := [⟨[0], 1⟩],
                engCalls := [⟨false, [1], .wantRead, false⟩] },
        ec := ⟨true, 1, 1⟩, es := Hs.init tinyP false, ch := { cs := 1 } } := by
    have hg : handleLastError (chanWorld true) (setTimeout (⟨{}, Hs.init tinyP true, {}⟩ : St Hs Chan) 0)
        = (.ok true, ⟨{}, Hs.init tinyP true, {}⟩) := rfl
    simp only [Sys.step, if_true, callOn, Sys.init, sendT, tlsWrite, hg, hw]
    rfl
  simp only [Sys.bothFinished, Sys.rounds, Sys.round, h1]
  decide

/-- **F7 in the composed system** (pre-319faf2): the handshake completes in two rounds of the polling schedule, and
from then on - for every number `m` of further rounds - both channels stay empty: neither `Send([1])` of the client
nor `Send([2])` of the server ever gets a byte out.  The same schedule with the current code delivers
(`send_after_idle_receive_flows`). -/
theorem legacy_recv_reset_stalls_composition (m : Nat) :
    let y2 := Sys.rounds Cfg.legacyRecvReset tinyP [1] [2] 4 2 (Sys.init tinyP [])
    y2.bothFinished ∧ (Sys.rounds Cfg.legacyRecvReset tinyP [1] [2] 4 m y2).ch.cs = 0 ∧
    (Sys.rounds Cfg.legacyRecvReset tinyP [1] [2] 4 m y2).ch.sc = 0 := by
  intro y2
  have h := legacy_stall_state_reached
  have := legacy_polling_schedule_stalls Cfg.legacyRecvReset rfl tinyP [1] [2] 4 m y2 h
  exact ⟨h.2.1, this.2.1, this.2.2⟩

/-- `handshake_completes_partial` and the theorems of `Props/C18Hs.lean` apply to the code as it is (`handshakeStepsMax` as
extracted from the source on this run) -/
example : 1 < Cfg.current.stepsMax := by decide

end SockModel.Hs

/-! ## C07 for the TLS glue: the timeout budget

"... with T < 0 it returns only with a result, never 'nothing'; with T = 0 it never blocks; with T > 0 it ...
blocks no longer than T in total, however many internal waits, partial sends or TLS handshake rounds it needs"
(C07), which C18 demands "unchanged" of TLS sockets - for `Receive(timeout)` / `Send(timeout)` of the TLS glue,
the handshake rounds that run inside them included.

"Every wait issued during the call" is read off the **logging world** `logWorld W` (Model/TlsLog.lean): any
world `W`, wrapped so that each `wait` is recorded (`WaitRec`: direction, timeout argument, clock when issued).
`logging_is_transparent`: the wrapper changes nothing the model does.  The theorems quantify over every
configuration `C` (round limit, asserts on/off, the legacy variants), every world `W`, every engine `E` (any
interaction tree), every starting state `s` (any `lastError`, flags, `pendingSend`, log so far) and every
buffer/size, unless a hypothesis says otherwise.  Hypotheses used, and only where stated:
* `ZeroFree W` / `ClockOk W` (A-CLOCK) and `UnlimitedReady W` (A-POLL) - about the world (Model/TlsBudget.lean);
* `Engine.FailStop E`, `BlockingRead E`, `WriteProgress E` (A-SSL) - about the engine; `FailStop` (both halves) and
  `BlockingRead` are shown to be needed by witnesses (`stale_budget_after_callback_failure`,
  `stale_budget_after_empty_write`, `unlimited_receive_needs_blocking_engine`). -/
namespace SockModel.Tls
open SockModel.Net

variable {σ ω : Type}

/-- logging does not change behaviour: the result of a call on the logging world is the result on the plain
world, and so is the state once the log is forgotten - for single calls and for whole histories -/
theorem logging_is_transparent (C : Cfg) (W : World ω) (E : Engine σ) (s : St σ ω) (l : List WaitRec) :
    (∀ n t, (receiveT C (logWorld W) E (withLog s l) n t).1 = (receiveT C W E s n t).1 ∧
            unlog (receiveT C (logWorld W) E (withLog s l) n t).2 = (receiveT C W E s n t).2) ∧
    (∀ d t, (sendT C (logWorld W) E (withLog s l) d t).1 = (sendT C W E s d t).1 ∧
            unlog (sendT C (logWorld W) E (withLog s l) d t).2 = (sendT C W E s d t).2) ∧
    (∀ ops, unlog (run C (logWorld W) E (withLog s l) ops) = run C W E s ops) :=
  ⟨fun n t => receiveT_unlog C W E (withLog s l) n t, fun d t => sendT_unlog C W E (withLog s l) d t,
   fun ops => run_unlog C W E (withLog s l) ops⟩

/-- **(T1) `T = 0`: "it never blocks".**  `Receive(…, 0)` and `Send(…, 0)` on a TLS socket issue only waits with
the argument 0 - in the glue's own `HandleError` waits, inside `BioRead` (`Receive(fd, …, 0)`) and inside `BioWrite`
(`SendTry`) - however many rounds and BIO calls the engine makes; the budget is still 0 afterwards; and in a world
where a zero wait, `send` and `recv` take no time, no time passes at all. -/
theorem tls_zero_never_blocks (C : Cfg) (W : World ω) (E : Engine σ) (s : LSt σ ω) :
    (∀ n, (receiveT C (logWorld W) E s n 0).2.g.remainingTime = 0 ∧
      (∃ new, logOf (receiveT C (logWorld W) E s n 0).2 = new ++ logOf s ∧ ∀ r ∈ new, r.timeout = 0) ∧
      (ZeroFree W → W.now (receiveT C (logWorld W) E s n 0).2.w.1 = W.now s.w.1)) ∧
    (∀ data, (sendT C (logWorld W) E s data 0).2.g.remainingTime = 0 ∧
      (∃ new, logOf (sendT C (logWorld W) E s data 0).2 = new ++ logOf s ∧ ∀ r ∈ new, r.timeout = 0) ∧
      (ZeroFree W → W.now (sendT C (logWorld W) E s data 0).2.w.1 = W.now s.w.1)) := by
  have F := zeroFrame (σ := σ) W E (logOf s) (W.now s.w.1)
  have h0 : ZeroInv W (logOf s) (W.now s.w.1) (setTimeout s 0) := ⟨rfl, LogAll.refl _, fun _ => rfl⟩
  exact ⟨fun n => post_same (F.receiveT C s n 0 h0), fun data => post_same (F.sendT C s data 0 h0)⟩

/-- **(T2a) `T < 0`: every wait is unlimited.**  With a negative timeout every wait issued has the argument `T`
itself (the glue's waits, `Receive(fd, …, T)`) or -1 (`SendAll`), and the budget is still `T` afterwards: no path
turns "as long as it takes" into a bounded wait. -/
theorem tls_unlimited_waits (C : Cfg) (W : World ω) (E : Engine σ) (s : LSt σ ω) (T : Int) (hT : T < 0) :
    (∀ n, (receiveT C (logWorld W) E s n T).2.g.remainingTime = T ∧
      ∃ new, logOf (receiveT C (logWorld W) E s n T).2 = new ++ logOf s ∧ ∀ r ∈ new, r.timeout = T ∨ r.timeout = -1) ∧
    (∀ data, (sendT C (logWorld W) E s data T).2.g.remainingTime = T ∧
      ∃ new, logOf (sendT C (logWorld W) E s data T).2 = new ++ logOf s ∧ ∀ r ∈ new, r.timeout = T ∨ r.timeout = -1) := by
  have F := unlFrame (σ := σ) W E T hT (logOf s)
  have h0 : UnlInv T (logOf s) (setTimeout s T) := ⟨rfl, LogAll.refl _⟩
  exact ⟨fun n => post_same (F.receiveT C s n T h0), fun data => post_same (F.sendT C s data T h0)⟩

/-- A-SSL for an unlimited budget: the BIO callbacks block until they have something (or throw), so `SSL_read`
never answers WANT_READ / WANT_WRITE, and a success hands out at least one byte -/
def BlockingRead (E : Engine σ) : Prop :=
  ∀ s n, AllLeaves (fun a o _ => a ≠ .wantRead ∧ a ≠ .wantWrite ∧ (a.isDone = true → o ≠ [])) (E.sslRead s n)

/-- **(T2b) `T < 0`: "it returns only with a result, never 'nothing'" - `Receive`.**  For every starting state
(whatever `lastError` an earlier call left behind): in a world whose unlimited waits only come back ready (A-POLL),
with an engine that does not answer WANT_READ / WANT_WRITE when its callbacks block (A-SSL, `BlockingRead`),
`Receive(…, T<0)` returns at least one byte or throws - never `nullopt`, and the `assert(timeout >= 0)` does not
fire.  What the model allows otherwise is `unlimited_receive_needs_blocking_engine`. -/
theorem tls_unlimited_receive_never_nothing (C : Cfg) (hpos : 0 < C.stepsMax) {W : World ω} (hW : UnlimitedReady W)
    (E : Engine σ) (hE : BlockingRead E) (s : St σ ω) (n : Nat) (T : Int) (hT : T < 0) :
    (∃ bs s', bs ≠ [] ∧ receiveT C W E s n T = (.ok bs, s')) ∨ (∃ e s', receiveT C W E s n T = (.exn e, s')) := by
  rcases handleLastError_unlimited hW (setTimeout s T) hT with ⟨s1, h1, _, _⟩ | ⟨e, s1, h1⟩
  · obtain ⟨i, hi⟩ : ∃ i, C.stepsMax = i + 1 := ⟨C.stepsMax - 1, by omega⟩
    obtain ⟨ans, out, s2, hint, _, hnr, hnw, hdone⟩ := interp_ok (W := W) _ _ (hE s1.e n) s1
    cases hd : ans.isDone with
    | true =>
      cases ans with
      | done k =>
        have hne := hdone rfl
        refine Or.inl ⟨out, noteCall E s2 true [] (.done k), hne, ?_⟩
        cases out with
        | nil => exact absurd rfl hne
        | cons b bs => simp only [receiveT, tlsRead, h1, hi, readLoop, readRound_done_eq hint]
      | _ => cases hd
    | false =>
      have hf : ans = .zeroReturn ∨ ans = .syscallErr ∨ ans = .sslErr := by
        cases ans with
        | done k => cases hd
        | wantRead => exact absurd rfl hnr
        | wantWrite => exact absurd rfl hnw
        | zeroReturn => exact Or.inl rfl
        | syscallErr => exact Or.inr (Or.inl rfl)
        | sslErr => exact Or.inr (Or.inr rfl)
      obtain ⟨e, s', hr⟩ := handleResult_fatal (W := W) (noteCall E s2 true [] ans) ans hf
      exact Or.inr ⟨e, s', by simp only [receiveT, tlsRead, h1, hi, readLoop, readRound_retry_eq hint hd, readRetry, hr]⟩
  · exact Or.inr ⟨e, s1, by simp only [receiveT, tlsRead, h1]⟩

/-- **(T2c) `T < 0`: "never 'nothing'" - `Send`.**  For every starting state that respects the retry rule: in a
world whose unlimited waits only come back ready, with an engine whose every `ssl_write` makes progress when its
callbacks block (`WriteProgress`, the A-SSL hypothesis of `tlsWrite_complete`), `Send(data, T<0)` reports the whole
buffer or throws - never a short count. -/
theorem tls_unlimited_send_complete (C : Cfg) (hfix : C.fixRoundReset = true) (hpos : 0 < C.stepsMax) {W : World ω}
    (hW : UnlimitedReady W) (E : Engine σ) (hE : WriteProgress E) (s : St σ ω) (data : Bytes)
    (hp : s.g.pendingSend = [] ∨ s.g.pendingSend = data) (T : Int) (hT : T < 0) :
    (∃ s', sendT C W E s data T = (.ok data.length, s')) ∨ (∃ e s', sendT C W E s data T = (.exn e, s')) := by
  rcases handleLastError_unlimited hW (setTimeout s T) hT with ⟨s1, h1, _, hps⟩ | ⟨e, s1, h1⟩
  · have h2 := writeLoop_complete (W := W) C hfix hpos E hE s1 data (by rw [hps]; exact hp)
    rcases hw : writeLoop C W E C.stepsMax data s1 with ⟨o, s'⟩
    rw [hw] at h2
    cases h2
    left
    simp only [sendT, tlsWrite, h1, hw, List.length_nil, Nat.sub_zero]
    split <;> exact ⟨_, rfl⟩
  · right; exact ⟨e, s1, by simp only [sendT, tlsWrite, h1]⟩

/-- **"must not turn timeout >= 0 into < 0"** (wait.h).  For `T ≥ 0`, in EVERY world - whatever its clock does,
backwards included - and for every engine: no wait is ever issued with a negative (= unlimited) argument, and the
budget left behind is non-negative. -/
theorem tls_budget_never_negative (C : Cfg) (W : World ω) (E : Engine σ) (s : LSt σ ω) (T : Int) (hT : 0 ≤ T) :
    (∀ n, 0 ≤ (receiveT C (logWorld W) E s n T).2.g.remainingTime ∧
      ∃ new, logOf (receiveT C (logWorld W) E s n T).2 = new ++ logOf s ∧ ∀ r ∈ new, 0 ≤ r.timeout) ∧
    (∀ data, 0 ≤ (sendT C (logWorld W) E s data T).2.g.remainingTime ∧
      ∃ new, logOf (sendT C (logWorld W) E s data T).2 = new ++ logOf s ∧ ∀ r ∈ new, 0 ≤ r.timeout) := by
  have F := nonnegFrame (σ := σ) W E (logOf s)
  have h0 : NonnegInv (logOf s) (setTimeout s T) := ⟨hT, LogAll.refl _⟩
  exact ⟨fun n => post_same (F.receiveT C s n T h0), fun data => post_same (F.sendT C s data T h0)⟩

/-- what a limited call guarantees, with `t0` the clock at entry: every wait issued has an argument `t` with
`0 ≤ t ≤ T - (clock at that wait - t0)`; the call returns no later than `t0 + T`; the budget left is non-negative;
no callback failure is left stashed; and unless the call ends with an exception the budget left is what is left
of `T` -/
def LimitedOk (W : World ω) (T : Int) (s : LSt σ ω) {α : Type} (r : Out α × LSt σ ω) : Prop :=
  (∃ new, logOf r.2 = new ++ logOf s ∧
    ∀ w ∈ new, 0 ≤ w.timeout ∧ w.timeout ≤ T - (w.before - W.now s.w.1)) ∧
  W.now r.2.w.1 ≤ W.now s.w.1 + T ∧
  0 ≤ r.2.g.remainingTime ∧
  r.2.g.pendingError = none ∧
  ((∃ e, r.1 = .exn e) ∨ r.2.g.remainingTime ≤ T - (W.now r.2.w.1 - W.now s.w.1))

theorem limitedOk_of_post {W : World ω} {T : Int} {s : LSt σ ω} {α : Type} {r : Out α × LSt σ ω}
    (h : Post (LimGood W (W.now s.w.1 + T) (logOf s)) (LimWeak W (W.now s.w.1 + T) (logOf s)) r.1 r.2) :
    LimitedOk W T s r := by
  have conv : ∀ l, LogAll (InBudget (W.now s.w.1 + T)) (logOf s) l →
      ∃ new, l = new ++ logOf s ∧ ∀ w ∈ new, 0 ≤ w.timeout ∧ w.timeout ≤ T - (w.before - W.now s.w.1) := by
    intro l ⟨new, h1, h2⟩
    refine ⟨new, h1, ?_⟩
    intro w hw
    obtain ⟨a, b⟩ := h2 w hw
    exact ⟨a, by omega⟩
  rcases h with ⟨h1, h2, h3, h4⟩ | ⟨⟨h1, h2, h3⟩, h4, e, he⟩
  · exact ⟨conv _ h3, by omega, h1, h4, Or.inr (by omega)⟩
  · exact ⟨conv _ h3, h2, h1, h4, Or.inl ⟨e, he⟩⟩

/-- **(T3) `T > 0`: "blocks no longer than T in total, however many internal waits, partial sends or TLS handshake
rounds it needs".**  Under A-CLOCK (`ClockOk W`: the clock does not run backwards, a wait with argument `t ≥ 0`
comes back after at most `t` ms, `send`/`recv` take no time), for every engine that stops after a failed callback
and never writes zero bytes (A-SSL, `Engine.FailStop`), from every state in which no callback failure is stashed (an
invariant of every call history on such an engine: `no_failure_left_stashed`, and the conclusion here), for every number of rounds (`C.stepsMax` is arbitrary), BIO reads and writes, partial
sends and WANT_READ / WANT_WRITE answers: every wait of `Receive(…, T)` / `Send(…, T)` has an argument `t` with
`0 ≤ t ≤ T - (now at that wait - now at entry)`, hence the call returns no later than entry + T; the budget never
becomes negative. -/
theorem tls_limited_budget (C : Cfg) {W : World ω} (hc : ClockOk W) (E : Engine σ) (hE : E.FailStop) (s : LSt σ ω)
    (hp : s.g.pendingError = none) (T : Int) (hT : 0 < T) :
    (∀ n, LimitedOk W T s (receiveT C (logWorld W) E s n T)) ∧
    (∀ data, LimitedOk W T s (sendT C (logWorld W) E s data T)) := by
  have F := limFrame (σ := σ) hc E hE (W.now s.w.1 + T) (logOf s)
  have h0 : LimGood W (W.now s.w.1 + T) (logOf s) (setTimeout s T) :=
    ⟨Int.le_of_lt hT, Int.le_refl _, LogAll.refl _, hp⟩
  exact ⟨fun n => limitedOk_of_post (F.receiveT C s n T h0), fun data => limitedOk_of_post (F.sendT C s data T h0)⟩

/-- the entry condition of (T3), "no callback failure is stashed", is an invariant of every history of `Receive` /
`Send` calls with ANY timeouts on a socket whose engine is fail-stop: a fresh socket has none, and no call leaves one
behind (it is rethrown by `HandleResult` within the same call) -/
theorem no_failure_left_stashed (C : Cfg) (W : World ω) (E : Engine σ) (hE : E.FailStop) (s : St σ ω)
    (hp : s.g.pendingError = none) :
    (∀ n t, (receiveT C W E s n t).2.g.pendingError = none) ∧ (∀ d t, (sendT C W E s d t).2.g.pendingError = none) :=
  no_stash_left C W E hE s hp

end SockModel.Tls

namespace SockModel.Tls
open SockModel.Net

/-! ### (T4) the negative counterpart, and why each engine hypothesis is needed

Everything below is about COUNTER-MODELS (`Seeded.*`: the glue with the seeded change; engines that break the
A-SSL hypotheses).  None of it is used by a driver. -/

/-- an engine that reads once from its BIO and, whatever it got, wants more -/
def wantsMoreEngine : Engine Unit where
  sslRead _ n := .bioRead n (fun _ => .ret .wantRead [] ())
  sslWrite _ d := .ret (.done d.length) [] ()
  initFinished _ := true

/-- a fresh socket over the scripted world `w` (Model/TlsBudget.lean: `TW`, a world that satisfies A-CLOCK by
construction; with an empty script nothing ever becomes ready and every wait sits out its timeout), logging from now on -/
def freshOn {σ : Type} (e : σ) (w : TW) : LSt σ TW := withLog { g := {}, e := e, w := w }

/-- the glue as it is, on the history of `seeded_bioRead_doubles_the_wait`: `BioRead` waits `T` and writes the budget
0 back, `HandleError(WANT_READ)` waits 0: the call returns at `T` -/
theorem wantsMore_within_budget (C : Cfg) (hpos : 0 < C.stepsMax) (n : Nat) (T : Int) (hT : 0 < T) :
    (receiveT C (logWorld TW.world) wantsMoreEngine (freshOn () {}) n T).1 = .ok [] ∧
    logOf (receiveT C (logWorld TW.world) wantsMoreEngine (freshOn () {}) n T).2 = [⟨.rd, 0, T⟩, ⟨.rd, T, 0⟩] ∧
    (receiveT C (logWorld TW.world) wantsMoreEngine (freshOn () {}) n T).2.w.1.clock = T := by
  obtain ⟨i, hi⟩ : ∃ i, C.stepsMax = i + 1 := ⟨C.stepsMax - 1, by omega⟩
  have h1 : ¬ (T < 0) := by omega
  have h2 : ¬ (T ≤ 0) := by omega
  simp [receiveT, tlsRead, handleLastError, handleError, setTimeout, freshOn, withLog, hi, readLoop, readRound, interp,
    wantsMoreEngine, bioRead, receive, logWorld, TW.world, TW.elapsed, h1, h2, noteCall, handleResult, SslAns.toErr,
    setLastError, waitUnder, underDeadline, remainingMs, logOf]
  cases C.fixRecvReset <;> simp

/-- **(T4) the seeded change `seeded/C07_r4_agentH` violates (T3).**  `BioRead` without the write-back
(`Seeded.bioRead`), an engine that answers WANT_READ after one BIO read, a world that is never ready: for every
`T > 0` and every receive size, `Receive(…, T)` waits `T` inside `BioRead` and then `T` again in
`HandleError(WANT_READ)` - it returns "nothing" at `2·T`, and the second wait is issued at clock `T` with the
argument `T` although nothing is left of the budget.  (`FailStop`, A-CLOCK and the starting state are as (T3) asks:
see the examples below; `wantsMore_within_budget` is the same history on the glue as it is.) -/
theorem seeded_bioRead_doubles_the_wait (C : Cfg) (hpos : 0 < C.stepsMax) (n : Nat) (T : Int) (hT : 0 < T) :
    (Seeded.receiveT C (logWorld TW.world) wantsMoreEngine (freshOn () {}) n T).1 = .ok [] ∧
    logOf (Seeded.receiveT C (logWorld TW.world) wantsMoreEngine (freshOn () {}) n T).2 = [⟨.rd, T, T⟩, ⟨.rd, T, 0⟩] ∧
    (Seeded.receiveT C (logWorld TW.world) wantsMoreEngine (freshOn () {}) n T).2.w.1.clock = 2 * T ∧
    ¬ LimitedOk TW.world T (freshOn () {}) (Seeded.receiveT C (logWorld TW.world) wantsMoreEngine (freshOn () {}) n T) := by
  obtain ⟨i, hi⟩ : ∃ i, C.stepsMax = i + 1 := ⟨C.stepsMax - 1, by omega⟩
  have h1 : ¬ (T < 0) := by omega
  have h2 : ¬ (T ≤ 0) := by omega
  have hr : Seeded.receiveT C (logWorld TW.world) wantsMoreEngine (freshOn () {}) n T
      = (.ok [], { g := { lastError := if C.fixRecvReset then .none else .wantRead, remainingTime := 0,
                          engCalls := [⟨true, [], .wantRead, true⟩] },
                   e := (), w := ({ clock := T + T }, [⟨.rd, T, T⟩, ⟨.rd, T, 0⟩]) }) := by
    simp [Seeded.receiveT, Seeded.tlsRead, handleLastError, handleError, setTimeout, freshOn, withLog, hi, Seeded.readLoop,
      Seeded.readRound, Seeded.interp, Seeded.bioRead, wantsMoreEngine, bioRead, receive, logWorld, TW.world, TW.elapsed,
      h1, h2, noteCall, handleResult, SslAns.toErr, setLastError, waitUnder, underDeadline, remainingMs]
    cases C.fixRecvReset <;> simp
  rw [hr]
  refine ⟨rfl, rfl, by show T + T = 2 * T; omega, ?_⟩
  intro h
  have := h.2.1
  simp only [freshOn, withLog, TW.world] at this
  omega

end SockModel.Tls

namespace SockModel.Tls
open SockModel.Net

/-- an engine that calls its read BIO AGAIN after the callback reported a failure (libssl does not) -/
def retryingEngine : Engine Unit where
  sslRead _ n := .bioRead n (fun r => match r with
    | none => .bioRead n (fun _ => .ret .wantRead [] ())
    | some _ => .ret .wantRead [] ())
  sslWrite _ d := .ret (.done d.length) [] ()
  initFinished _ := true

/-- **`FailStop` is needed (its first half), and the library relies on it.**  `UnderDeadline` does not write the budget
back when the socket call throws (`auto res = fn(); deadline.Tick(); timeout = deadline.Remaining();`).  History:
`Receive(…, 50)`; the descriptor is reported ready after 40 ms (POLLERR), `recv` fails (ECONNRESET), `BioRead` throws,
the failure is stashed and -1 returned; an engine that now calls the read BIO again waits with the STALE budget 50 at
clock 40, sits it out, and the call ends (with the stashed exception) at 90 > 50.  libssl returns at once with
SSL_ERROR_SYSCALL after such a failure, so the real library does not get here; a write-back on the exception path
would make the glue independent of that. -/
theorem stale_budget_after_callback_failure :
    let r := receiveT Cfg.current (logWorld TW.world) retryingEngine
      (freshOn () { waits := [(true, 40)], recvs := [.fail 104] }) 16 50
    r.1 = .exn (.system 104) ∧ logOf r.2 = [⟨.rd, 50, 40⟩, ⟨.rd, 50, 0⟩] ∧ r.2.w.1.clock = 90 ∧
    ¬ Tls.FailStop (retryingEngine.sslRead () 16) := by
  refine ⟨by decide, by decide, by decide, ?_⟩
  intro h
  cases h with
  | bioRead _ hnone =>
    obtain ⟨a, o, s, hk, _⟩ := hnone
    simp at hk

/-- an engine that invokes the write BIO with zero bytes before it reads (`BIO_write` never does: it returns early
for `dlen <= 0`) -/
def emptyWriteEngine : Engine Unit where
  sslRead _ n := .bioWrite [] (fun _ => .bioRead n (fun _ => .ret .wantRead [] ()))
  sslWrite _ d := .ret (.done d.length) [] ()
  initFinished _ := true

/-- **`FailStop` is needed (its second half).**  `BioWrite(data, 0)` with a limited budget: `SendSome` waits for
"writable", times out, `sent == size` holds trivially and `remainingTime = deadline.Remaining()` is computed from a
deadline that was never ticked: the full budget again.  History: `Receive(…, 50)` in a world that is never ready; the
zero-byte write waits 50, the read waits 50 again: the call returns at 100. -/
theorem stale_budget_after_empty_write :
    (receiveT Cfg.current (logWorld TW.world) emptyWriteEngine (freshOn () {}) 16 50).1 = .ok [] ∧
    logOf (receiveT Cfg.current (logWorld TW.world) emptyWriteEngine (freshOn () {}) 16 50).2
      = [⟨.rd, 0, 100⟩, ⟨.rd, 50, 50⟩, ⟨.wr, 50, 0⟩] ∧
    (receiveT Cfg.current (logWorld TW.world) emptyWriteEngine (freshOn () {}) 16 50).2.w.1.clock = 100 ∧
    ¬ Tls.FailStop (emptyWriteEngine.sslRead () 16) := by
  refine ⟨by decide +kernel, by decide +kernel, by decide +kernel, ?_⟩
  intro h
  cases h with
  | bioWrite hne _ _ => exact hne rfl

/-- an engine that answers WANT_READ without having been told "retry" by its BIO -/
def alwaysWantsRead : Engine Unit where
  sslRead _ _ := .ret .wantRead [] ()
  sslWrite _ d := .ret (.done d.length) [] ()
  initFinished _ := false

/-- the `-DNDEBUG` build of the code as it is -/
def Cfg.ndebug : Cfg := { Cfg.current with asserts := false }

/-- **`BlockingRead` is needed.**  What the model (and the code) does when the engine keeps answering WANT_READ under
an unlimited timeout: `HandleError` waits (unlimited, comes back ready) and the loop goes round; after
`handshakeStepsMax` rounds `Read` gives up: `assert(i < handshakeStepsMax)` in builds with assertions, and with
`-DNDEBUG` `Receive(…, -1)` returns `nullopt` - "nothing" although the timeout is unlimited.  (Compare F9, where the
same round limit cut a long `Send` short.)  With OpenSSL this needs WANT_READ from a blocking BIO, which
SSL_MODE_AUTO_RETRY (the default since 1.1.1) rules out. -/
theorem unlimited_receive_needs_blocking_engine :
    (receiveT Cfg.ndebug (logWorld TW.world) alwaysWantsRead (freshOn () {}) 16 (-1)).1 = .ok [] ∧
    (logOf (receiveT Cfg.ndebug (logWorld TW.world) alwaysWantsRead (freshOn () {}) 16 (-1)).2).length = Cfg.current.stepsMax ∧
    (receiveT Cfg.current (logWorld TW.world) alwaysWantsRead (freshOn () {}) 16 (-1)).1
      = .abort "assert(i < handshakeStepsMax) in Read" ∧
    ¬ BlockingRead alwaysWantsRead := by
  refine ⟨by decide +kernel, by decide +kernel, by decide +kernel, ?_⟩
  intro h
  have := h () 16
  cases this with
  | ret hp => exact hp.1 rfl

/-! ### the hypotheses are satisfiable: a scripted world and a two-round engine -/

/-- a small handshake: round 1 writes a hello and reads the reply (WANT_READ until it is there), later rounds read
application data; after a failed callback it answers SSL_ERROR_SYSCALL at once; it never writes zero bytes -/
def twoRoundEngine : Engine Nat where
  sslRead st n :=
    if st = 0 then
      .bioWrite [22, 3, 1] (fun r => match r with
        | none => .ret .syscallErr [] st
        | some _ => .bioRead n (fun r => match r with
          | none => .ret .syscallErr [] st
          | some [] => .ret .wantRead [] st
          | some _ => .ret .wantRead [] 1))
    else
      .bioRead n (fun r => match r with
        | none => .ret .syscallErr [] st
        | some [] => .ret .wantRead [] st
        | some bs => .ret (.done bs.length) bs st)
  sslWrite st d :=
    if d = [] then .ret (.done 0) [] st
    else .bioWrite d (fun r => match r with
      | none => .ret .syscallErr [] st
      | some 0 => .ret .wantWrite [] st
      | some m => .ret (.done m) [] st)
  initFinished st := st != 0

example : twoRoundEngine.FailStop := Spec.demoEngine_ok.failStop

example : ClockOk TW.world := TW.clockOk
example : ZeroFree TW.world := TW.clockOk.zeroFree
example : UnlimitedReady TW.world := TW.unlimitedReady
example : BlockingRead idleEngine → False := fun h => by have := h () 0; cases this with | ret hp => exact hp.1 rfl

/-- (T3) at work: `Receive(16 bytes, 50 ms)` through the handshake.  The hello is written (writable after 3 ms), the
reply arrives after 10 more ms; round 1 ends in WANT_READ and `HandleError` waits with what is left, 37 (the
descriptor is ready at once); round 2 reads the application data (ready after 5 ms): four waits with the arguments
50, 47, 37, 37, each within `50 - elapsed`; the call returns at 18 ≤ 50 with the budget 32 left. -/
example :
    (receiveT Cfg.current (logWorld TW.world) twoRoundEngine
      (freshOn 0 { waits := [(true, 3), (true, 10), (true, 0), (true, 5)], recvs := [.data [22, 3, 2], .data [7, 8, 9]] }) 16 50)
    = (.ok [7, 8, 9],
       { g := { remainingTime := 32, wire := [22, 3, 1], bioWrites := [⟨[22, 3, 1], 3⟩],
                engCalls := [⟨true, [], .done 3, true⟩, ⟨true, [], .wantRead, true⟩] },
         e := 1,
         w := ({ clock := 18 }, [⟨.rd, 37, 13⟩, ⟨.rd, 37, 13⟩, ⟨.rd, 47, 3⟩, ⟨.wr, 50, 0⟩]) }) := by
  simp [twoRoundEngine, Int.min_def, receiveT, tlsRead, handleLastError, handleError, setTimeout, freshOn, withLog, readLoop, readRound, interp, bioRead, bioWrite, noteWrite, Net.sendSome, sendNow, receive, recvNow, logWorld, TW.world, TW.elapsed, noteCall, handleResult, SslAns.toErr, setLastError, waitUnder, underDeadline, remainingMs, Cfg.current, stepsMaxConst, SockModel.Consts.handshakeStepsMax]

/-- (T1) at work: the same history with timeout 0 - every wait has the argument 0 and the clock does not move -/
example :
    let r := receiveT Cfg.current (logWorld TW.world) twoRoundEngine
      (freshOn 0 { waits := [(true, 3), (false, 10)], recvs := [] }) 16 0
    r.1 = .ok [] ∧ logOf r.2 = [⟨.rd, 0, 0⟩, ⟨.rd, 0, 0⟩, ⟨.wr, 0, 0⟩] ∧ r.2.w.1.clock = 0 := by decide

/-- (T2) at work: unlimited timeout, a short write: `SendAll` waits twice, both times with -1 -/
example :
    logOf (sendT Cfg.current (logWorld TW.world) twoRoundEngine
      (freshOn 1 { waits := [(true, 3), (true, 4)], sends := [.accept 2] }) [1, 2, 3] (-1)).2
      = [⟨.wr, -1, 3⟩, ⟨.wr, -1, 0⟩] ∧
    (sendT Cfg.current (logWorld TW.world) twoRoundEngine
      (freshOn 1 { waits := [(true, 3), (true, 4)], sends := [.accept 2] }) [1, 2, 3] (-1)).1 = .ok 3 := by
  simp [twoRoundEngine, sendT, tlsWrite, handleLastError, handleError, setTimeout, freshOn, withLog, writeLoop, writeRound, roundDecreases, setPending, interp, bioWrite, noteWrite, Net.sendAll, sendNow, logWorld, TW.world, TW.elapsed, noteCall, setLastError, logOf, Cfg.current, stepsMaxConst, SockModel.Consts.handshakeStepsMax]

end SockModel.Tls

/-! ## the run-time oracle is a theorem of the model -/
namespace SockModel.Tls
open SockModel.Net

/-- **spec_holds_on_model_partial** (`_partial`: the event-by-event clauses; the end-of-case clauses `Spec.specFinal` -
wire format, payload round trip, completion, "a non-TLS peer is reported" - are statements about both engines, the
channel and the schedule, see the comment after `Spec.model_satisfies_spec_partial` in `Spec/C18.lean`).
The predicate `./check C18` (and the TLS slices of `./check C01`, `./check C07`) evaluate event by event on the
implementation's transcript - `Spec.specRun` of `Spec/C18.lean`; the driver calls exactly these functions - accepts
every trace the glue MODEL can produce: for every glue configuration, every kernel with the harness's virtual clock
(`Spec.VClock`), every engine under the contract `Spec.EngOk` (plaintext only after `init_finished` and never from a
non-TLS peer; fail-stop), every fresh pair of endpoints (synchronous / asynchronous / absent, TLS or plain peer) and
every history of any length - `Send` / `Receive` with any timeout, `Send(buffer)` and driver steps with any `poll`
result, in any interleaving - in which no `assert` of the glue fires (a firing assert is a crash, which the predicate
rejects: `example` at the end of `Spec/C18.lean`).  Hence the C07 budget clauses (unlimited / zero / within `T` in
sum), "nothing delivered before the engine answered `done` with the handshake finished", "nothing from a non-TLS peer",
"no empty buffer to the handler", "disconnect handler at most once" and MSG_NOSIGNAL are consequences of the model for
all these histories; a `spec` verdict of these clauses on the implementation is a difference between implementation
and model, and the oracle is never stricter than the model. -/
theorem spec_holds_on_model_partial {σ ω : Type} (V : Spec.Env σ ω) (hW : Spec.VClock V.W) (m0 : Spec.Sys σ ω)
    (hE : Spec.EngOk V.E m0.plain) (h0 : m0.Fresh) (history : List Spec.Op)
    (hna : ∀ o ∈ Spec.modelTrace V m0 history, o.isAbort = false) :
    ∃ s, Spec.specRun {} (Spec.modelTrace V m0 history) = .ok s :=
  Spec.model_satisfies_spec_partial V hW m0 hE h0 history hna

/-- the hypotheses are satisfiable by a non-trivial history (13 operations on a synchronous client and an asynchronous
server, 58 observations; more examples, including traces the predicate rejects, at the end of `Spec/C18.lean`) -/
example : Spec.VClock TW.world := Spec.TW.vclock
example : Spec.EngOk Spec.demoEngine false := Spec.demoEngine_ok

end SockModel.Tls
/-! ## handshake completion beyond the polling schedule

Re-exports of `Props/C18Hs.lean` (statements, hypotheses and examples are documented there): the handshake of the
two-endpoint composition completes under **every** schedule of calls - any order of the two sides' calls, any mix of
`Send` and `Receive`, any receive sizes - as long as no side is starved. -/
namespace SockModel.Hs
open SockModel.Net SockModel.Tls

theorem call_progress (C : Cfg) (hC : 1 < C.stepsMax) (P : HsP) (dc ds : Bytes) (hdc : dc ≠ []) (hds : ds ≠ [])
    (y : Sys) (hinv : SysInv P dc ds y) (a : Act) (ha : a.ok) :
    SysInv P dc ds (y.act C P dc ds a) ∧ (y.act C P dc ds a).faults = 0 ∧
    mu P (y.act C P dc ds a) ≤ mu P y ∧
    (y.canProg a.client → mu P (y.act C P dc ds a) < mu P y) ∧
    y.ec.stage ≤ (y.act C P dc ds a).ec.stage ∧ y.es.stage ≤ (y.act C P dc ds a).es.stage ∧
    (y.canProg (!a.client) → (y.act C P dc ds a).canProg (!a.client)) :=
  C18Hs.call_progress C hC P dc ds hdc hds y hinv a ha

theorem some_side_can_progress (P : HsP) (dc ds : Bytes) (y : Sys) (hinv : SysInv P dc ds y)
    (hnf : ¬ y.bothFinished) : y.canProg true ∨ y.canProg false :=
  C18Hs.some_side_can_progress P dc ds y hinv hnf

theorem schedule_progress (C : Cfg) (hC : 1 < C.stepsMax) (P : HsP) (dc ds : Bytes) (hdc : dc ≠ []) (hds : ds ≠ [])
    (l : List Act) (hok : ∀ a ∈ l, a.ok) (y : Sys) (hinv : SysInv P dc ds y) :
    SysInv P dc ds (Sys.run C P dc ds l y) ∧ (Sys.run C P dc ds l y).faults = 0 ∧
    mu P (Sys.run C P dc ds l y) + progCalls C P dc ds l y ≤ mu P y ∧
    y.ec.stage ≤ (Sys.run C P dc ds l y).ec.stage ∧ y.es.stage ≤ (Sys.run C P dc ds l y).es.stage :=
  C18Hs.schedule_progress C hC P dc ds hdc hds l hok y hinv

theorem handshake_completes_counting (C : Cfg) (hC : 1 < C.stepsMax) (P : HsP) (dc ds : Bytes) (hdc : dc ≠ [])
    (hds : ds ≠ []) (segs : List Nat) (l : List Act) (hok : ∀ a ∈ l, a.ok)
    (hcount : P.total ≤ progCalls C P dc ds l (Sys.init P segs)) :
    (Sys.run C P dc ds l (Sys.init P segs)).bothFinished ∧ (Sys.run C P dc ds l (Sys.init P segs)).faults = 0 :=
  C18Hs.handshake_completes_counting C hC P dc ds hdc hds segs l hok hcount

theorem handshake_completes_prog_fair (C : Cfg) (hC : 1 < C.stepsMax) (P : HsP) (dc ds : Bytes) (hdc : dc ≠ [])
    (hds : ds ≠ []) (segs : List Nat) (w : Nat) (l : List Act) (hok : ∀ a ∈ l, a.ok)
    (hf : ProgFair C P dc ds w l (Sys.init P segs)) (j : Nat) (hj : j ≤ l.length) :
    (Sys.run C P dc ds (l.take j) (Sys.init P segs)).faults = 0 ∧
    (P.total * w ≤ j → (Sys.run C P dc ds (l.take j) (Sys.init P segs)).bothFinished) :=
  C18Hs.handshake_completes_prog_fair C hC P dc ds hdc hds segs w l hok hf j hj

theorem handshake_completes_any_schedule (C : Cfg) (hC : 1 < C.stepsMax) (P : HsP) (dc ds : Bytes) (hdc : dc ≠ [])
    (hds : ds ≠ []) (segs : List Nat) (w : Nat) (l : List Act) (hok : ∀ a ∈ l, a.ok) (hf : SideFair w l)
    (j : Nat) (hj : j ≤ l.length) :
    (Sys.run C P dc ds (l.take j) (Sys.init P segs)).faults = 0 ∧
    (P.total * w ≤ j → (Sys.run C P dc ds (l.take j) (Sys.init P segs)).bothFinished) ∧
    (∀ i, i ≤ j →
      (Sys.run C P dc ds (l.take i) (Sys.init P segs)).ec.stage ≤ (Sys.run C P dc ds (l.take j) (Sys.init P segs)).ec.stage ∧
      (Sys.run C P dc ds (l.take i) (Sys.init P segs)).es.stage ≤ (Sys.run C P dc ds (l.take j) (Sys.init P segs)).es.stage) :=
  C18Hs.handshake_completes_any_schedule C hC P dc ds hdc hds segs w l hok hf j hj

theorem handshake_completes_any_infinite_schedule (C : Cfg) (hC : 1 < C.stepsMax) (P : HsP) (dc ds : Bytes)
    (hdc : dc ≠ []) (hds : ds ≠ []) (segs : List Nat) (w : Nat) (σ : Nat → Act) (hok : ∀ i, (σ i).ok)
    (hf : SideFairInf w σ) (k : Nat) :
    (Sys.runTo C P dc ds σ k (Sys.init P segs)).faults = 0 ∧
    (P.total * w ≤ k → (Sys.runTo C P dc ds σ k (Sys.init P segs)).bothFinished) :=
  C18Hs.handshake_completes_any_infinite_schedule C hC P dc ds hdc hds segs w σ hok hf k

theorem starved_server_never_completes (C : Cfg) (P : HsP) (dc ds : Bytes) (segs : List Nat) (l : List Act)
    (hl : C18Hs.OnlySide true l) :
    (Sys.run C P dc ds l (Sys.init P segs)).es = Hs.init P false ∧
    ¬ (Sys.run C P dc ds l (Sys.init P segs)).bothFinished :=
  C18Hs.starved_server_never_completes C P dc ds segs l hl

theorem starved_client_never_completes (C : Cfg) (P : HsP) (dc ds : Bytes) (segs : List Nat) (l : List Act)
    (hl : C18Hs.OnlySide false l) :
    (Sys.run C P dc ds l (Sys.init P segs)).ec = Hs.init P true ∧
    ¬ (Sys.run C P dc ds l (Sys.init P segs)).bothFinished :=
  C18Hs.starved_client_never_completes C P dc ds segs l hl

/-! ### limited timeouts `T ≥ 0` under virtual time (`chanWorldT`) -/

theorem chanWorldT_clockOk (r : Bool) : ClockOk (chanWorldT r) := C18Hs.chanWorldT_clockOk r

theorem timed_call_is_zero_call {σ : Type} (C : Cfg) (r : Bool) (E : Engine σ) (s : St σ ChanT) (T : Int) (hT : 0 ≤ T) :
    (∀ n, receiveT C (chanWorld r) E (proj s) n 0 =
        ((receiveT C (chanWorldT r) E s n T).1, proj (receiveT C (chanWorldT r) E s n T).2) ∧
      0 ≤ (receiveT C (chanWorldT r) E s n T).2.g.remainingTime ∧
      (receiveT C (chanWorldT r) E s n T).2.w.clock + (receiveT C (chanWorldT r) E s n T).2.g.remainingTime = s.w.clock + T) ∧
    (∀ data, sendT C (chanWorld r) E (proj s) data 0 =
        ((sendT C (chanWorldT r) E s data T).1, proj (sendT C (chanWorldT r) E s data T).2) ∧
      0 ≤ (sendT C (chanWorldT r) E s data T).2.g.remainingTime ∧
      (sendT C (chanWorldT r) E s data T).2.w.clock + (sendT C (chanWorldT r) E s data T).2.g.remainingTime = s.w.clock + T) :=
  C18Hs.timed_call_is_zero_call C r E s T hT

theorem timed_schedule_is_zero_schedule (C : Cfg) (P : HsP) (dc ds : Bytes) (l : List ActT)
    (hT : ∀ a ∈ l, 0 ≤ a.timeout) (y : SysT) :
    (SysT.run C P dc ds l y).untimed = Sys.run C P dc ds (l.map ActT.act) y.untimed ∧
    (SysT.run C P dc ds l y).clock ≤ y.clock + budgetSum l :=
  C18Hs.timed_schedule_is_zero_schedule C P dc ds l hT y

theorem handshake_completes_any_timeouts (C : Cfg) (hC : 1 < C.stepsMax) (P : HsP) (dc ds : Bytes) (hdc : dc ≠ [])
    (hds : ds ≠ []) (segs : List Nat) (w : Nat) (l : List ActT) (hok : ∀ a ∈ l, a.act.ok)
    (hT : ∀ a ∈ l, 0 ≤ a.timeout) (hf : SideFair w (l.map ActT.act)) (j : Nat) (hj : j ≤ l.length) :
    (SysT.run C P dc ds (l.take j) (SysT.init P segs)).faults = 0 ∧
    (P.total * w ≤ j → (SysT.run C P dc ds (l.take j) (SysT.init P segs)).bothFinished) ∧
    (SysT.run C P dc ds (l.take j) (SysT.init P segs)).clock ≤ budgetSum (l.take j) :=
  C18Hs.handshake_completes_any_timeouts C hC P dc ds hdc hds segs w l hok hT hf j hj

/-! ### an unlimited timeout on one side, the other side polls (`blockWorld`) -/

theorem blocked_wait_is_released (C : Cfg) (hC : 1 < C.stepsMax) (P : HsP) (u : Bool) (dc ds : Bytes) (hdc : dc ≠ [])
    (hds : ds ≠ []) (T : Int) (hT : T < 0) (g : Glue) (h : Hs) (w : PeerW)
    (hinv : SysInv P dc ds (mkSys u g h w)) (hok : ProgOk w) (hs : h.stage < 3) (hr : h.writes = false)
    (hen : Enough P w) :
    ((blockWorld C P u dc ds).wait w .rd T).1 = true ∧ 0 < ((blockWorld C P u dc ds).wait w .rd T).2.ch.inb u ∧
    SysInv P dc ds (mkSys u g h ((blockWorld C P u dc ds).wait w .rd T).2) ∧
    ProgOk ((blockWorld C P u dc ds).wait w .rd T).2 ∧ Enough P ((blockWorld C P u dc ds).wait w .rd T).2 :=
  C18Hs.blocked_wait_is_released C hC P u dc ds hdc hds T hT g h w hinv hok hs hr hen

theorem unlimited_send_completes_handshake (C : Cfg) (hC : 1 < C.stepsMax) (P : HsP) (u : Bool) (dc ds : Bytes)
    (hdc : dc ≠ []) (hds : ds ≠ []) (T : Int) (hT : T < 0) (s : St Hs PeerW) (hr : ReadyU (ownPay u dc ds) s)
    (hinv : SysInv P dc ds (mkSys u s.g s.e s.w)) (hok : ProgOk s.w) (hen : s.e.stage < 3 → Enough P s.w) :
    ∃ s', sendT C (blockWorld C P u dc ds) (engine P) s (ownPay u dc ds) T = (.ok (ownPay u dc ds).length, s') ∧
      ReadyU (ownPay u dc ds) s' ∧ SysInv P dc ds (mkSys u s'.g s'.e s'.w) ∧ ProgOk s'.w ∧ 3 ≤ s'.e.stage ∧
      work P s'.w.e ≤ work P s.w.e ∧ s.w.e.stage ≤ s'.w.e.stage :=
  C18Hs.unlimited_send_completes_handshake C hC P u dc ds hdc hds T hT s hr hinv hok hen

theorem unlimited_receive_completes_handshake (C : Cfg) (hC : 1 < C.stepsMax) (P : HsP) (u : Bool) (dc ds : Bytes)
    (hdc : dc ≠ []) (hds : ds ≠ []) (T : Int) (hT : T < 0) (n : Nat) (hn : 1 ≤ n) (s : St Hs PeerW)
    (hr : ReadyU (ownPay u dc ds) s) (hinv : SysInv P dc ds (mkSys u s.g s.e s.w)) (hok : ProgOk s.w)
    (hen : s.e.stage < 3 → Enough P s.w) :
    SysInv P dc ds (mkSys u (receiveT C (blockWorld C P u dc ds) (engine P) s n T).2.g
      (receiveT C (blockWorld C P u dc ds) (engine P) s n T).2.e (receiveT C (blockWorld C P u dc ds) (engine P) s n T).2.w) ∧
    3 ≤ (receiveT C (blockWorld C P u dc ds) (engine P) s n T).2.e.stage ∧
    ((receiveT C (blockWorld C P u dc ds) (engine P) s n T).2.w.prog = [] ∨
     (∃ out, (receiveT C (blockWorld C P u dc ds) (engine P) s n T).1 = .ok out ∧ out ≠ [] ∧
        ReadyU (ownPay u dc ds) (receiveT C (blockWorld C P u dc ds) (engine P) s n T).2)) :=
  C18Hs.unlimited_receive_completes_handshake C hC P u dc ds hdc hds T hT n hn s hr hinv hok hen

theorem handshake_completes_one_side_unlimited (C : Cfg) (hC : 1 < C.stepsMax) (P : HsP) (u : Bool) (dc ds : Bytes)
    (hdc : dc ≠ []) (hds : ds ≠ []) (T : Int) (hT : T < 0) (segs : List Nat) (prog : List Kind)
    (hprog : ∀ k ∈ prog, k.ok) (pre post : List ActU) (kb : Kind) (hpre : ∀ a ∈ pre, a = .poll) (hkb : kb.ok)
    (hpost : ∀ a ∈ post, a.okU) (hlen : pre.length + P.half ≤ prog.length) :
    SysInv P dc ds (mkSys u (SysU.run C P u dc ds T (pre ++ .block kb :: post) (SysU.init P u segs prog)).g
      (SysU.run C P u dc ds T (pre ++ .block kb :: post) (SysU.init P u segs prog)).e
      (SysU.run C P u dc ds T (pre ++ .block kb :: post) (SysU.init P u segs prog)).w) ∧
    3 ≤ (SysU.run C P u dc ds T (pre ++ .block kb :: post) (SysU.init P u segs prog)).e.stage ∧
    ((SysU.run C P u dc ds T (pre ++ .block kb :: post) (SysU.init P u segs prog)).w.prog ≠ [] →
      (SysU.run C P u dc ds T (pre ++ .block kb :: post) (SysU.init P u segs prog)).faults = 0 ∧
      (P.half ≤ polls post →
        3 ≤ (SysU.run C P u dc ds T (pre ++ .block kb :: post) (SysU.init P u segs prog)).w.e.stage)) :=
  C18Hs.handshake_completes_one_side_unlimited C hC P u dc ds hdc hds T hT segs prog hprog pre post kb hpre hkb hpost hlen

theorem blocking_side_must_call (C : Cfg) (hC : 1 < C.stepsMax) (P : HsP) (u : Bool) (dc ds : Bytes)
    (hdc : dc ≠ []) (hds : ds ≠ []) (T : Int) (hT : T < 0) (segs : List Nat) (prog : List Kind)
    (hprog : ∀ k ∈ prog, k.ok) (pre : List ActU) (hpre : ∀ a ∈ pre, a = .poll) :
    (SysU.run C P u dc ds T pre (SysU.init P u segs prog)).e = Hs.init P u ∧
    ¬ 3 ≤ (SysU.run C P u dc ds T pre (SysU.init P u segs prog)).e.stage :=
  C18Hs.blocking_side_must_call C hC P u dc ds hdc hds T hT segs prog hprog pre hpre

theorem peer_never_faults (P : HsP) (u : Bool) (dc ds : Bytes) (g : Glue) (h : Hs) (w : PeerW)
    (hinv : SysInv P dc ds (mkSys u g h w)) : w.faults = 0 :=
  C18Hs.peer_never_faults P u dc ds g h w hinv

/-! ### an asynchronous (driver-operated) server and a polling synchronous client -/

theorem deemed_flags_are_harmless {σ : Type} (C : Cfg) (r : Bool) (E : Engine σ) (s : St σ Chan) (hfl : Fl r s) :
    (∀ n, tlsRead C (chanWorld r) E (nf s) n = ((tlsRead C (chanWorld r) E s n).1, nf (tlsRead C (chanWorld r) E s n).2)) ∧
    (∀ d, tlsWrite C (chanWorld r) E (nf s) d = ((tlsWrite C (chanWorld r) E s d).1, nf (tlsWrite C (chanWorld r) E s d).2)) :=
  C18Hs.deemed_flags_are_harmless C r E s hfl

theorem readable_task_progress (C : Cfg) (hC : 0 < C.stepsMax) (P : HsP) (r : Bool) (data : Bytes) (rx : Nat)
    (hrx : 1 ≤ rx) (s : St Hs Chan) (hi : SideInv P r data (nf s)) (hin : 0 < s.w.inb r) :
    ∃ bs s', receiveReadable C (chanWorld r) (engine P) s rx = (.ok bs, s') ∧ SideInv P r data (nf s') ∧
      Tr P r s.e s.w s'.e s'.w ∧ (CanProg r s.e s.w → work P s'.e < work P s.e) ∧ Tight (nf s') ∧
      (3 ≤ s'.e.stage → s'.g.lastError = .none) :=
  C18Hs.readable_task_progress C hC P r data rx hrx s hi hin

theorem handshake_completes_async_server (C : Cfg) (hC : 1 < C.stepsMax) (P : HsP) (dc ds : Bytes) (hdc : dc ≠ [])
    (rx : Nat) (hrx : 1 ≤ rx) (segs : List Nat) (w : Nat) (l : List ActA) (hok : ∀ a ∈ l, a.okA)
    (hf : C18Hs.AFair w l) (j : Nat) (hj : j ≤ l.length) :
    (SysAS.run C P dc rx (l.take j) (SysAS.init P segs)).faults = 0 ∧
    (SysAS.run C P dc rx (l.take j) (SysAS.init P segs)).x.a.pollOut = false ∧
    (P.total * w ≤ j → (SysAS.run C P dc rx (l.take j) (SysAS.init P segs)).bothFinished) :=
  C18Hs.handshake_completes_async_server C hC P dc ds hdc rx hrx segs w l hok hf j hj

theorem undriven_server_never_completes (C : Cfg) (P : HsP) (dc : Bytes) (rx : Nat) (segs : List Nat) (l : List ActA)
    (hl : ∀ a ∈ l, a ≠ ActA.drive) :
    (SysAS.run C P dc rx l (SysAS.init P segs)).x.s.e = Hs.init P false ∧
    ¬ (SysAS.run C P dc rx l (SysAS.init P segs)).bothFinished :=
  C18Hs.undriven_server_never_completes C P dc rx segs l hl

/-! ### an asynchronous endpoint of either role with a send queue (readable AND writable tasks, `POLLOUT` protocol) -/

theorem readable_task_clears_flag (C : Cfg) (hC : 0 < C.stepsMax) (P : HsP) (r : Bool) (rx : Nat) (s : St Hs Chan)
    (hw : WF P s.e) (hle : s.g.lastError = .none ∨ s.g.lastError = .wantRead) :
    (receiveReadable C (chanWorld r) (engine P) s rx).2.g.isReadable = false :=
  C18Hs.readable_task_clears_flag C hC P r rx s hw hle

theorem writable_task_progress (C : Cfg) (hC : 1 < C.stepsMax) (P : HsP) (r : Bool) (buf : Bytes) (hb : buf ≠ [])
    (s : St Hs Chan) (hi : SideInv P r buf (nf s)) (hir : s.g.isReadable = false) :
    ∃ k s', sendSomeWritable C (chanWorld r) (engine P) s buf = (.ok k, s') ∧ SideInv P r buf (nf s') ∧
      Tr P r s.e s.w s'.e s'.w ∧ (CanProg r s.e s.w → work P s'.e < work P s.e) ∧ Tight (nf s') ∧
      s'.g.isReadable = false ∧
      ((k = buf.length ∧ 3 ≤ s'.e.stage ∧ s'.g.lastError = .none ∧ s'.g.pendingSend = []) ∨ k = 0) :=
  C18Hs.writable_task_progress C hC P r buf hb s hi hir

theorem handshake_completes_async_endpoint (C : Cfg) (hC : 1 < C.stepsMax) (P : HsP) (u : Bool) (dc ds : Bytes)
    (hdc : dc ≠ []) (hds : ds ≠ []) (rx : Nat) (hrx : 1 ≤ rx) (segs : List Nat) (q : List Bytes)
    (hq : ∀ b ∈ q, b ≠ []) (hfed : u = true → q ≠ []) (w : Nat) (l : List ActG) (hok : ∀ a ∈ l, a.okG)
    (hf : C18Hs.GFair w l) (j : Nat) (hj : j ≤ l.length) :
    (SysAG.run C P u dc ds rx (l.take j) (SysAG.init P u segs q)).faults = 0 ∧
    ((SysAG.run C P u dc ds rx (l.take j) (SysAG.init P u segs q)).x.a.sendQ ≠ [] ↔
      ((SysAG.run C P u dc ds rx (l.take j) (SysAG.init P u segs q)).x.a.pollOut = true ∨
       (SysAG.run C P u dc ds rx (l.take j) (SysAG.init P u segs q)).x.s.g.driverSendSuppressed = true)) ∧
    (P.total * w ≤ j → (SysAG.run C P u dc ds rx (l.take j) (SysAG.init P u segs q)).bothFinished) :=
  C18Hs.handshake_completes_async_endpoint C hC P u dc ds hdc hds rx hrx segs q hq hfed w l hok hf j hj

end SockModel.Hs


/-! ## "after which ... C15 hold unchanged": the orderly close of a TLS socket reads what the peer has sent  (DESIGN.md §0.22)

`Shutdown()` is what the destructor runs.  Closing a TCP descriptor with unread input makes the kernel answer with a reset
and discard what is still queued for sending - bytes earlier `Send` calls reported as sent (C15: "the complete stream for an
orderly close").  So whenever the first `SSL_shutdown` does not report both alerts as exchanged - in particular when it FAILS
because the alert cannot be written through a congested connection - the input has to be read before the descriptor goes. -/
namespace SockModel.Tls
open SockModel.Net

variable {σ ω : Type}

/-- For every engine, every world and every state: `Shutdown()` starts its engine calls with a budget of one second and no
stale readiness; if the first `SSL_shutdown` reports the exchange as complete nothing else happens; otherwise, and unless
an exception ends it, it performs `reads` calls of `SSL_read` (and nothing else that the engine-call log records) with
`1 ≤ reads ≤ handshakeStepsMax`, and it stops reading before the round limit only when the newest `SSL_read` delivered
NOTHING (end of stream, or a failure `HandleResult` gives up on: budget used up, nothing more arrived) - every delivery is
followed by another read. -/
theorem shutdown_reads_before_close (C : Cfg) (hC : 0 < C.stepsMax) (W : World ω) (E : Engine σ) (s : St σ ω) :
    (shutdownPrep s).g.remainingTime = 1000 ∧ (shutdownPrep s).g.isReadable = false ∧ (shutdownPrep s).g.isWritable = false ∧
    (∀ ans s1, shutCall W E (shutdownPrep s) = (.ok ans, s1) →
      (ans.shutDone = true → tlsShutdown C W E s = (.ok (), s1)) ∧
      (ans.shutDone = false → (tlsShutdown C W E s).1 = .ok () →
        ∃ reads : List EngCall, (tlsShutdown C W E s).2.g.engCalls = reads ++ s.g.engCalls ∧
          reads ≠ [] ∧ reads.length ≤ C.stepsMax ∧ (∀ c ∈ reads, c.isRead = true ∧ c.arg = []) ∧
          (reads.length < C.stepsMax → ∃ c rest, reads = c :: rest ∧ c.ans.isDone = false))) := by
  refine ⟨rfl, rfl, rfl, ?_⟩
  intro ans s1 h1
  have hk : s1.g.engCalls = s.g.engCalls := by
    have := shutCall_keeps (W := W) E (shutdownPrep s)
    rw [h1] at this
    exact this
  constructor
  · intro hd
    simp [tlsShutdown, h1, hd]
  · intro hd hok
    simp only [tlsShutdown, h1, hd] at hok ⊢
    obtain ⟨reads, e1, e2, e3, e4, e5⟩ := drainLoop_drains (W := W) E C.stepsMax s1 hok
    exact ⟨reads, by rw [← hk]; simpa using e1, e4 hC, e2, e3, e5⟩

/-- the hypotheses are met, and the drain is real: an engine whose `SSL_shutdown` fails (the alert cannot be written)
and that holds two records of unread input has BOTH read before the end of stream is seen - three `SSL_read` calls. -/
example :
    let E : Engine Nat :=
      { sslRead := fun n _ => if n = 0 then .ret .zeroReturn [] 0 else .ret (.done 1) [7] (n - 1),
        sslWrite := fun n _ => .ret .sslErr [] n,
        initFinished := fun _ => true,
        sslShutdown := fun n => .ret .sslErr [] n }
    let W : World Unit := { now := fun _ => 0, wait := fun w _ _ => (false, w), send := fun w _ => (.fail 32, w),
                            recv := fun w _ => (.fail 104, w) }
    let s : St Nat Unit := { g := {}, e := 2, w := () }
    (tlsShutdown Cfg.current W E s).1 = .ok () ∧ (tlsShutdown Cfg.current W E s).2.e = 0 ∧
    ((tlsShutdown Cfg.current W E s).2.g.engCalls.map (·.ans)) = [.zeroReturn, .done 1, .done 1] := by
  decide

end SockModel.Tls
