import SockModel.Spec.C14
/-!
# C14  OS failures become exceptions and leak nothing

The property theorems; the ownership calculus is in `Model/FdLemmas.lean` (`Consumer.consumes` is its
`Consumer.takesOver` under the name the property is documented with).
Every statement is about **every** fault oracle `o : Nat → Option Errno` (any number of failing
calls, at any positions), every well-formed starting ledger `L` (any descriptors already open) and
every program of the scenario set `Prog` / `Consumer` / `driverStep` of `Model/Fd.lean`
(all public constructors and throwing operations; `tcpSend` with any number of partial writes).
`L.nfault < L'.nfault` says: some system call made on behalf of this program failed.
-/
namespace SockModel.Fd

theorem Consumer.consumes (c : Consumer) (fd : Fd) : Consumes fd (c.run fd) := Consumer.takesOver c fd

/-- "If any operating-system call made on behalf of a constructor or of an API call documented to
throw fails, the failure is reported by an exception ... never by ... a bogus success." -/
theorem fault_reported (p : Prog) (o : Oracle) (L : Ledger) (hL : WF L) (r : Except Exn (List Fd)) (L' : Ledger)
    (hrun : p.run o L = (r, L')) (hfault : L.nfault < L'.nfault) : ∃ e, r = .error e := by
  obtain ⟨_, _, n, hn, h⟩ := p.keepsLedger.run hL hrun
  cases r with
  | error e => exact ⟨e, rfl⟩
  | ok a =>
    obtain ⟨new, _, _, hf⟩ := h
    omega

/-- the same for the constructors that consume a socket -/
theorem fault_reported_consumer (c : Consumer) (fd : Fd) (o : Oracle) (L : Ledger) (hL : WF L) (hfd : fd ∈ L.live)
    (r : Except Exn (List Fd)) (L' : Ledger)
    (hrun : c.run fd o L = (r, L')) (hfault : L.nfault < L'.nfault) : ∃ e, r = .error e := by
  obtain ⟨_, _, _, h⟩ := c.consumes fd o L hL hfd r L' hrun
  cases r with
  | error e => exact ⟨e, rfl⟩
  | ok a => omega

/-- "... or, inside the driver, through the socket's disconnect handler, the send future, or an
exception out of Step": a failed call during `Step` ends in an exception out of `Step` or in a
reporting event; a *discarded* failure only ever belongs to a UDP socket or an acceptor (whose error
callback the library binds to a no-op on purpose, DESIGN section 3). -/
theorem fault_reported_driver (d : DSt) (o : Oracle) (L : Ledger) (hL : WF L) (r : Except Exn StepOut) (L' : Ledger)
    (hrun : driverStep d o L = (r, L')) :
    (L.nfault < L'.nfault → (∃ e, r = .error e) ∨ ∃ out, r = .ok out ∧ ∃ ev ∈ out.evs, ev.reportsFailure = true) ∧
    (∀ out fd, r = .ok out → Ev.discarded fd ∈ out.evs → ∃ s ∈ d.socks, s.fd = fd ∧ s.kind ≠ .tcp) := by
  obtain ⟨_, _, n, hn, h⟩ := (Sp_driverStep d).run hL hrun
  cases r with
  | error e => exact ⟨fun _ => .inl ⟨e, rfl⟩, by intro out fd h; cases h⟩
  | ok out =>
    obtain ⟨new, _, _, hf, hd⟩ := h
    refine ⟨fun hlt => .inr ⟨out, rfl, hf (by omega)⟩, ?_⟩
    intro out' fd he
    cases he
    exact hd fd

/-- "every descriptor the library opened has been closed exactly once (none leaked, none closed
twice, none that it does not own)" - when the program throws, the ledger is what it was. -/
theorem no_leak_on_throw (p : Prog) (o : Oracle) (L : Ledger) (hL : WF L) (e : Exn) (L' : Ledger)
    (hrun : p.run o L = (.error e, L')) :
    L'.live = L.live ∧ L'.closedTwice = false ∧ L'.closedForeign = false := by
  obtain ⟨w, _, _, _, h⟩ := p.keepsLedger.run hL hrun
  exact ⟨h, w.noTwice, w.noForeign⟩

/-- a throwing consuming constructor has closed exactly the descriptor it took over -/
theorem no_leak_on_throw_consumer (c : Consumer) (fd : Fd) (o : Oracle) (L : Ledger) (hL : WF L) (hfd : fd ∈ L.live)
    (e : Exn) (L' : Ledger) (hrun : c.run fd o L = (.error e, L')) :
    L'.live = L.live.erase fd ∧ L'.closedTwice = false ∧ L'.closedForeign = false := by
  obtain ⟨w, _, _, h⟩ := c.consumes fd o L hL hfd _ L' hrun
  exact ⟨h, w.noTwice, w.noForeign⟩

/-- an exception out of `Step` leaves the ledger as it was -/
theorem no_leak_on_throw_driver (d : DSt) (o : Oracle) (L : Ledger) (hL : WF L) (e : Exn) (L' : Ledger)
    (hrun : driverStep d o L = (.error e, L')) :
    L'.live = L.live ∧ L'.closedTwice = false ∧ L'.closedForeign = false := by
  obtain ⟨w, _, _, _, h⟩ := (Sp_driverStep d).run hL hrun
  exact ⟨h, w.noTwice, w.noForeign⟩

/-- "Afterwards every object involved can be destroyed normally": on success the ledger grew by
exactly the descriptors of the result, no call had failed, and destroying the result (any time
later, under any oracle) closes each of them exactly once and restores the ledger. -/
theorem owned_on_success (p : Prog) (o : Oracle) (L : Ledger) (hL : WF L) (fds : List Fd) (L' : Ledger)
    (hrun : p.run o L = (.ok fds, L')) :
    L'.live = L.live ++ fds ∧ L'.closedTwice = false ∧ L'.closedForeign = false ∧ L'.nfault = L.nfault ∧
    ∀ o', (destroy fds o' L').1 = .ok () ∧ (destroy fds o' L').2.live = L.live ∧
      (destroy fds o' L').2.closedTwice = false ∧ (destroy fds o' L').2.closedForeign = false := by
  obtain ⟨w, _, n, hn, new, hl, ha, hf⟩ := p.keepsLedger.run hL hrun
  subst ha
  refine ⟨hl, w.noTwice, w.noForeign, by omega, ?_⟩
  intro o'
  obtain ⟨h1, h2, h3⟩ := destroy_restores o' fds L.live L' w hl
  exact ⟨h1, h3, h2.noTwice, h2.noForeign⟩

/-- a successful consuming constructor now owns the very descriptor it was given -/
theorem owned_on_success_consumer (c : Consumer) (fd : Fd) (o : Oracle) (L : Ledger) (hL : WF L) (hfd : fd ∈ L.live)
    (fds : List Fd) (L' : Ledger) (hrun : c.run fd o L = (.ok fds, L')) :
    fds = [fd] ∧ L'.live = L.live ∧ L'.closedTwice = false ∧ L'.closedForeign = false ∧ L'.nfault = L.nfault := by
  obtain ⟨w, _, _, h1, h2, h3⟩ := c.consumes fd o L hL hfd _ L' hrun
  exact ⟨h2, h1, w.noTwice, w.noForeign, h3⟩

/-- a `Step` that returns owns nothing new except the sockets it handed to the connect handler -/
theorem owned_on_success_driver (d : DSt) (o : Oracle) (L : Ledger) (hL : WF L) (out : StepOut) (L' : Ledger)
    (hrun : driverStep d o L = (.ok out, L')) :
    L'.live = L.live ++ out.fds ∧ L'.closedTwice = false ∧ L'.closedForeign = false := by
  obtain ⟨w, _, _, _, new, hl, ha, _⟩ := (Sp_driverStep d).run hL hrun
  subst ha
  exact ⟨hl, w.noTwice, w.noForeign⟩

/-- "... and the library remains usable": after a failed program the ledger is well-formed and
unchanged, so any next program `q` of the set - under any further faults `o'` - again either succeeds
owning exactly its result or throws leaving the ledger as it was before `p` (the driver model carries
no state out of a throwing `Step`: the caller continues with the `DSt` it had). -/
theorem usable_after (p q : Prog) (o o' : Oracle) (L : Ledger) (hL : WF L) (e : Exn) (L' : Ledger)
    (hrun : p.run o L = (.error e, L')) (r : Except Exn (List Fd)) (L'' : Ledger) (hnext : q.run o' L' = (r, L'')) :
    L''.closedTwice = false ∧ L''.closedForeign = false ∧
    match r with
    | .ok fds => L''.live = L.live ++ fds
    | .error _ => L''.live = L.live := by
  obtain ⟨w, _, _, _, h⟩ := p.keepsLedger.run hL hrun
  simp only at h
  obtain ⟨w2, _, _, _, h2⟩ := q.keepsLedger.run w hnext
  refine ⟨w2.noTwice, w2.noForeign, ?_⟩
  cases r with
  | error e2 => simp only at h2 ⊢; rw [h2, h]
  | ok fds =>
    obtain ⟨new, hl, ha, _⟩ := h2
    subst ha
    simp only; rw [hl, h]

/-- **The run-time oracle of `./check C14` is a theorem of the model** (`Spec/C14.lean`): for every fault
oracle and every history (rounds of quiet set-up constructors, constructors / operations, consuming
constructors and driver steps on arbitrary driver states, teardown of everything held) the observations the
model produces - every call with its answer, every close, the events, the outcome of every API call, the
ledger line - are accepted by the predicate `Spec.specRun` that the check evaluates on the implementation:
"the failure is reported by an exception ... carrying the OS error ... or, inside the driver, through the
socket's disconnect handler, the send future, or an exception out of Step - never by ... a bogus success.
Afterwards ... every descriptor the library opened has been closed exactly once (none leaked, none closed
twice, none that it does not own)".  `Round.ok` is decidable: `query` is used with a socket call; the scenario
flag `discards` is truthful (`Spec.Op.ok`; both parts are shown necessary by `example`s in `Spec/C14.lean`). -/
theorem spec_holds_on_model (ctx : Spec.Ctx) (o : Oracle) (history : List Spec.Round)
    (hok : ∀ r ∈ history, r.ok ctx.discards = true) :
    ∃ s, Spec.specRun ctx {} (Spec.modelTrace o {} history) = .ok s :=
  Spec.model_satisfies_spec ctx o history hok

/-! Non-vacuity: concrete oracles on concrete programs. -/

/-- `bind` fails with EADDRINUSE inside `SocketUdp(addr)`: exception with that code, descriptor closed -/
example : (udpCtor (fun i => if i = 1 then some 98 else none) {}).1 = .error (.system 98) ∧
    (udpCtor (fun i => if i = 1 then some 98 else none) {}).2.live = [] ∧
    (udpCtor (fun i => if i = 1 then some 98 else none) {}).2.closes = [(0, 0)] := ⟨rfl, rfl, rfl⟩

/-- two faults: `bind` and the `getnameinfo` of the message -/
example : (udpCtor (fun i => if i = 1 then some 98 else if i = 2 then some (-3) else none) {}).1
    = .error (.address (-3)) := rfl

/-- fault-free `Driver()` owns two descriptors -/
example : (driverCtor (fun _ => none) {}).1 = .ok [0, 1] ∧ (driverCtor (fun _ => none) {}).2.live = [0, 1] := ⟨rfl, rfl⟩

/-- second `socket` of `Driver()` fails: the first pipe socket is closed -/
example : (driverCtor (fun i => if i = 2 then some 24 else none) {}).1 = .error (.system 24) ∧
    (driverCtor (fun i => if i = 2 then some 24 else none) {}).2.live = [] := ⟨rfl, rfl⟩

/-- a failing `recv` inside `Step` reaches the disconnect handler -/
example : let d : DSt := { pipeFrom := 0, pipeTo := 1, socks := [{ fd := 2, kind := .tcp, rx := 1 }] }
    ((driverStep d (fun i => if i = 1 then some 104 else none) { live := [0, 1, 2], next := 3 }).1.toOption.map (·.evs))
      = some [.disconnect 2] := rfl

end SockModel.Fd
