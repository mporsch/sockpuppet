import SockModel.Spec.C03
import SockModel.Generated.Funcs
/-!
# C03  Async events: in-order data, exactly-one disconnect, exactly-one connect

The property theorems (model: `Model/Dispatch.lean`, invariants: `Model/DispatchLemmas.lean`) and, at the end, the
source-derived tie of the dispatch chain.

`run order {} ops` is the state after *any* history `ops` of user operations (create client
sockets / acceptors, request a send, destroy a socket), peer operations (connect, send any
bytes, close, reset - by any number of peers in any order) and driver steps; every step takes
the OS' segmentation (`chunk`), the receive-buffer size the connect handler configures (`rx`)
and the set of sockets the invoked user handler destroys (`hdl`) as arbitrary parameters.  The
order in which several ready sockets are served is the list order of `sockets`/`pfds`, for every
such order (sockets are registered in any order by `ops`).  `s.log` is the sequence of handler
invocations.  `Consts.dispatchOrder` is the order of the readiness tests in `DoOneSocketTask`
as extracted from the source on every run.
-/
namespace SockModel.Dispatch

/-- "no handler of that socket runs afterwards" / "the disconnect handler runs exactly once":
in the handler log no event of socket `s` - data, a second disconnect, connect - comes after a
disconnect of `s`; so per socket the log is `data* · disconnect?`.  For every history and every
order of the readiness tests. -/
theorem handler_shape (order : List Nat) (ops : List Op) :
    (run order {} ops).log.Pairwise
      (fun e₁ e₂ => ∀ s a r, e₁ = Event.disconnect s a r → e₂.sock ≠ s) :=
  (inv_run inv_init ops).shape

/-- "the receive handler gets every byte the peer sent, in order, in non-empty chunks no larger
than the configured buffer size": for every connection the delivered chunks, concatenated in
handler order, followed by the bytes still queued are exactly the bytes the peer sent; every
chunk has between 1 and `rxBufSize` bytes, `rxBufSize` being the size of the socket it was
delivered to. -/
theorem data_in_order (order : List Nat) (ops : List Op) :
    let s := run order {} ops
    (∀ i, dataOf i s.log ++ (s.conn i).inbox = (s.conn i).stream) ∧
    (∀ i b rx, Event.data i b rx ∈ s.log →
      1 ≤ b.length ∧ b.length ≤ rx ∧ ∃ k ∈ s.created, k.id = i ∧ k.rxSize = rx ∧ k.kind = .tcp) :=
  ⟨(inv_run inv_init ops).dataInv, (inv_run inv_init ops).chunkOk⟩

/-- "when the peer closes or the connection fails the disconnect handler runs ... after all
previously sent data was delivered": with the readiness tests in the order of the source, a
disconnect of socket `i` is in the log only if the peer has ended the connection, and then the
chunks handed to `i`'s receive handler are *all* the bytes the peer ever sent. -/
theorem disconnect_after_drain (ops : List Op) (i a : Nat) (r : Reason) :
    let s := run Consts.dispatchOrder {} ops
    Event.disconnect i a r ∈ s.log → (s.conn i).ended = true ∧ dataOf i s.log = (s.conn i).stream := by
  intro s hm
  have h : DInv s := inv_run inv_init ops
  have hd : Drained s := (side_run inv_init side_init ops).drained
  have := hd i a r hm
  refine ⟨this.2, ?_⟩
  have hdi := h.dataInv i
  rw [this.1, List.append_nil] at hdi
  exact hdi

/-- "with the peer address the socket was created for": the address passed to the disconnect
handler is the one cached when the socket was registered (socket ids are unique), and the
socket has been unregistered *before* the handler ran. -/
theorem disconnect_address (order : List Nat) (ops : List Op) (i a : Nat) (r : Reason) :
    let s := run order {} ops
    Event.disconnect i a r ∈ s.log →
      (∃ k ∈ s.created, k.id = i ∧ k.peerAddr = a ∧ k.kind = .tcp) ∧ (s.created.map (·.id)).Nodup ∧
      i ∉ s.socks.map (·.id) := by
  intro s hm
  have h : DInv s := inv_run inv_init ops
  exact ⟨(h.addrOk i a r hm).1, h.createdNodup, (h.addrOk i a r hm).2⟩

/-- "An asynchronous acceptor invokes its connect handler exactly once per established connection,
with ... the connecting peer's address": for every acceptor `a`, the connections reported by its
connect handler (in order) followed by the ones still waiting to be accepted are exactly the
connections peers established to `a` (with their addresses, in order); connection ids are
unique, so none is reported twice and none is dropped. -/
theorem connect_exactly_once (order : List Nat) (ops : List Op) (a : Nat) :
    let s := run order {} ops
    connectsOf a s.log ++ s.backlog a = (s.made.filter (fun m => m.1 = a)).map (·.2) ∧
    (s.made.map (·.2.1)).Nodup :=
  ⟨(inv_run inv_init ops).connInv a, (inv_run inv_init ops).madeNodup⟩

/-- the mechanism C03 relies on: a readable socket is served by its readable handler whatever
else is signalled, and the error path is taken only when nothing is readable (so data and EOF
are consumed through `recv` before a hang-up is acted upon). -/
theorem dispatch_order (r : Rev) :
    (r.pin = true → pick Consts.dispatchOrder r = some .readable) ∧
    (pick Consts.dispatchOrder r = some .error → r.pin = false) ∧
    ((r.pin = true ∨ r.pout = true ∨ r.perr = true) → (pick Consts.dispatchOrder r).isSome = true) :=
  ⟨pick_consts_readable_first r, pick_consts_error_no_pin r, pick_consts_some r⟩

/-- "every byte is delivered, every closed peer gets exactly one disconnect, every established
connection exactly one connect, regardless of list position": in every reachable state, if any
registered socket is owed anything (undelivered bytes, an unreported close, an unaccepted
connection, a requested write), a step whose `poll` is not answered by the signalling pipe
performs a task, and the total owed strictly decreases - for every segmentation, every handler
behaviour and every position of the socket in the list.  Only peers and users add work. -/
theorem events_progress (ops : List Op) (chunk rx : Nat) (hdl : List Nat) :
    let s := run Consts.dispatchOrder {} ops
    0 < measure s →
      (firstTask Consts.dispatchOrder s s.socks).isSome = true ∧
      measure (stepSockets Consts.dispatchOrder s false chunk rx hdl) < measure s := by
  intro s hpos
  have h : DInv s := inv_run inv_init ops
  have hw : WInv s := (side_run inv_init side_init ops).wantReg
  obtain ⟨k, hk, hwk⟩ := exists_work_pos hpos
  have hsome := firstTask_some (order := Consts.dispatchOrder) hk (pick_consts_some _ (work_flag hwk))
  refine ⟨hsome, ?_⟩
  unfold stepSockets
  simp only [Bool.false_eq_true, ↓reduceIte]
  cases hf : firstTask Consts.dispatchOrder s s.socks with
  | none => rw [hf] at hsome; cases hsome
  | some p =>
    obtain ⟨k', t⟩ := p
    have := firstTask_spec hf
    exact progress_doTask h hw this.1 this.2 chunk rx hdl

/-- "All handlers run on the thread that is executing Step/Run" (model part): the handler log
changes only inside a `step`; and a step whose `poll` was answered by the signalling pipe only
unbumps. -/
theorem handlers_in_step (order : List Nat) (s : St) (op : Op) :
    (∀ pipe chunk rx hdl, op ≠ .step pipe chunk rx hdl) ∨ (∃ chunk rx hdl, op = .step true chunk rx hdl) →
    (apply order s op).log = s.log := by
  intro hop
  cases op with
  | step pipe chunk rx hdl =>
    rcases hop with hop | ⟨c, r, hd, hop⟩
    · exact absurd rfl (hop pipe chunk rx hdl)
    · cases hop; rfl
  | peerConnect | peerSend | wantSend => simp only [apply]; split <;> rfl
  | _ => rfl

/-- exactly one task per step: at most one handler invocation is added -/
theorem one_handler_per_step (order : List Nat) (s : St) (pipe : Bool) (chunk rx : Nat) (hdl : List Nat) :
    (stepSockets order s pipe chunk rx hdl).log = s.log ∨
    ∃ e, (stepSockets order s pipe chunk rx hdl).log = s.log ++ [e] :=
  stepSockets_cases (motive := fun s' => s'.log = s.log ∨ ∃ e, s'.log = s.log ++ [e]) pipe chunk rx hdl (Or.inl rfl)
    fun _ _ _ hp => doTask_cases (motive := fun s' => s'.log = s.log ∨ ∃ e, s'.log = s.log ++ [e]) hp chunk rx hdl
      (fun _ _ _ => Or.inl rfl)
      (fun _ _ _ _ _ => Or.inr ⟨_, destroyAll_log _ _⟩) (fun _ _ _ => Or.inr ⟨_, destroyAll_log _ _⟩)
      (fun _ _ _ _ _ _ => Or.inr ⟨_, destroyAll_log _ _⟩) (fun _ _ _ _ _ _ => Or.inr ⟨_, destroyAll_log _ _⟩)

/-- **the whole property, as the check evaluates it on the implementation, holds on the model**: the
predicate of `Spec/C03.lean` (`Spec.specStep`: the reference book-keeping kept from the observations
alone - per connection the stream the peer sent, bytes delivered, ended, registered, gone, buffer size,
address; per acceptor the connections waiting; queued sends - which rejects a step with more than one
socket task, a handler on a foreign thread, a chunk that is empty / larger than the buffer / not the
next bytes of the stream, a disconnect of a connection the peer did not end or whose bytes are not all
delivered or with an address other than the one the socket was created for, anything after disconnect
or destruction, a connect handler that is duplicate / out of order / reports the wrong peer / hands
over the wrong socket, and a step that does nothing while something is owed to a live socket) accepts
the observations the model produces (`Spec.modelTrace`: the operations and the entries every step
appends to the model's handler log) for every history of any length, every segmentation, every
receive-buffer size and every handler-side destruction, with the readiness tests in the order of the
source.  `./check C03` runs the very same `Spec.specStep` on the transcript of the real library, so a
`spec` verdict there is a difference between library and model.  `histWf`: peers send / close / reset
only connections that exist (a precondition of the model, which keeps a channel for every id). -/
theorem spec_holds_on_model (ops : List Op) (hwf : Spec.histWf Consts.dispatchOrder {} ops = true) :
    ∃ s, Spec.specRun {} (Spec.modelTrace Consts.dispatchOrder {} ops) = .ok s :=
  Spec.model_satisfies_spec ops hwf

/-! ### non-vacuity -/

/-- a history with two accepted connections, a client, data before accept, segmentation, a queued
send, a reset, a close, a pipe wake-up, destruction inside a handler and outside -/
def specWitness : List Op :=
  [.newAcceptor, .peerConnect 0 7, .peerSend 1 [1, 2, 3], .peerConnect 0 8, .newClient 5 4, .wantSend 3, .peerRst 2,
   .step false 0 2 [], .step false 0 2 [], .step false 2 2 [], .step false 2 2 [3], .step true 0 0 [], .peerClose 1,
   .step false 2 2 [], .step false 2 2 [], .destroy 0, .step false 2 2 []]

example : Spec.histWf Consts.dispatchOrder {} specWitness = true := by decide
example : (Spec.modelTrace Consts.dispatchOrder {} specWitness).length = 16 ∧
    (run Consts.dispatchOrder {} specWitness).log =
      [.connect 0 1 7, .connect 0 2 8, .data 1 [1, 2] 2, .data 1 [3] 2, .disconnect 1 7 .eof, .disconnect 2 8 .fail] := by decide
example : (Spec.specRun {} (Spec.modelTrace Consts.dispatchOrder {} specWitness)).toOption.isSome = true := by decide

/-- the predicate is not vacuous and both hypotheses matter: with `POLLHUP|POLLERR` tested first the
model's own trace is REJECTED (disconnect before the data was delivered), and so is a trace in which a
peer sent on a connection id that did not exist yet -/
example : (Spec.specRun {} (Spec.modelTrace [2, 0, 1] {}
    [.newClient 5 4, .peerSend 0 [1, 2, 3], .peerRst 0, .step false 9 9 []])).toOption.isNone = true := by decide
example : (Spec.specRun {} (Spec.modelTrace Consts.dispatchOrder {}
    [.peerSend 0 [1, 2, 3], .newClient 5 4, .step false 9 9 []])).toOption.isNone = true := by decide

/-- two peers on one acceptor, data before accept, segmentation into 2-byte chunks, close -/
example :
    let s := run Consts.dispatchOrder {}
      [.newAcceptor, .peerConnect 0 7, .peerSend 1 [1, 2, 3], .peerConnect 0 8, .peerClose 1,
       .step false 0 2 [], .step false 0 2 [], .step false 2 2 [], .step false 2 2 [], .step false 2 2 [], .step false 2 2 []]
    s.log = [.connect 0 1 7, .connect 0 2 8, .data 1 [1, 2] 2, .data 1 [3] 2, .disconnect 1 7 .eof] ∧
      s.socks.map (·.id) = [0, 2] := by decide

/-- a handler that destroys another ready socket: that socket gets no event -/
example :
    let s := run Consts.dispatchOrder {}
      [.newClient 5 4, .newClient 6 4, .peerSend 0 [9], .peerSend 1 [8], .step false 9 1 [1], .step false 9 1 []]
    s.log = [.data 0 [9] 4] := by decide

end SockModel.Dispatch

/-! ## Source-derived tie, stage 4 (DESIGN.md §0.7.3): the dispatch chain of `DoOneSocketTask`

`SockModel.Gen.SocketTask_chain` (Generated/Funcs.lean) is the per-socket `if / else if` chain of
`Driver::DriverImpl::DoOneSocketTask(received)` as read from the clang AST of the current source: the conditions
(`pfd.revents & MASK`, `i == received`, with the macro values of the poll bits) are translated, each branch is
recognised by its exact statements.  The model and its theorems use `Consts.dispatchOrder` (regex extraction);
the tie says that `pick Consts.dispatchOrder` IS that chain. -/
namespace SockModel.Props.C03
open SockModel SockModel.Dispatch

/-- the model's view of a `revents` word: `POLLIN` = 1, `POLLOUT` = 4, `POLLERR | POLLHUP` = 8 | 16 -/
def revOf (r : Nat) : Rev := ⟨decide (r &&& 1 ≠ 0), decide (r &&& 4 ≠ 0), decide (r &&& 24 ≠ 0)⟩

def toTask : Gen.TaskChoice → Option Task
  | .readable => some .readable
  | .writable => some .writable
  | .error => some .error
  | .next => none

/-- **tie of the dispatch chain**: the model's `pick` with the order extracted into `Consts.dispatchOrder` is the
`if / else if` chain of `DoOneSocketTask` as compiled from the current source, for every `revents` word -/
theorem tie_pick (r : Nat) : pick Consts.dispatchOrder (revOf r) = toTask (Gen.SocketTask_chain r false) := by
  simp only [Consts.dispatchOrder, pick_std, revOf, decide_eq_true_eq, Gen.SocketTask_chain, Bool.false_eq_true, or_false]
  repeat' split
  all_goals simp_all [toTask]

/-- the socket `QuerySockets` returned (`i == received`) is served as readable whatever its `revents` (the
`forcedRev` of Model/Tls.lean: `rd := true`) -/
theorem tie_pick_received (r : Nat) :
    pick Consts.dispatchOrder { revOf r with pin := true } = toTask (Gen.SocketTask_chain r true) := by
  simp only [Consts.dispatchOrder, pick_std, revOf, decide_eq_true_eq, Gen.SocketTask_chain, or_true]
  repeat' split
  all_goals simp_all [toTask]

/-- ... and that chain is the order the model's theorems are about: readable before writable before error
(`Consts.dispatchOrder` is `[0, 1, 2]`) -/
theorem tie_chain_order (r : Nat) : toTask (Gen.SocketTask_chain r false) = pick [0, 1, 2] (revOf r) :=
  (tie_pick r).symm
end SockModel.Props.C03
