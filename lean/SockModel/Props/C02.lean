import SockModel.Spec.C02
import SockModel.Model.GenQueueWorld
import SockModel.Generated.Loops
/-!
# C02  Async send pipeline: FIFO, whole buffers, futures tell the truth

The property theorems (model: `Model/AsyncQ.lean`, invariant: `Model/AsyncQLemmas.lean`), then the source-derived
ties of `DriverSend` and of the enqueue side.

`run {} acts` is the state after *any* list `acts` of atomic actions
`enq t id bytes` / `arm t` / `writable ans` / `disarm` / `unregister` / `destroy`,
i.e. after any interleaving of any number of producer threads `t` with the
driver thread, any sequence of buffer contents (empty ones included) and any
pattern of partial writes / failed sends (`ans`).  Actions that the mutexes
forbid in a state are no-ops, so the quantification is exactly over the legal
interleavings at critical-section granularity.

`s.enqd` is the list of all `(id, bytes)` handed to `Send`, in the order in which
the `enq` critical sections took effect (each thread's own order is a
sub-order of it); `s.wire` are the bytes the OS accepted, in order.
-/
namespace SockModel.AsyncQ

/-- "Buffers handed to an asynchronous TCP socket's Send reach the peer as one contiguous copy
each, in the order in which the Send calls took effect, however the OS fragments the writes."

The byte stream (what the OS accepted so far, followed by what is still queued) is the
concatenation, in `enq` order, of exactly one contiguous piece per enqueued buffer; the piece is
the whole buffer unless that buffer's future carries an exception (its send failed: the unsent
remainder is dropped) or is broken (socket destroyed first), in which case it is a prefix.
Nothing is duplicated, reordered or interleaved, for every partial-write pattern. -/
theorem asyncq_wire (acts : List Action) :
    let s := run {} acts
    ∃ pieces : List Bytes,
      Pieces s.fut s.enqd pieces ∧
      s.wire ++ (s.q.map (·.rest)).flatten = pieces.flatten := by
  intro s
  have h : QInv s := inv_run inv_init acts
  refine ⟨s.done.map (·.sent) ++ s.q.map (·.full), ?_, ?_⟩
  · rw [h.enqd]
    apply Pieces.append (pieces_done h s.done (fun _ hd => hd))
    apply Pieces.map
    intro e _
    exact ⟨List.prefix_refl _, fun _ => rfl⟩
  · rw [h.wire, List.flatten_append, List.append_assoc, q_stream h.tail]


/-- "with a value only after every byte of its buffer (and of all earlier buffers) was accepted
by the OS": if future `id` holds a value, the wire starts with the pieces of all earlier buffers
(whole buffers, except for earlier ones whose own send failed) followed by all of `id`'s bytes. -/
theorem asyncq_future_truth (acts : List Action) (id : Nat) :
    let s := run {} acts
    s.fut id = .value →
      ∃ pre b post pieces, s.enqd = pre ++ (id, b) :: post ∧ Pieces s.fut pre pieces ∧
        (pieces.flatten ++ b) <+: s.wire := by
  intro s hv
  have h : QInv s := inv_run inv_init acts
  obtain ⟨d, hd, hid⟩ := resolved_in_done h (id := id) (by rw [hv]; rfl)
  obtain ⟨d1, d2, hsplit⟩ := List.append_of_mem hd
  have hdd := h.futd d hd
  have hdrop : d.dropped = [] := hdd.2.2 (by rw [← hdd.1, hid]; exact hv)
  refine ⟨d1.map (fun d => (d.id, d.full)), d.full, d2.map (fun d => (d.id, d.full)) ++ s.q.map (fun e => (e.id, e.full)),
    d1.map (·.sent), ?_, ?_, ?_⟩
  · rw [h.enqd, hsplit, ← hid]; simp
  · exact pieces_done h d1 (fun x hx => by rw [hsplit]; simp [hx])
  · rw [h.wire, hsplit]
    simp only [List.map_append, List.map_cons, List.flatten_append, List.flatten_cons, Done.full, hdrop,
      List.append_nil, List.append_assoc]
    exact ⟨_, by rw [List.append_assoc]⟩


/-- "with an exception if transmitting it failed, or as a broken promise if the socket is
destroyed first": a future acquires an exception only in the `writable fail` action that tried to
send *its* element (the front one), a value only in the `writable (accept k)` action that accepted
the last byte of its element, and becomes broken only by `destroy` while pending. -/
theorem asyncq_future_origin (s : St) (a : Action) (id : Nat) :
    ((step s a).fut id = .exn → s.fut id = .exn ∨
        (a = .writable .fail ∧ ∃ e rest, s.q = e :: rest ∧ e.id = id)) ∧
    ((step s a).fut id = .value → s.fut id = .value ∨
        (∃ k e rest, a = .writable (.accept k) ∧ s.q = e :: rest ∧ e.id = id ∧ e.rest.length ≤ k)) ∧
    ((step s a).fut id = .broken → s.fut id = .broken ∨ (a = .destroy ∧ s.fut id = .pending)) := by
  -- `upd` with a state other than `x` does not make a future `x`
  have skip : ∀ {j : Nat} {v x : Fut} {P : Prop}, v ≠ x → upd s.fut j v id = x → s.fut id = x ∨ P :=
    fun hv h => (upd_eq_cases h).imp_right (fun h' => absurd h'.2 hv)
  have he := step_effect s a
  generalize (step s a).fut = f, (step s a).q = q at he
  cases he with
  | idle | part => exact ⟨Or.inl, Or.inl, Or.inl⟩
  | push t i b => exact ⟨skip nofun, skip nofun, skip nofun⟩
  | sent k hq hk =>
    exact ⟨skip nofun, fun h => (upd_eq_cases h).imp_right (fun h' => ⟨k, _, _, rfl, hq, h'.1.symm, hk⟩), skip nofun⟩
  | failed hq =>
    exact ⟨fun h => (upd_eq_cases h).imp_right (fun h' => ⟨rfl, _, _, hq, h'.1.symm⟩), skip nofun, skip nofun⟩
  | destroy =>
    by_cases hp : s.fut id = .pending
    · dsimp only; rw [if_pos hp]
      exact ⟨(fun h => nomatch h), (fun h => nomatch h), fun _ => .inr ⟨rfl, hp⟩⟩
    · dsimp only; rw [if_neg hp]
      exact ⟨Or.inl, Or.inl, Or.inl⟩


/-- "Each returned future becomes ready exactly once": a resolved future never changes again,
whatever happens afterwards. -/
theorem asyncq_future_once (acts more : List Action) (id : Nat) :
    let s := run {} acts
    (s.fut id).resolved = true → (run s more).fut id = s.fut id :=
  fut_stable_run (inv_run inv_init acts) more id


/-- "in particular every moment at which the queue runs empty and is refilled": while the socket
is registered and the queue is non-empty, `POLLOUT` is armed or some producer thread that saw the
empty queue is still on its way to `AsyncWantSend` - the refill is never forgotten. -/
theorem asyncq_armed (acts : List Action) :
    let s := run {} acts
    s.registered = true → s.q ≠ [] → s.armed = true ∨ ∃ t, t ∈ s.pendingArm := by
  intro s hr hq
  have h : QInv s := inv_run inv_init acts
  rcases h.armedInv hr hq with ha | hp
  · exact Or.inl ha
  · right
    cases hpa : s.pendingArm with
    | nil => exact absurd hpa hp
    | cons t ts => exact ⟨t, by simp⟩


/-- "it does not stay pending while the driver runs and the peer reads": every writable event on a
non-empty queue that accepts at least one byte (or meets an empty buffer) strictly decreases
`Σ|unsent| + |queue|`; together with `asyncq_armed` (the event stays requested) and
`asyncq_no_new_work` the queue drains and every future resolves. -/
theorem asyncq_drains (s : St) (e : Elem) (rest : List Elem) (k : Nat)
    (hen : s.destroyed = false ∧ s.registered = true ∧ s.armed = true ∧ s.drvDisarm = false)
    (hq : s.q = e :: rest) (hk : 0 < k ∨ e.rest = []) :
    measure (step s (.writable (.accept k))) < measure s := by
  rw [writable_enabled _ hen.1 hen.2.1 hen.2.2.1 hen.2.2.2]
  simp only [hq, driverSend]
  split
  · simp [measure, hq]
  · rename_i hlt
    have hpos : 0 < k := by
      rcases hk with hk | hk
      · exact hk
      · rw [hk] at hlt; exact absurd (Nat.zero_le k) hlt
    rw [if_neg (Nat.pos_iff_ne_zero.mp hpos)]
    simp only [measure, hq, List.map_cons, List.sum_cons, List.length_drop]
    omega


/-- only `Send` adds work -/
theorem asyncq_no_new_work (s : St) (a : Action) (h : ∀ t id b, a ≠ .enq t id b) :
    measure (step s a) ≤ measure s := by
  have he := step_effect s a
  unfold measure
  generalize (step s a).fut = f, (step s a).q = q at he
  cases he with
  | idle => exact Nat.le_refl _
  | push t i b => exact absurd rfl (h t i b)
  | sent k hq | failed hq => rw [hq]; simp
  | part k hq hk => rw [hq]; simp only [List.map_cons, List.sum_cons, List.length_drop]; omega
  | destroy => exact Nat.zero_le _


/-- "The buffer goes back to its pool only after its last byte was handed to the OS (or the send
failed), and no later than the end of the driver step in which its future resolves": in every
reachable state a buffer is back in the pool iff its future is resolved (both happen in the same
atomic action), iff it was enqueued and is no longer queued; each buffer returns once. -/
theorem asyncq_buffer_return (acts : List Action) (id : Nat) :
    let s := run {} acts
    (id ∈ s.returned ↔ (s.fut id).resolved = true) ∧
    (id ∈ s.returned ↔ id ∈ s.enqd.map (·.1) ∧ id ∉ s.q.map (·.id)) ∧
    s.returned.Nodup := by
  intro s
  have h : QInv s := inv_run inv_init acts
  have hnd := List.nodup_append.mp (h.ids ▸ h.nodup)
  refine ⟨h.returned_iff id, ?_⟩
  rw [h.ret, h.ids]
  exact ⟨⟨fun hm => ⟨List.mem_append_left _ hm, fun hq => hnd.2.2 id hm id hq rfl⟩,
     fun ⟨hin, hnq⟩ => (List.mem_append.mp hin).resolve_right hnq⟩, hnd.1⟩


/-- "or as a broken promise if the socket is destroyed first": after `destroy` (possible whenever
the driver is not in the middle of a step) no future is pending - the pending ones became broken,
resolved ones kept their state -, every buffer is back in its pool, and nothing changes any more. -/
theorem asyncq_destroy (acts more : List Action) :
    let s := run {} acts
    s.drvDisarm = false →
    let s' := run (step s .destroy) more
    (∀ id, s'.fut id ≠ .pending) ∧ (∀ e ∈ s'.enqd, e.1 ∈ s'.returned) ∧ s'.q = [] ∧
    (∀ id, s.fut id = .pending → s'.fut id = .broken) ∧
    (∀ id, (s.fut id).resolved = true → s'.fut id = s.fut id) := by
  intro s hdis s'
  have h : QInv s := inv_run inv_init acts
  have h1 : QInv (step s .destroy) := inv_step h _
  have hd1 : (step s .destroy).destroyed = true := by
    simp only [step]; split
    · rename_i hc; exact hc.resolve_right (by rw [hdis]; exact Bool.false_ne_true)
    · rfl
  have hstuck : s' = step s .destroy := run_destroyed h1 hd1 more
  have hq : (step s .destroy).q = [] := (h1.destr hd1).1
  rw [hstuck]
  refine ⟨?_, ?_, hq, ?_, fun id hr => fut_stable_step h .destroy id hr⟩
  · intro id hp
    obtain ⟨e, he, _⟩ := pending_in_q h1 hp
    rw [hq] at he; cases he
  · intro e he
    have : e.1 ∈ (step s .destroy).enqd.map (·.1) := List.mem_map_of_mem he
    rw [h1.ids, hq] at this
    simpa [h1.ret] using this
  · -- a pending future is queued, so the socket is not destroyed yet and `destroy` acts
    intro id hp
    obtain ⟨e, he, _⟩ := pending_in_q h hp
    have hnd : s.destroyed = false := by
      cases hx : s.destroyed with
      | false => rfl
      | true => rw [(h.destr hx).1] at he; cases he
    simp [step, hnd, hdis, hp]


/-- **the whole property, as the check evaluates it on the implementation, holds on the model**: `specRun` of
`Spec/C02.lean` - the very function `./check C02` runs on the transcript of the real library - accepts the observations
the model produces for every history (`model_satisfies_spec` there says which clauses and which histories), so a spec
failure of the check is a difference between library and model.  Hypothesis `Op.sane`: the kernel does not answer 0 to
an unscripted `send()` (a clause of the spec about the kernel, not the library). -/
theorem spec_holds_on_model (ops : List Op) (hs : ∀ op ∈ ops, op.sane) :
    ∃ sp, specRun {} (modelTrace {} ops) = .ok sp :=
  model_satisfies_spec ops hs

/-! ### non-vacuity: concrete interleavings with partial writes, a failed send, the refill race -/

/-- two producers, partial writes, a failed send in the middle: wire and futures -/
example :
    let s := run {} [.enq 0 1 [1, 2, 3], .arm 0, .enq 1 2 [4, 5], .enq 0 3 [6],
                     .writable (.accept 2), .writable (.accept 7), .writable .fail, .writable (.accept 1), .disarm]
    s.wire = [1, 2, 3, 6] ∧ s.fut 1 = .value ∧ s.fut 2 = .exn ∧ s.fut 3 = .value ∧ s.returned = [1, 2, 3] ∧
      s.armed = false := by decide

/-- the empty/refill race: the queue runs empty, a producer refills it before the driver clears
`POLLOUT`; its `AsyncWantSend` has to wait for `stepMtx` and re-arms afterwards -/
example :
    let s := run {} [.enq 0 1 [1], .arm 0, .writable (.accept 1), .enq 1 2 [2], .arm 1, .disarm, .arm 1]
    s.armed = true ∧ s.pendingArm = [] ∧ s.q.map (·.id) = [2] := by decide

/-- destroy with a partially sent front buffer -/
example :
    let s := run {} [.enq 0 1 [1, 2, 3], .arm 0, .enq 0 2 [], .writable (.accept 1), .destroy]
    s.wire = [1] ∧ s.fut 1 = .broken ∧ s.fut 2 = .broken ∧ s.returned = [1, 2] := by decide

/-- the hypothesis of `spec_holds_on_model` is met by it -/
example : ∀ op ∈ specDemo, op.sane := by decide

/-- what the model shows for it: the future letters after every Send / step / destroy -/
example : (modelTrace {} specDemo).filterMap (fun o => match o with
      | .send _ _ (some st) | .step _ _ _ _ _ (some st) | .destroy (some st) => some st.futs | _ => none)
    = ["p", "pp", "pp", "pp", "vp", "ve", "vep", "vep", "vev", "vevp", "vevp", "vevp", "vevb", "vevb"] := by decide +kernel

/-- ... and the observer's book-keeping at the end -/
example : (specRun {} (modelTrace {} specDemo)).toOption.map (fun sp => (sp.status, sp.pend.length, sp.acc, sp.connected))
    = some ([(1, 'v'), (2, 'e'), (3, 'v'), (4, 'b')], 0, [9], false) := by decide +kernel

/-- the predicate is not trivially accepting: a value before the last byte was accepted is rejected ... -/
example : (specRun {} [.send 1 [1, 2] (some ⟨"p", []⟩),
    .step false [.sent 2 1] false false none (some ⟨"v", [1]⟩)]).toOption.isNone := by decide

/-- ... and so are a step that makes no send attempt although a buffer is queued and the peer has read
everything, and a buffer that is not back in the pool when its future is resolved -/
example : (specRun {} [.send 1 [1, 2] (some ⟨"p", []⟩),
    .step false [] false false none (some ⟨"p", []⟩)]).toOption.isNone := by decide
example : (specRun {} [.send 1 [1, 2] (some ⟨"p", []⟩),
    .step false [.sent 2 2] false false none (some ⟨"v", []⟩)]).toOption.isNone := by decide

end SockModel.AsyncQ

/-! ## Source-derived tie, stage 4 (DESIGN.md §0.7.3): `SocketAsyncImpl::DriverSend`

Generated on every run from the clang AST of src/socket_async_impl.cpp (Generated/Loops.lean) over the abstract queue /
promise / buffer / socket interface `Gen.QueueWorld` (`auto &&[promise, buffer(, addr)] = q.front()`; `try` /
`catch(std::runtime_error const &)` as `M.tryCatch`), run on the model's own queue state (Model/GenQueueWorld.lean) and
tied to the model's writable action for EVERY queue, every future state and every answer of the OS.  Every generated
`if` is decided by `omega` from the case hypotheses (whatever its polarity / arithmetic form), so the early-return
and `q.empty()` forms of harmless_H07 are re-proved by the same script. -/
namespace SockModel.Props.C02
open SockModel SockModel.AsyncQ SockModel.GenWorld

/-- the model state after a writable event, from what the generated `DriverSend` returns and leaves behind: the return
value ("queue emptied") is what makes `DoOneSocketTask` clear `POLLOUT` next (`drvDisarm`); an exception leaves it -/
def afterWritable (r : Gen.Res Bool × QSt) : St :=
  match r.1 with
  | .ok b => { r.2.s with drvDisarm := b }
  | _ => r.2.s

theorem isA_sys_rt : Gen.ExnClass.isA .system_error .runtime_error = true := rfl
theorem isA_rt_rt : Gen.ExnClass.isA .runtime_error .runtime_error = true := rfl
theorem isA_logic_rt : Gen.ExnClass.isA .logic_error .runtime_error = false := rfl

theorem len_succ_eq_one {α : Type} (l : List α) : (((l.length + 1 : Nat) : Int) = 1) = (l.isEmpty = true) := by
  cases l <;> simp <;> omega

theorem tie_DriverSend (fuel : Nat) (s : St) (a : Ans) (hd : s.drvDisarm = false) :
    afterWritable (Gen.DriverSend asyncQWorld fuel ⟨s, some a⟩)
      = match s.q with
        | [] => { s with drvDisarm := true }
        | e :: rest => driverSend s e rest a := by
  obtain ⟨q, armed, registered, destroyed, drvDisarm, wire, fut, returned, pendingArm, enqd, done⟩ := s
  simp only at hd
  subst hd
  -- the outcomes of one writable event, each with the facts that decide the generated `if`s
  have outcome : q = [] ∨ ∃ e rest, q = e :: rest ∧ (a = .fail ∨ ∃ k, a = .accept k ∧
      ((e.rest.length ≤ k ∧ min k e.rest.length = e.rest.length) ∨ (k = 0 ∧ ¬ e.rest.length ≤ k) ∨
       (k ≠ 0 ∧ ¬ e.rest.length ≤ k ∧ min k e.rest.length = k))) := by
    cases q with
    | nil => exact .inl rfl
    | cons e rest =>
      refine .inr ⟨e, rest, rfl, ?_⟩
      cases a with
      | fail => exact .inl rfl
      | accept k => exact .inr ⟨k, rfl, by omega⟩
  -- run the generated code on the model's queue: unfold, rewrite the world calls, decide every generated `if` by
  -- `omega` from the case hypotheses in the context (whatever its polarity and arithmetic form)
  rcases outcome with rfl | ⟨e, rest, rfl, rfl | ⟨k, rfl, ⟨h1, hm⟩ | ⟨h2, h1⟩ | ⟨h2, h1, hm⟩⟩⟩ <;>
    simp (disch := omega) only [Gen.DriverSend, Gen.M.bind, Gen.M.pure, Gen.M.throw, Gen.M.tryCatch, isA_sys_rt,
      isA_rt_rt, isA_logic_rt, q_qSize, q_qEmpty, q_qPop, q_bufferSize, q_bufferErase, q_promiseSetValue,
      q_promiseSetException, q_sockSendSome, q_sockDriverPending, List.length_cons, List.length_nil, List.isEmpty_cons,
      List.isEmpty_nil, if_pos, if_neg, if_true, if_false, ite_true, ite_false, Bool.true_eq_false, Bool.false_eq_true,
      Int.toNat_natCast, upd_same]
  -- the model side, outcome by outcome
  · -- empty queue
    simp [afterWritable]
  · -- the send failed
    simp [afterWritable, driverSend, len_succ_eq_one, dec_len]
  · -- the whole remainder was accepted
    simp [afterWritable, driverSend, len_succ_eq_one, dec_len, h1, hm]
  · -- 0 accepted of a non-empty buffer: `logic_error`, nothing changes (an empty buffer would contradict `h1`)
    simp [afterWritable, driverSend, h1, h2]
    intro he; simp [he] at h1
  · -- partial write
    simp [afterWritable, driverSend, h1, h2, hm]

/-- **tie of the enqueue side** `SocketAsyncImpl::Send` → `DoSend<SendQ>` → `DoSendEnqueue<SendQ>`: with `sendQMtx` free
at the call, the generated code takes the lock, reads `q.empty()`, performs the model's `enq` action, releases the lock
and then - iff the queue was empty - performs the model's `arm` action of the same thread; it ends with the lock free -/
theorem tie_AsyncSend (fuel : Nat) (s : St) (t id : Nat) (bytes : Bytes) :
    Gen.AsyncSend enqWorld fuel ⟨s, t, id, bytes, false⟩ =
      (.ok (), ⟨if s.q.isEmpty then step (step s (.enq t id bytes)) (.arm t) else step s (.enq t id bytes), t, id, bytes, false⟩) := by
  simp (disch := omega) only [Gen.AsyncSend, Gen.M.bind, Gen.M.pure, e_qEmpty, e_qEmplace,
    e_lock, e_unlock, e_driverLock, e_driverAsyncWantSend, if_true, if_false, ite_true, ite_false, Bool.false_eq_true]
  cases h : s.q.isEmpty <;>
    simp (disch := omega) only [h, Gen.M.bind, Gen.M.pure, e_driverLock, e_driverAsyncWantSend, if_true, if_false, ite_true,
      ite_false, Bool.false_eq_true]
end SockModel.Props.C02
