import SockModel.Spec.C17
/-!
# C17  Every legal API history on driver, sockets and ToDos is memory-safe

Property theorems only (invariants are in `Model/LifecycleLemmas.lean`).  Histories are lists of
`Op` of any length over any number of drivers, sockets and ToDos; `legal` encodes the usage rules
(pools outlive their buffers, no self-destruction in the receive handler, objects are used while
they exist) and never looks at the model's `ub` flag.
-/
namespace SockModel.Lifecycle

/-- "Any sequence of public operations that respects the usage rules ... is free of undefined
behaviour in every lifecycle state": sending on a socket whose peer already disconnected,
destroying a socket inside its disconnect handler or with sends pending, destroying the driver
before or after its sockets and ToDos, cancelling or shifting finished ToDos, stepping an empty
driver are all legal histories.  (Invariant: `sockets`/`pfds` stay parallel; every socket listed by
a live driver is alive and belongs to it; weak driver references are checked before use.) -/
theorem legal_never_ub (h : List Op) (hl : legal h = true) : (run .fixed {} h).ub = none :=
  (LInv.init.run h hl).ub

/-- the structural invariant itself, for every legal history: the two vectors of every driver are
in step and list only live sockets of that driver, without duplicates -/
theorem legal_vectors_parallel (h : List Op) (hl : legal h = true) (d : Nat) :
    let s := run .fixed {} h
    (s.drv d).pfds.map (·.1) = (s.drv d).sockets ∧ (s.drv d).sockets.Nodup ∧
    ((s.drv d).alive = true → ∀ x ∈ (s.drv d).sockets, (s.sock x).alive = true ∧ (s.sock x).drv = d) := by
  have hi := LInv.init.run h hl
  exact ⟨hi.par d, hi.nodup d, fun ha x hx => hi.reg d x ha hx⟩

/-- "Futures of sends that can no longer happen are released as broken promises when the socket is
destroyed, never left dangling": after *any* history (legal or not, fixed or pre-fix variant), no
future of a socket that does not exist any more is pending. -/
theorem futures_not_dangling (v : Variant) (h : List Op) (x j : Nat) (st : Fut) :
    let s := run v {} h
    (s.sock x).alive = false → s.futs j = some (x, st) → st ≠ .pending := by
  intro s hdead hj hp
  subst hp
  have := (FInv.init.run v h).fd j x hj
  rw [hdead] at this
  cases this.1

/-- and while the socket lives, a pending future is exactly a queued send (it will be resolved by
the driver or broken by the destructor) -/
theorem pending_is_queued (v : Variant) (h : List Op) (x j : Nat) :
    let s := run v {} h
    s.futs j = some (x, .pending) → (s.sock x).alive = true ∧ j ∈ (s.sock x).sendQ :=
  fun hj => (FInv.init.run v h).fd j x hj

/-! ### destruction in any order -/

/-- "destroying the driver before or after its sockets and ToDos": after any legal history, the
objects that exist (sockets whose receive buffers were returned, drivers, ToDo handles) may be
destroyed in **any order** - every permutation is again a legal history, hence free of undefined
behaviour, and leaves no future pending (`futures_not_dangling`). -/
theorem destroy_any_order (h tail : List Op) (hl : legal h = true) (hnd : tail.Nodup)
    (hk : ∀ op ∈ tail, isDestroy op = true) (hr : ∀ op ∈ tail, legalOp (run .fixed {} h) op = true) :
    legal (h ++ tail) = true ∧ (run .fixed {} (h ++ tail)).ub = none := by
  have hlt : legal (h ++ tail) = true := by
    unfold legal at hl ⊢
    rw [legalFrom_append, hl, Bool.true_and]
    exact legalFrom_destroy_tail tail _ hnd hk hr
  exact ⟨hlt, legal_never_ub _ hlt⟩

/-- "cancelling or shifting finished ToDos, stepping an empty driver": these only need the handle /
the driver to exist - whatever the ToDo's or the driver's state - so appending them to a legal
history gives a legal (hence UB-free) history. -/
theorem finished_todo_and_empty_step_legal (h : List Op) (hl : legal h = true) (op : Op)
    (hop : (∃ t, (op = .cancel t ∨ op = .shift t) ∧ ((run .fixed {} h).todo t).handle = true) ∨
           (∃ d, op = .step d ∧ ((run .fixed {} h).drv d).alive = true)) :
    legal (h ++ [op]) = true ∧ (run .fixed {} (h ++ [op])).ub = none := by
  have hlt : legal (h ++ [op]) = true := by
    unfold legal at hl ⊢
    rw [legalFrom_append, hl, Bool.true_and]
    simp only [legalFrom, Bool.and_true]
    rcases hop with ⟨t, (e | e), ht⟩ | ⟨d, e, hd⟩ <;> subst e <;> simpa [legalOp]
  exact ⟨hlt, legal_never_ub _ hlt⟩

/-- F3: before fix e9c24f0 `AsyncWantSend` wrote through `pfds.end()`; the legal history
[attach; peer closes; step; step; send] reaches undefined behaviour in the pre-fix variant ... -/
theorem legacy_wantsend_ub :
    legal [.mkDriver 0, .mkSock 0 .tcp 0 false false false, .peerClose 0, .step 0, .step 0, .send 0] = true ∧
    (run .legacy {} [.mkDriver 0, .mkSock 0 .tcp 0 false false false, .peerClose 0, .step 0, .step 0, .send 0]).ub
      = some "AsyncWantSend writes through pfds.end()" := ⟨rfl, rfl⟩

/-- the predicate `./check C17` evaluates on the implementation's observations (`Spec/C17.lean`: `specStep` with
`observe1`, `checkDangling`, and `specEnd`: no crash, no handler of a destroyed socket, no future reported twice
or still pending, after every operation no future of a destroyed socket unreported, the history reaches its end)
accepts every trace of the model (`modelTrace`: `exec` for every operation that `legalOp` allows, a refusal -
as by the harness - for every other one, `run` over the harness' final destruction sequence `implicitEnd`; a
crash wherever the model reaches undefined behaviour), for every history of any length, legal or not, and every
answer `accept` of the kernel to writes towards a peer that has closed.  No hypothesis.  Consequences used in
the proof: the final destruction sequence is a legal continuation of every reachable state (`end_legal`) and
leaves no socket alive and no future pending; every logged future event is a resolution of a pending future of
a queued send (`LogInv`). -/
theorem spec_holds_on_model (accept : Nat → Bool) (history : List Op) :
    ∃ s, specRun {} (modelTrace accept {} history) = .ok s ∧ specEnd s = .ok () :=
  model_satisfies_spec accept history

/-! Non-vacuity -/

/-- ... and the same history is fine after the fix; the future is released when the socket dies -/
example :
    let s := run .fixed {} [.mkDriver 0, .mkSock 0 .tcp 0 false false false, .peerClose 0, .step 0, .step 0, .send 0,
      .destroySock 0]
    s.ub = none ∧ s.futs 0 = some (0, .broken) ∧ s.log.contains (.disc 0) := ⟨rfl, rfl, rfl⟩

/-- driver destroyed first, then a socket with a pending send, then a finished ToDo is shifted -/
example : legal [.mkDriver 0, .mkSock 0 .udp 0 false false false, .mkTodo 1 0 true, .step 0, .send 0,
    .destroyDriver 0, .shift 1, .cancel 1, .destroySock 0, .dropTodo 1, .destroyPool] = true := rfl

/-- the echo idiom: the received buffer (of the socket's own pool) is handed back to `Send`; with it queued the
user holds nothing, so destroying the socket is legal - the future is released as a broken promise.  (That the
real destructor can still give the queued buffer back to the receive pool is a matter of member destruction
order, below the model: see `Op.echo`; the harness runs such histories on the real code under ASan.) -/
example :
    let h : List Op := [.mkDriver 0, .mkSock 0 .tcp 0 false true false, .peerSend 0, .step 0, .echo 0, .destroySock 0]
    legal h = true ∧ (run .fixed {} h).ub = none ∧ (run .fixed {} h).futs 0 = some (0, .broken) := ⟨rfl, rfl, rfl⟩

/-- an echo does not take a buffer of the user's send pool: the pool may be destroyed while an echo is pending, and
the socket afterwards -/
example : legal [.mkDriver 0, .mkSock 0 .udp 0 false true false, .peerSend 0, .step 0, .echo 0, .destroyPool,
    .destroySock 0] = true := rfl

/-- without a held buffer there is nothing to echo -/
example : legal [.mkDriver 0, .mkSock 0 .tcp 0 false true false, .echo 0] = false := rfl

/-- an illegal history (socket destroyed while a receive buffer is held) does reach `ub` -/
example : (run .fixed {} [.mkDriver 0, .mkSock 0 .udp 0 false true false, .peerSend 0, .step 0, .destroySock 0]).ub
    = some "socket destroyed while receive buffers of its pool are still held" := rfl

end SockModel.Lifecycle
