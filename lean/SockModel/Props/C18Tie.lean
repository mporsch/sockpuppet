import SockModel.Model.TlsShutdown
import SockModel.Model.TlsRounds
import SockModel.Model.Deadline
import SockModel.Model.GenTlsWorld
import SockModel.Generated.Tls
import SockModel.Basic.TieTactic
/-!
# C18 - source-derived tie (Generated/Tls.lean): the TLS glue  (DESIGN.md §0.7.4, §0.7.6, §0.22)

`SockModel.Gen.Tls_*` are the member functions of `SocketTlsImpl` (src/socket_tls_impl.cpp) as regenerated on every
run from the clang AST.  They are run in the model's own world (`GenWorld.tlsWorld W E buf`, Model/GenTlsWorld.lean)
for an ARBITRARY OS `W : Net.World ω`, an ARBITRARY engine `E : Engine σ`, every state, and tied to the functions of
Model/Tls.lean.  Model exceptions travel as `toThrown e`; `assert`s are not generated (the ties are for
`Cfg.asserts = false`).  This file is audited together with Props/C18.lean (`vlib.prop_modules`).
-/
namespace SockModel.Props.C18Tie
open SockModel SockModel.Net SockModel.Tls SockModel.GenWorld

variable {σ ω : Type}

/-- a model outcome as an outcome of generated code -/
def resOfOut {α β : Type} (f : α → β) : Out α → Gen.Res β
  | .ok a => .ok (f a)
  | .exn e => .thrown (toThrown e)
  | .abort _ => .halted

/-- most ties below have the form `∃ ans rx, result = (model's outcome, ⟨model's state, ans, rx⟩)` (`ans` and `rx` of the
world are bookkeeping the model does not have); that is: the outcomes agree and the `.s` of the final world is the model's
final state.  The proofs work with the right side: no witnesses to carry, and a tie of a callee is two rewrite rules. -/
theorem exists_ans_rx_iff {α β : Type} (f : α → β) (g : Gen.Res β × TWSt σ ω) (m : Out α × St σ ω) :
    (∃ a r, g = (resOfOut f m.1, ⟨m.2, a, r⟩)) ↔ g.1 = resOfOut f m.1 ∧ g.2.s = m.2 := by
  constructor
  · rintro ⟨a, r, rfl⟩; exact ⟨rfl, rfl⟩
  · rcases g with ⟨o, s, a, r⟩; rintro ⟨rfl, rfl⟩; exact ⟨a, r, rfl⟩

theorem tdiv_ns (x : Int) : Int.tdiv (x * 1000000) 1000000 = x := by
  rw [Int.mul_tdiv_cancel x (by decide)]

/-- the generated `DeadlineLimited::Remaining` is the model's, whatever its spelling (shape-independent `tie_arith`) -/
theorem gen_remaining (now dl : Int) : Gen.DeadlineLimited_Remaining now dl = (Deadline.Deadline.limited now dl).remaining := by
  simp only [Gen.DeadlineLimited_Remaining, Deadline.Deadline.remaining, Deadline.toMs, Deadline.nsPerMs]
  tie_arith

/-- ... which, on clock readings that are whole milliseconds, is the model's `remainingMs` -/
theorem rem_ns (a d : Int) : Gen.DeadlineLimited_Remaining (a * 1000000) (d * 1000000) = remainingMs d a := by
  have h : d * 1000000 - a * 1000000 = (d - a) * 1000000 := by omega
  rw [gen_remaining]
  simp only [Deadline.Deadline.remaining, Deadline.toMs, Deadline.nsPerMs, remainingMs, h, tdiv_ns]

theorem deadline_ns (b t : Int) : Gen.DeadlineLimited_deadline (b * 1000000) t = (b + t) * 1000000 := by
  simp only [Gen.DeadlineLimited_deadline]
  tie_arith

theorem twst_eta (w : TWSt σ ω) (g : Glue) (h : g = w.s.g) (ww : ω) :
    ({ w with s := { w.s with g := g, w := ww } } : TWSt σ ω) = { w with s := { w.s with w := ww } } := by subst h; rfl

/-- `UnderDeadline(wait, remainingTime)` as generated = the model's `waitUnder` -/
theorem waitUnder_eq (W : Net.World ω) (s : St σ ω) (d : Dir) :
    waitUnder W s d = ((W.wait s.w d s.g.remainingTime).1,
      { s with w := (W.wait s.w d s.g.remainingTime).2,
               g := { s.g with remainingTime := underDeadline s.g.remainingTime (W.now s.w) (W.now (W.wait s.w d s.g.remainingTime).2) } }) := rfl

theorem tie_HandleError (W : Net.World ω) (E : Engine σ) (buf : Bytes) (fuel : Nat) (w : TWSt σ ω) (err : SslErr) :
    Gen.Tls_HandleError (tlsWorld W E buf) fuel (codeOf err) w
      = (resOfOut id (handleError W w.s err).1, { w with s := (handleError W w.s err).2 }) := by
  cases err
  case' wantRead | wantWrite => by_cases ht : w.s.g.remainingTime ≤ 0
  all_goals
    simp [Gen.Tls_HandleError, handleError, codeOf, Gen.M.bind, Gen.M.pure, Gen.M.throw, resOfOut, toThrown,
      Gen.Clocked_ctor_now, Gen.Clocked_Tick, waitUnder_eq, underDeadline, deadline_ns, rem_ns, setTimeout, *]

theorem tie_HandleLastError (W : Net.World ω) (E : Engine σ) (buf : Bytes) (fuel : Nat) (w : TWSt σ ω) :
    Gen.Tls_HandleLastError (tlsWorld W E buf) fuel w
      = (resOfOut id (handleLastError W w.s).1, { w with s := (handleLastError W w.s).2 }) := by
  simp only [Gen.Tls_HandleLastError, Gen.M.bind, tw_get_lastError, tie_HandleError, handleLastError]
  rcases handleError W w.s w.s.g.lastError with ⟨(_ | _) | e | m, s'⟩ <;>
    simp [resOfOut, Gen.M.pure, Gen.M.bind, errOf]

/-- `HandleResult(res)`, after an engine call whose answer `SSL_get_error` reports (`w.ans`) -/
theorem tie_HandleResult (W : Net.World ω) (E : Engine σ) (buf : Bytes) (fuel : Nat) (w : TWSt σ ω) (res : Int) :
    Gen.Tls_HandleResult (tlsWorld W E buf) fuel res w
      = (resOfOut id (handleResult W w.s w.ans).1, { w with s := (handleResult W w.s w.ans).2 }) := by
  simp only [Gen.Tls_HandleResult, Gen.M.bind, tw_sslGetError, tw_set_lastError, tw_pendingErrorSet, errOf_codeOf,
    handleResult]
  cases hp : w.s.g.pendingError with
  | none =>
    simp [setLastError, hp, tie_HandleLastError, Gen.M.bind, Gen.M.pure]
    rcases handleLastError W _ with ⟨_ | _ | _, s'⟩ <;> simp [resOfOut]
  | some x =>
    simp [setLastError, hp, Gen.M.bind, resOfOut, errOf]

/-- `BioRead(data, size)`: the generated code returns the count, the model the bytes (kept in `rx` by the world) -/
theorem tie_BioRead (W : Net.World ω) (E : Engine σ) (buf : Bytes) (fuel : Nat) (w : TWSt σ ω) (n : Nat) :
    Gen.Tls_BioRead (tlsWorld W E buf) fuel n w
      = (resOfOut (fun bs => (List.length bs : Int)) (bioRead W w.s n).1,
         { w with s := (bioRead W w.s n).2, rx := match (bioRead W w.s n).1 with | .ok bs => bs | _ => w.rx }) := by
  rcases w with ⟨⟨⟨le, ps, rt, ir, iw, dss, pe, wire, bw, ec⟩, e, ww⟩, ans, rx⟩
  cases ir
  case' false => by_cases ht : rt ≤ 0
  all_goals
    simp only [Gen.Tls_BioRead, bioRead, Gen.M.bind, tw_get_isReadable, tw_set_isReadable, tw_get_remainingTime,
      tw_sockReceive, tw_sockReceiveNow, tw_clockNow, Bool.false_eq_true, not_false_eq_true, not_true_eq_false, if_false,
      if_true, Int.toNat_natCast, underDeadline, Gen.Clocked_ctor_now, Gen.Clocked_Tick, Gen.M.pure, deadline_ns, *]
  case true => rcases recvNow W ww n with ⟨bs, w'⟩ | ⟨w'⟩ | ⟨e', w'⟩ <;> simp [resOfOut, Gen.M.pure]
  all_goals rcases receive W ww n rt with ⟨bs, w'⟩ | ⟨w'⟩ | ⟨e', w'⟩ <;> simp [resOfOut, Gen.M.pure, Gen.M.bind, rem_ns, setTimeout]

/-- `BioWrite(data, size)` on the `len` bytes at offset `off` of the caller's buffer -/
theorem tie_BioWrite (W : Net.World ω) (E : Engine σ) (buf : Bytes) (fuel : Nat) (w : TWSt σ ω) (off len : Nat)
    (h : off + len ≤ buf.length) :
    Gen.Tls_BioWrite (tlsWorld W E buf) fuel off len w
      = (resOfOut (fun (n : Nat) => (n : Int)) (bioWrite W w.s (slice buf off len)).1,
         { w with s := (bioWrite W w.s (slice buf off len)).2 }) := by
  have hl := slice_length buf off len h
  rcases w with ⟨⟨⟨le, ps, rt, ir, iw, dss, pe, wire, bw, ec⟩, e, ww⟩, ans, rx⟩
  cases iw
  case' false =>
    have hs : (rt < 0 ∧ ¬ rt = 0) ∨ rt = 0 ∨ (¬ rt < 0 ∧ ¬ rt = 0) := by omega
    rcases hs with ⟨h1, h2⟩ | rfl | ⟨h1, h2⟩
  all_goals
    simp only [Gen.Tls_BioWrite, bioWrite, Gen.M.bind, tw_get_isWritable, tw_set_isWritable, tw_get_remainingTime,
      tw_sockSendNow, tw_sockSendAll, tw_sockSendTry, tw_sockSendSome, tw_clockNow, Bool.false_eq_true, not_false_eq_true,
      not_true_eq_false, if_false, if_true, Int.lt_irrefl, noteWrite, noteSend, Gen.Clocked_ctor_now, Gen.M.pure,
      deadline_ns, ediv_ns, *]
  case true => rcases sendNow W ww (slice buf off len) with ⟨sent, _ | _, w'⟩ <;> simp [resOfOut]
  case false.inl => rcases sendAll W ww (slice buf off len) with ⟨sent, _ | _, w'⟩ <;> simp [resOfOut]
  case false.inr.inl => rcases sendTry W ww (slice buf off len) with ⟨sent, _ | _, w'⟩ <;> simp [resOfOut]
  case false.inr.inr =>
    rcases sendSome W ww (slice buf off len) (W.now ww + rt) (W.now ww) with ⟨⟨sent, _ | _, w'⟩, tick⟩ <;>
      simp [resOfOut, rem_ns, setTimeout]
    by_cases hs : sent = len <;> simp [hs] <;> omega

/-- `DriverQuery(events)`: its return value (`SSL_pending() > 0`: decrypted data is held already, e840f43) and the POLLOUT bit of `events` afterwards -/
theorem tie_DriverQuery (W : Net.World ω) (E : Engine σ) (buf : Bytes) (fuel : Nat) (w : TWSt σ ω) (po : Bool) :
    Gen.Tls_DriverQuery (tlsWorld W E buf) fuel po w
      = (.ok (driverReceived E w.s, (driverQuery E w.s po).1), { w with s := (driverQuery E w.s po).2 }) := by
  rcases w with ⟨⟨⟨le, ps, rt, ir, iw, dss, pe, wire, bw, ec⟩, e, ww⟩, ans, rx⟩
  cases hp : E.pending e <;> cases hi : E.initFinished e
  case' false.false | true.false =>
    by_cases hw : le = .wantWrite
    case' neg => by_cases hr : le = .wantRead
  case' false.true | true.true => cases dss
  all_goals
    simp [Gen.Tls_DriverQuery, driverQuery, driverReceived, Gen.M.bind, Gen.M.pure, codeOf_eq_wantWrite, codeOf_eq_wantRead,
      *]

/-- the configuration the generated code corresponds to: the current source, `assert`s compiled out -/
def CfgN : Cfg := { Cfg.current with asserts := false }

/-! ### the retry loop of `Read(data, size)`

The generated loop counts `i = 1 .. handshakeStepsMax` up, the model's `readLoop` counts the rounds left down.  What the
engine must promise for the two to agree: a successful `SSL_read(ssl, data, n)` delivers between 1 and `n` bytes (libssl's
contract; with 0 bytes the C++ would treat the call as failed, the model as a delivery of nothing).  A contract is a
predicate on the leaves of the engine's program (`AllLeaves`; `interp_ok` in Model/TlsLemmas.lean hands it to the answer).

Where the bounds come from: `static_cast<int>(size)` is `Int.bmod size 2^32`, the identity below 2^31; the count goes back
through `static_cast<size_t>(res)`, `% 2^64`, the identity because a delivery is at most `size` long. -/

/-- libssl's promise for `SSL_read` with a buffer of `size` bytes -/
def ReadContract (E : Engine σ) (size : Nat) : Prop :=
  ∀ e, AllLeaves (fun ans out _ => ∀ k, ans = .done k → out ≠ [] ∧ out.length ≤ size) (E.sslRead e size)

theorem stepsMaxN : CfgN.stepsMax = 10 := by decide
theorem assertsN : CfgN.asserts = false := rfl

/-- the loop of `Read`: `i` rounds left in the model = loop variable `stepsMax + 1 - i` in the C++ -/
theorem read_loop_tie (W : Net.World ω) (E : Engine σ) (buf : Bytes) (fuel size : Nat) (hs : size < 2147483648)
    (hE : ReadContract E size) :
    ∀ (i n : Nat) (iv : Int) (w : TWSt σ ω), iv = 11 - (i : Int) → i ≤ 10 → i < n →
      ∃ a r, Gen.Tls_Read_loop1 (tlsWorld W E buf) fuel size n iv w
        = (resOfOut (fun bs => (List.length bs : Int)) (readLoop CfgN W E size i w.s).1,
           ⟨(readLoop CfgN W E size i w.s).2, a, r⟩) := by
  have hbm : Int.bmod (size : Int) 4294967296 = size := by
    rw [Int.bmod_eq_of_le] <;> omega
  intro i
  induction i with
  | zero =>
    intro n iv w hiv _ hn
    obtain ⟨n', rfl⟩ := Nat.exists_eq_add_one_of_ne_zero (Nat.ne_zero_of_lt hn)
    subst hiv
    rw [exists_ans_rx_iff]
    simp (disch := omega) [Gen.Tls_Read_loop1, readLoop, resOfOut, Gen.M.pure]
  | succ i ih =>
    intro n iv w hiv hi hn
    obtain ⟨n', rfl⟩ := Nat.exists_eq_add_one_of_ne_zero (Nat.ne_zero_of_lt hn)
    have hle : iv ≤ 10 := by omega
    have ih' := fun w' => (exists_ans_rx_iff _ _ _).mp (ih n' (iv + 1) w' (by omega) (by omega) (by omega))
    clear ih hn hi hiv
    obtain ⟨ans, out, s1, hI, -, hQ⟩ := interp_ok (W := W) _ _ (hE w.s.e) w.s
    rw [exists_ans_rx_iff]
    simp only [Gen.Tls_Read_loop1, Gen.M.bind, hbm, tw_sslRead, Int.toNat_natCast, hle, if_true, hI]
    clear hbm hle
    cases hd : ans.isDone
    · rw [readLoop_retry hI hd assertsN]
      have hr := (readRes_not_done out hd).1
      simp (disch := omega) only [tie_HandleResult, Gen.M.bind, if_pos, if_neg]
      rcases handleResult W (noteCall E s1 true [] ans) ans with ⟨(_ | _) | x | m, s2⟩ <;>
        simp [afterRetry, resOfOut, Gen.M.pure, ih']
    · obtain ⟨k, rfl⟩ := SslAns.eq_done hd
      obtain ⟨hne, hlen⟩ := hQ k rfl
      have hpos := List.length_pos_iff.mpr hne
      simp only [readLoop, readRound, hI]
      have hr : readRes (.done k) out = out.length := rfl
      have h2 : (out.length : Int) % 18446744073709551616 = out.length := by omega
      simp (disch := omega) only [hr, if_neg, if_pos]
      simp [resOfOut, Gen.M.pure, h2]

/-- "`Gen.Tls_Read` corresponds to `tlsRead`" (count for bytes; the final world is the model's final state) -/
def ReadCorr (W : Net.World ω) (E : Engine σ) (buf : Bytes) (fuel size : Nat) : Prop :=
  ∀ w : TWSt σ ω, ∃ a r, Gen.Tls_Read (tlsWorld W E buf) fuel size w
    = (resOfOut (fun bs => (List.length bs : Int)) (tlsRead CfgN W E w.s size).1, ⟨(tlsRead CfgN W E w.s size).2, a, r⟩)

/-- `Read(data, size)`: `HandleLastError()`, then the retry loop -/
theorem tie_Read (W : Net.World ω) (E : Engine σ) (buf : Bytes) (fuel size : Nat) (hs : size < 2147483648)
    (hE : ReadContract E size) (hf : 10 < fuel) : ReadCorr W E buf fuel size := by
  intro w
  have hl := fun w' => (exists_ans_rx_iff _ _ _).mp
    (read_loop_tie W E buf fuel size hs hE 10 (Gen.loopFuel fuel) 1 w' rfl (Nat.le_refl _) hf)
  rw [exists_ans_rx_iff]
  simp only [Gen.Tls_Read, tlsRead, Gen.M.bind, tie_HandleLastError, stepsMaxN]
  rcases handleLastError W w.s with ⟨(_ | _) | x | m, s'⟩ <;> simp [resOfOut, Gen.M.pure, hl]

/-! ### the retry loop of `Write(data, size)`

A successful partial write starts the round count again (`i = 0`), so the loop is not bounded by the rounds alone: the
induction is on the fuel `n`, and `(buf.length - off) * 11 + i` is what a round makes smaller - either a byte is written (one
byte pays for the 10 rounds it gives back, and one more) or a round is used up.  `buf.length < 2^63` keeps the returned
`size - remaining.size()`, computed in `Int` and taken `% 2^64` by the `size_t` result, the plain difference. -/

/-- libssl's promise for `SSL_write_ex`: success means at least one and at most all of the bytes were taken -/
def WriteContract (E : Engine σ) : Prop :=
  ∀ e bs, AllLeaves (fun ans _ _ => ∀ k, ans = .done k → 0 < k ∧ k ≤ bs.length) (E.sslWrite e bs)

theorem fixRoundN : CfgN.fixRoundReset = true := rfl

/-- the loop of `Write` on the caller's buffer from offset `off`: `i` rounds left in the model = loop variable `11 - i` -/
theorem write_loop_tie (W : Net.World ω) (E : Engine σ) (buf : Bytes) (fuel : Nat) (hb : buf.length < 9223372036854775808)
    (hE : WriteContract E) :
    ∀ (n i off : Nat) (iv : Int) (w : TWSt σ ω), iv = 11 - (i : Int) → i ≤ 10 → off ≤ buf.length →
      (buf.length - off) * 11 + i < n →
      ∃ a r, Gen.Tls_Write_loop1 (tlsWorld W E buf) fuel 0 buf.length n off iv w
        = (resOfOut (fun (rest : Bytes) => ((buf.length - rest.length : Nat) : Int)) (writeLoop CfgN W E i (buf.drop off) w.s).1,
           ⟨(writeLoop CfgN W E i (buf.drop off) w.s).2, a, r⟩) := by
  intro n
  induction n with
  | zero => intro i off iv w _ _ _ hm; omega
  | succ n ih =>
    intro i off iv w hiv hi hoff hm
    rw [exists_ans_rx_iff]
    cases i with
    | zero =>
      have h1 : ¬ (iv ≤ 10) := by omega
      clear hm
      rw [writeLoop]
      simp (disch := omega) [Gen.Tls_Write_loop1, h1, Gen.M.pure, resOfOut, Nat.sub_sub_self hoff]
      omega
    | succ i' =>
      have hle : iv ≤ 10 := by omega
      rcases Nat.lt_or_eq_of_le hoff with hlt | hfull
      · -- the loop goes on with the same bytes and one round less, or with fewer bytes and all the rounds
        have ih_retry := fun w' => (exists_ans_rx_iff _ _ _).mp (ih i' off (iv + 1) w' (by omega) (by omega) hoff (by omega))
        have ih_adv := fun (k : Nat) w' (h0 : 0 < k) (h1 : off + k ≤ buf.length) =>
          (exists_ans_rx_iff _ _ _).mp (ih 10 (off + k) 1 w' (by omega) (by omega) h1 (by omega))
        clear ih hm
        have hne : buf.drop off ≠ [] := List.ne_nil_of_length_pos (by rw [List.length_drop]; omega)
        have h0 : ¬ (((0 + (buf.length : Int)) - (off : Int)) = 0) := by omega
        obtain ⟨ans, out, s1, hI, -, hQ⟩ := interp_ok (W := W) _ _ (hE w.s.e (buf.drop off)) w.s
        simp only [Gen.Tls_Write_loop1, Gen.M.bind, tw_sslWriteEx, slice_drop, hle, h0, not_false_eq_true, and_self, if_true,
          hI]
        clear h0 hle
        cases hd : ans.isDone
        · rw [writeLoop_retry hne hI hd assertsN]
          have hr := sslWriteEx_res_nonpos hd
          simp (disch := omega) only [tw_set_pendingSend, tie_HandleResult, Gen.M.bind, slice_drop, if_pos, if_neg]
          rcases handleResult W (setPending (noteCall E s1 false (buf.drop off) ans) (buf.drop off)) ans with
            ⟨(_ | _) | x | m, s3⟩ <;> simp [afterRetry, resOfOut, Gen.M.pure, Nat.sub_sub_self hoff, ih_retry]
          omega
        · obtain ⟨k, rfl⟩ := SslAns.eq_done hd
          obtain ⟨hk0, hk1⟩ := hQ k rfl
          rw [List.length_drop] at hk1
          rw [writeLoop_done hne hI hk0 assertsN fixRoundN, stepsMaxN, List.drop_drop]
          have h := ih_adv k ⟨setPending (noteCall E s1 false (buf.drop off) (.done k)) [], .done k, w.rx⟩ hk0 (by omega)
          have hs0 : slice buf 0 0 = [] := rfl
          rw [Int.natCast_add] at h
          simp (disch := omega) only [tw_set_pendingSend, Gen.M.bind, hs0, if_pos, if_neg]
          simpa using h
      · clear ih hm
        rw [writeLoop]
        simp [Gen.Tls_Write_loop1, Gen.M.pure, resOfOut, hfull]
        omega

/-- "`Gen.Tls_Write` on the whole buffer corresponds to `tlsWrite`" -/
def WriteCorr (W : Net.World ω) (E : Engine σ) (buf : Bytes) (fuel : Nat) : Prop :=
  ∀ w : TWSt σ ω, ∃ a r, Gen.Tls_Write (tlsWorld W E buf) fuel 0 buf.length w
    = (resOfOut (fun (n : Nat) => (n : Int)) (tlsWrite CfgN W E w.s buf).1, ⟨(tlsWrite CfgN W E w.s buf).2, a, r⟩)

/-- `Write(data, size)` on the whole buffer: `HandleLastError()`, then the retry loop -/
theorem tie_Write (W : Net.World ω) (E : Engine σ) (buf : Bytes) (fuel : Nat) (hb : buf.length < 9223372036854775808)
    (hE : WriteContract E) (hf : buf.length * 11 + 10 < fuel) : WriteCorr W E buf fuel := by
  intro w
  have hl := fun w' => (exists_ans_rx_iff _ _ _).mp
    (write_loop_tie W E buf fuel hb hE (Gen.loopFuel fuel) 10 0 1 w' rfl (Nat.le_refl _) (Nat.zero_le _) hf)
  simp only [List.drop_zero, Int.natCast_zero] at hl
  rw [exists_ans_rx_iff]
  simp only [Gen.Tls_Write, tlsWrite, Gen.M.bind, tie_HandleLastError, stepsMaxN]
  rcases handleLastError W w.s with ⟨(_ | _) | x | m, s'⟩ <;> simp [resOfOut, Gen.M.pure, hl]
  rcases writeLoop CfgN W E 10 buf s' with ⟨_ | _ | _, s2⟩ <;> simp

/-! ### the entry points, relative to the retry loops

The entry points are first tied under the hypothesis that the retry loop they call corresponds to the model's (`ReadCorr` /
`WriteCorr`, lemmas `*_rel`); both are theorems (`tie_Read`, `tie_Write`, given libssl's contracts), so the entry points are
tied unconditionally at the end of this file. -/

/-- `Receive(data, size, timeout)`: `nullopt` for no bytes, and (319faf2) a stale WANT_READ is reset once the
handshake is finished -/
theorem receiveT_rel (W : Net.World ω) (E : Engine σ) (buf : Bytes) (fuel size : Nat) (hR : ReadCorr W E buf fuel size)
    (t : Int) (w : TWSt σ ω) :
    ∃ a r, Gen.Tls_ReceiveT (tlsWorld W E buf) fuel size t w
      = (resOfOut (fun bs => if bs = [] then none else some (List.length bs : Int)) (receiveT CfgN W E w.s size t).1,
         ⟨(receiveT CfgN W E w.s size t).2, a, r⟩) := by
  obtain ⟨a, r, h⟩ := hR ⟨setTimeout w.s t, w.ans, w.rx⟩
  refine ⟨a, r, ?_⟩
  simp only [Gen.Tls_ReceiveT, receiveT, Gen.M.bind, tw_set_remainingTime, h]
  rcases tlsRead CfgN W E (setTimeout w.s t) size with ⟨(_ | ⟨b, bs'⟩) | x | m, s'⟩
  · by_cases hl : s'.g.lastError = .wantRead <;> cases hi : E.initFinished s'.e <;>
      simp [resOfOut, Gen.M.pure, Gen.M.bind, CfgN, Cfg.current, codeOf_eq_wantRead, hl, hi, setLastError, errOf]
  · have hne : ¬ ((bs'.length : Int) + 1 = 0) := by omega
    simp [resOfOut, Gen.M.pure, hne]
  all_goals simp [resOfOut]

/-- `Send(data, size, timeout)`: (ee81033) a stale WANT_WRITE is reset once the handshake is finished -/
theorem sendT_rel (W : Net.World ω) (E : Engine σ) (buf : Bytes) (fuel : Nat) (hW : WriteCorr W E buf fuel)
    (t : Int) (w : TWSt σ ω) :
    ∃ a r, Gen.Tls_SendT (tlsWorld W E buf) fuel 0 buf.length t w
      = (resOfOut (fun (n : Nat) => (n : Int)) (sendT CfgN W E w.s buf t).1, ⟨(sendT CfgN W E w.s buf t).2, a, r⟩) := by
  obtain ⟨a, r, h⟩ := hW ⟨setTimeout w.s t, w.ans, w.rx⟩
  refine ⟨a, r, ?_⟩
  simp only [Gen.Tls_SendT, sendT, Gen.M.bind, tw_set_remainingTime, h]
  rcases tlsWrite CfgN W E (setTimeout w.s t) buf with ⟨n | x | m, s'⟩
  · by_cases hl : s'.g.lastError = .wantWrite <;> cases hi : E.initFinished s'.e <;>
      simp [resOfOut, Gen.M.pure, Gen.M.bind, CfgN, Cfg.current, codeOf_eq_wantWrite, hl, hi, setLastError, errOf]
  all_goals simp [resOfOut]

/-! ### the driver-mode entry points ("we have been deemed readable / writable"), relative to the retry loops -/

/-- `prepReadable` by fields: `remainingTime = zeroTimeout; isReadable = true; if(lastError == WANT_READ) lastError = NONE` -/
theorem prepReadable_eq (g : Glue) (e : σ) (ww : ω) :
    (prepReadable ⟨g, e, ww⟩ : St σ ω) =
      ⟨{ g with remainingTime := 0, isReadable := true, lastError := if g.lastError = .wantRead then .none else g.lastError }, e, ww⟩ := rfl

theorem prepWritable_eq (g : Glue) (e : σ) (ww : ω) :
    (prepWritable ⟨g, e, ww⟩ : St σ ω) =
      ⟨{ g with remainingTime := 0, isWritable := true, lastError := if g.lastError = .wantWrite then .none else g.lastError }, e, ww⟩ := rfl

/-- `Receive(data, size)` (driver: readable): zero budget, `isReadable`, a cached WANT_READ forgotten; afterwards a
stale error is reset when nothing was read and the handshake is finished -/
theorem receiveReadable_rel (W : Net.World ω) (E : Engine σ) (buf : Bytes) (fuel size : Nat) (hR : ReadCorr W E buf fuel size)
    (w : TWSt σ ω) :
    ∃ a r, Gen.Tls_ReceiveReadable (tlsWorld W E buf) fuel size w
      = (resOfOut (fun bs => (List.length bs : Int)) (receiveReadable CfgN W E w.s size).1,
         ⟨(receiveReadable CfgN W E w.s size).2, a, r⟩) := by
  obtain ⟨a, r, h⟩ := hR ⟨prepReadable w.s, w.ans, w.rx⟩
  refine ⟨a, r, ?_⟩
  by_cases hle : w.s.g.lastError = .wantRead <;>
    simp only [Gen.Tls_ReceiveReadable, receiveReadable, Gen.M.bind, tw_set_remainingTime, tw_set_isReadable,
      tw_get_lastError, tw_set_lastError, codeOf_eq_wantRead, hle, setTimeout, setLastError, errOf, prepReadable,
      if_true, if_false, ne_eq, not_true_eq_false, not_false_eq_true] at h ⊢ <;>
    (generalize tlsRead CfgN W E _ size = rd at h ⊢
     rcases rd with ⟨(_ | ⟨b, bs'⟩) | x | m, s'⟩
     · cases hi : E.initFinished s'.e <;> simp [h, resOfOut, Gen.M.pure, Gen.M.bind, hi, setLastError, errOf]
     · have hne : ¬ ((bs'.length : Int) + 1 = 0) := by omega
       simp [h, resOfOut, Gen.M.pure, Gen.M.bind, hne]
     all_goals simp [h, resOfOut])

/-- `SendSome(data, size)` (driver: writable): zero budget, `isWritable`, a cached WANT_WRITE forgotten -/
theorem sendSomeWritable_rel (W : Net.World ω) (E : Engine σ) (buf : Bytes) (fuel : Nat) (hW : WriteCorr W E buf fuel)
    (w : TWSt σ ω) :
    ∃ a r, Gen.Tls_SendSomeWritable (tlsWorld W E buf) fuel 0 buf.length w
      = (resOfOut (fun (n : Nat) => (n : Int)) (sendSomeWritable CfgN W E w.s buf).1,
         ⟨(sendSomeWritable CfgN W E w.s buf).2, a, r⟩) := by
  obtain ⟨a, r, h⟩ := hW ⟨prepWritable w.s, w.ans, w.rx⟩
  refine ⟨a, r, ?_⟩
  by_cases hle : w.s.g.lastError = .wantWrite <;>
    simp only [Gen.Tls_SendSomeWritable, sendSomeWritable, Gen.M.bind, tw_set_remainingTime, tw_set_isWritable,
      tw_get_lastError, tw_set_lastError, codeOf_eq_wantWrite, hle, setTimeout, setLastError, errOf, prepWritable,
      if_true, if_false, ne_eq, not_true_eq_false, not_false_eq_true] at h ⊢ <;>
    (generalize tlsWrite CfgN W E _ buf = rd at h ⊢
     rcases rd with ⟨n | x | m, s'⟩ <;> simp [h, resOfOut, Gen.M.pure, Gen.M.bind])

/-- `DriverPending()`: nothing when the handshake is finished; otherwise "deemed writable" and one `Read` into a local
buffer of 64 bytes, which must not deliver application data -/
theorem driverPending_rel (W : Net.World ω) (E : Engine σ) (buf : Bytes) (fuel : Nat) (hR : ReadCorr W E buf fuel 64)
    (w : TWSt σ ω) :
    ∃ a r, Gen.Tls_DriverPending (tlsWorld W E buf) fuel w
      = (resOfOut id (driverPending CfgN W E w.s).1,
         if E.initFinished w.s.e then w else ⟨(driverPending CfgN W E w.s).2, a, r⟩) := by
  obtain ⟨a, r, h⟩ := hR ⟨prepWritable w.s, w.ans, w.rx⟩
  refine ⟨a, r, ?_⟩
  have h64 : ((64 : Nat) : Int) = 64 := rfl
  cases hf : E.initFinished w.s.e
  · by_cases hle : w.s.g.lastError = .wantWrite <;>
      simp only [Gen.Tls_DriverPending, driverPending, Gen.M.bind, tw_sslIsInitFinished, tw_set_remainingTime, tw_set_isWritable,
        tw_get_lastError, tw_set_lastError, codeOf_eq_wantWrite, hle, setTimeout, setLastError, errOf, prepWritable, hf,
        Bool.false_eq_true, if_false, if_true, ne_eq, not_true_eq_false, not_false_eq_true, eq_self, reduceCtorEq,
        h64] at h ⊢ <;>
      (generalize tlsRead CfgN W E _ 64 = rd at h ⊢
       rcases rd with ⟨(_ | ⟨b, bs'⟩) | x | m, s'⟩
       · simp [h, resOfOut, Gen.M.pure, Gen.M.bind]
       · have hne : ¬ ((bs'.length : Int) + 1 = 0) := by omega
         simp [h, resOfOut, Gen.M.pure, Gen.M.bind, Gen.M.throw, hne, toThrown]
       all_goals simp [h, resOfOut])
  · simp [Gen.Tls_DriverPending, driverPending, Gen.M.bind, Gen.M.pure, hf, resOfOut]

/-! ### the receiving entry points, unconditionally -/

theorem tie_ReceiveT (W : Net.World ω) (E : Engine σ) (buf : Bytes) (fuel size : Nat) (hs : size < 2147483648)
    (hE : ReadContract E size) (hf : 10 < fuel) (t : Int) (w : TWSt σ ω) :
    ∃ a r, Gen.Tls_ReceiveT (tlsWorld W E buf) fuel size t w
      = (resOfOut (fun bs => if bs = [] then none else some (List.length bs : Int)) (receiveT CfgN W E w.s size t).1,
         ⟨(receiveT CfgN W E w.s size t).2, a, r⟩) :=
  receiveT_rel W E buf fuel size (tie_Read W E buf fuel size hs hE hf) t w

theorem tie_ReceiveReadable (W : Net.World ω) (E : Engine σ) (buf : Bytes) (fuel size : Nat) (hs : size < 2147483648)
    (hE : ReadContract E size) (hf : 10 < fuel) (w : TWSt σ ω) :
    ∃ a r, Gen.Tls_ReceiveReadable (tlsWorld W E buf) fuel size w
      = (resOfOut (fun bs => (List.length bs : Int)) (receiveReadable CfgN W E w.s size).1,
         ⟨(receiveReadable CfgN W E w.s size).2, a, r⟩) :=
  receiveReadable_rel W E buf fuel size (tie_Read W E buf fuel size hs hE hf) w

theorem tie_DriverPending (W : Net.World ω) (E : Engine σ) (buf : Bytes) (fuel : Nat) (hE : ReadContract E 64)
    (hf : 10 < fuel) (w : TWSt σ ω) :
    ∃ a r, Gen.Tls_DriverPending (tlsWorld W E buf) fuel w
      = (resOfOut id (driverPending CfgN W E w.s).1,
         if E.initFinished w.s.e then w else ⟨(driverPending CfgN W E w.s).2, a, r⟩) :=
  driverPending_rel W E buf fuel (tie_Read W E buf fuel 64 (by decide) hE hf) w

/-! ### the sending entry points, unconditionally -/

theorem tie_SendT (W : Net.World ω) (E : Engine σ) (buf : Bytes) (fuel : Nat) (hb : buf.length < 9223372036854775808)
    (hE : WriteContract E) (hf : buf.length * 11 + 10 < fuel) (t : Int) (w : TWSt σ ω) :
    ∃ a r, Gen.Tls_SendT (tlsWorld W E buf) fuel 0 buf.length t w
      = (resOfOut (fun (n : Nat) => (n : Int)) (sendT CfgN W E w.s buf t).1, ⟨(sendT CfgN W E w.s buf t).2, a, r⟩) :=
  sendT_rel W E buf fuel (tie_Write W E buf fuel hb hE hf) t w

theorem tie_SendSomeWritable (W : Net.World ω) (E : Engine σ) (buf : Bytes) (fuel : Nat) (hb : buf.length < 9223372036854775808)
    (hE : WriteContract E) (hf : buf.length * 11 + 10 < fuel) (w : TWSt σ ω) :
    ∃ a r, Gen.Tls_SendSomeWritable (tlsWorld W E buf) fuel 0 buf.length w
      = (resOfOut (fun (n : Nat) => (n : Int)) (sendSomeWritable CfgN W E w.s buf).1,
         ⟨(sendSomeWritable CfgN W E w.s buf).2, a, r⟩) :=
  sendSomeWritable_rel W E buf fuel (tie_Write W E buf fuel hb hE hf) w

/-! ### `Shutdown()` (DESIGN.md §0.22)

The generated drain loop counts `i = 0 .. handshakeStepsMax - 1` up, the model's `drainLoop` counts the rounds left down; the
second `SSL_shutdown` is the continuation of every exit of the loop.  Needed from libssl: `ReadContract` for the 1024-byte
drain buffer (a successful `SSL_read` delivers at least one byte). -/

/-- the model's outcome of a step that yields no value -/
def resU (o : Out Unit) : Gen.Res Unit := resOfOut id o

/-- the second `SSL_shutdown` (its result is ignored) -/
theorem shut_finish_tie (W : Net.World ω) (E : Engine σ) (buf : Bytes) (w : TWSt σ ω) :
    Gen.M.bind (tlsWorld W E buf).sslShutdown (fun _ => Gen.M.pure ()) w
      = (resU (shutFinish W E w.s).1, ⟨(shutFinish W E w.s).2, w.ans, w.rx⟩) := by
  simp only [Gen.M.bind, tw_sslShutdown, shutFinish, shutCall]
  rcases interp W w.s (E.sslShutdown w.s.e) with ⟨o, s1⟩
  rcases o with ⟨ans, out⟩ | x | m <;> simp [resU, resOfOut, Gen.M.pure]

/-- the drain loop of `Shutdown`: `i` rounds left in the model = loop variable `10 - i` in the C++ -/
theorem drain_loop_tie (W : Net.World ω) (E : Engine σ) (buf : Bytes) (fuel : Nat) (hE : ReadContract E shutdownBuf) :
    ∀ (i n : Nat) (iv : Int) (w : TWSt σ ω), iv = 10 - (i : Int) → i ≤ 10 → i < n →
      ∃ a r, Gen.Tls_Shutdown_loop1 (tlsWorld W E buf) fuel n iv w
        = (resU (drainLoop W E i w.s).1, ⟨(drainLoop W E i w.s).2, a, r⟩) := by
  have hbm : Int.bmod (1024 : Int) 4294967296 = ((1024 : Nat) : Int) := by decide
  intro i
  induction i with
  | zero =>
    intro n iv w hiv _ hn
    obtain ⟨n', rfl⟩ := Nat.exists_eq_add_one_of_ne_zero (Nat.ne_zero_of_lt hn)
    refine ⟨w.ans, w.rx, ?_⟩
    subst hiv
    have h10 : ¬ ((10 : Int) - ((0 : Nat) : Int) < 10) := by omega
    simp only [Gen.Tls_Shutdown_loop1, drainLoop, h10, if_false]
    exact shut_finish_tie W E buf w
  | succ i ih =>
    intro n iv w hiv hi hn
    obtain ⟨n', rfl⟩ := Nat.exists_eq_add_one_of_ne_zero (Nat.ne_zero_of_lt hn)
    have hlt : iv < 10 := by omega
    have ih' := fun w' => (exists_ans_rx_iff _ _ _).mp (ih n' (iv + 1) w' (by omega) (by omega) (by omega))
    clear ih hn hi hiv
    obtain ⟨ans, out, s1, hI, -, hQ⟩ := interp_ok (W := W) _ _ (hE w.s.e) w.s
    simp only [shutdownBuf] at hI
    simp only [resU, exists_ans_rx_iff, Gen.Tls_Shutdown_loop1, Gen.M.bind, hbm, tw_sslRead, Int.toNat_natCast, hlt, if_true, hI]
    clear hlt hbm
    cases hd : ans.isDone
    · by_cases hz : ans = .zeroReturn
      · subst hz
        simp only [drainLoop, shutdownBuf, hI]
        have hr : readRes .zeroReturn out = 0 := rfl
        simp (disch := omega) only [hr, if_pos, if_neg]
        simp [↓ shut_finish_tie, resU]
      · rw [drainLoop_retry hI hd hz]
        have hr := (readRes_not_done out hd).2 hz
        simp (disch := omega) only [tie_HandleResult, Gen.M.bind, if_pos, if_neg]
        rcases handleResult W (noteCall E s1 true [] ans) ans with ⟨(_ | _) | x | m, s2⟩ <;>
          simp [↓ shut_finish_tie, afterRetry, resU, resOfOut, ih']
    · obtain ⟨k, rfl⟩ := SslAns.eq_done hd
      have hpos := List.length_pos_iff.mpr (hQ k rfl).1
      simp only [drainLoop, shutdownBuf, hI]
      have hr : readRes (.done k) out = out.length := rfl
      simp (disch := omega) only [hr, if_pos, if_neg]
      exact ih' ⟨noteCall E s1 true [] (.done k), .done k, out⟩

/-- `Shutdown()`: readiness flags cleared, one second of budget, `SSL_shutdown`, and unless both alerts are exchanged
already the drain loop followed by the second `SSL_shutdown` -/
theorem tie_Shutdown (W : Net.World ω) (E : Engine σ) (buf : Bytes) (fuel : Nat) (hE : ReadContract E shutdownBuf)
    (hf : 10 < fuel) (w : TWSt σ ω) :
    ∃ a r, Gen.Tls_Shutdown (tlsWorld W E buf) fuel w
      = (resU (tlsShutdown CfgN W E w.s).1, ⟨(tlsShutdown CfgN W E w.s).2, a, r⟩) := by
  have hl := fun w' => (exists_ans_rx_iff _ _ _).mp
    (drain_loop_tie W E buf fuel hE 10 (Gen.loopFuel fuel) 0 w' rfl (Nat.le_refl _) hf)
  simp only [resU, exists_ans_rx_iff, Gen.Tls_Shutdown, tlsShutdown, shutCall, shutdownPrep, setTimeout, Gen.M.bind, tw_set_isReadable,
    tw_set_isWritable, tw_set_remainingTime, tw_sslShutdown, stepsMaxN, Int.reduceMul]
  generalize interp W _ (E.sslShutdown _) = r
  rcases r with ⟨⟨ans, out⟩ | x | m, s1⟩
  · cases hsd : ans.shutDone
    · have hr : ¬ 0 < shutRes ans := by rw [shutRes_pos_iff, hsd]; decide
      simp (disch := omega) [hsd, hl, if_pos, if_neg]
    · have hr : 0 < shutRes ans := (shutRes_pos_iff ans).mpr hsd
      simp (disch := omega) [hsd, resOfOut, Gen.M.pure, if_pos, if_neg]
  all_goals simp [resOfOut]

/-- **The drain, stated about the translated code itself.**  `Gen.Tls_Shutdown` - the member function as regenerated from
the AST of the current tree - run in the model's world for ANY OS and ANY engine that honours `ReadContract`: if its first
`SSL_shutdown` neither fails with an exception nor reports both alerts exchanged, and the call ends normally, then the
engine-call log has grown by `reads` entries, all `SSL_read`s, `1 ≤ reads ≤ 10`, and fewer than 10 only if the newest
delivered nothing.  (`tie_Shutdown` composed with `drainLoop_drains`; the model-level statement with `handshakeStepsMax`
left symbolic is `shutdown_reads_before_close` in Props/C18.lean.) -/
theorem gen_shutdown_reads (W : Net.World ω) (E : Engine σ) (buf : Bytes) (fuel : Nat) (hE : ReadContract E shutdownBuf)
    (hf : 10 < fuel) (w : TWSt σ ω) (ans : SslAns) (s1 : St σ ω)
    (h1 : shutCall W E (shutdownPrep w.s) = (.ok ans, s1)) (hd : ans.shutDone = false)
    (hok : (Gen.Tls_Shutdown (tlsWorld W E buf) fuel w).1 = .ok ()) :
    ∃ reads : List EngCall, (Gen.Tls_Shutdown (tlsWorld W E buf) fuel w).2.s.g.engCalls = reads ++ w.s.g.engCalls ∧
      reads ≠ [] ∧ reads.length ≤ 10 ∧ (∀ c ∈ reads, c.isRead = true ∧ c.arg = []) ∧
      (reads.length < 10 → ∃ c rest, reads = c :: rest ∧ c.ans.isDone = false) := by
  obtain ⟨a, r, h⟩ := tie_Shutdown W E buf fuel hE hf w
  rw [h] at hok ⊢
  have hk : s1.g.engCalls = w.s.g.engCalls := by
    have := shutCall_keeps (W := W) E (shutdownPrep w.s)
    rwa [h1] at this
  have hm : (tlsShutdown CfgN W E w.s).1 = .ok () := by
    cases ho : (tlsShutdown CfgN W E w.s).1 <;> simp [resU, resOfOut, ho] at hok ⊢
  simp only [tlsShutdown, h1, hd, stepsMaxN] at hm ⊢
  obtain ⟨reads, e1, e2, e3, e4, e5⟩ := drainLoop_drains (W := W) E 10 s1 hm
  exact ⟨reads, by rw [← hk]; simpa using e1, e4 (by decide), e2, e3, e5⟩

end SockModel.Props.C18Tie
